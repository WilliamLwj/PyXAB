/-
  Property C07 (sweep part) — the recommendation `get_last_point` of SOO, DOO and StoSOO.

  SOO / DOO: in every state reached by complete rounds (at least one), if every received reward
  is above `negInf` (and, for DOO, the initial stored reward `cfg.reward0` is `cfg.negInf`), then
  `get_last_point` returns an EVALUATED cell whose received reward is maximal among all received
  rewards — whatever the sign of the rewards.  The hypothesis on `reward0` (the value `-np.inf` of
  `DOO_node.reward` in DOO.py) is needed: with `reward0 = 0` and negative rewards DOO recommends a
  cell which was never evaluated (`Ex07.DOO_lastPoint_counterexample`).

  StoSOO: `get_last_point` returns the LAST cell of the deepest layer with maximal stored mean.
-/
import PyXABProofs.Props.C08

set_option linter.unusedSectionVars false

namespace PyXAB
open Tree TBA SW

namespace SOO
variable {α S : Type} [Add α] [Sub α] [Mul α] [Div α] [OfNat α 2] [NatCast α]
variable [LinearOrder S] [Inhabited S]

/-- **C07 for SOO**: after `init` and `T ≥ 1` complete rounds with rewards `> negInf`,
`get_last_point` returns a cell `v` which was handed out and whose received reward `rv` is the
maximum of all received rewards; equivalently, no evaluated cell stores a larger reward. -/
theorem lastPoint_best (negInf : S) (hbot : ∀ x, negInf ≤ x) (k : Kind) (domain : Box α)
    (hmax : Nat) (inputs : List (Input α S)) {s : SOO α S} {H : List (Nat × S)}
    (hds : ∀ x ∈ inputs, ∀ d ∈ x.2.1, DrawOKLen k domain.length d)
    (hrun : run negInf k domain hmax inputs = .ok (s, H)) (hne : inputs ≠ [])
    (hpos : ∀ x ∈ inputs, negInf < x.2.2) :
    ∃ v rv nd, lastPoint negInf s = .ok v ∧ (v, rv) ∈ H ∧ s.P.nodes[v]? = some nd ∧
      nd.st.visited = true ∧ nd.st.reward = rv ∧ (∀ e ∈ H, e.2 ≤ rv) ∧
      (∀ (w : Nat) (nw : Node α (SwSt S)), s.P.nodes[w]? = some nw → nw.st.visited = true →
        nw.st.reward ≤ rv) ∧
      IsLastMax (nodeScore s.P (·.reward)) s.P.layers.flatten v rv := by
  obtain ⟨hI0, hk, hd, _, _, hH0⟩ := init_inv negInf k domain hmax
  obtain ⟨a1, a2, a3⟩ := runRounds_hist negInf hbot inputs _ [] s H hI0
    (by rw [hk, hd]; exact hds) hH0 hrun
  simp only [List.nil_append] at a1
  obtain ⟨b1, b2⟩ := hist_pos a3 hne hpos
  obtain ⟨v, rv, nd, h1, h2⟩ := argmaxListed_spec hbot a2.pinv a1 b1 b2
  exact ⟨v, rv, nd, by rw [lastPoint, h1], h2⟩

end SOO

namespace DOO
variable {α S : Type} [Add α] [Sub α] [Mul α] [Div α] [OfNat α 2] [NatCast α]
variable [LinearOrder S] [Inhabited S]

/-- **C07 for DOO**, under the initialisation `reward0 = negInf` (`-np.inf` in DOO.py). -/
theorem lastPoint_best (cfg : DOOCfg α S) (hbot : ∀ x, cfg.negInf ≤ x)
    (h0 : cfg.reward0 = cfg.negInf) (k : Kind) (domain : Box α)
    (inputs : List (Input α S)) {s : DOO α S} {H : List (Nat × S)}
    (hds : ∀ x ∈ inputs, ∀ d ∈ x.2.1, DrawOKLen k domain.length d)
    (hrun : run cfg k domain inputs = .ok (s, H)) (hne : inputs ≠ [])
    (hpos : ∀ x ∈ inputs, cfg.negInf < x.2.2) :
    ∃ v rv nd, lastPoint cfg s = .ok v ∧ (v, rv) ∈ H ∧ s.P.nodes[v]? = some nd ∧
      nd.st.visited = true ∧ nd.st.reward = rv ∧ (∀ e ∈ H, e.2 ≤ rv) ∧
      (∀ (w : Nat) (nw : Node α (SwSt S)), s.P.nodes[w]? = some nw → nw.st.visited = true →
        nw.st.reward ≤ rv) ∧
      IsLastMax (nodeScore s.P (·.reward)) s.P.layers.flatten v rv := by
  obtain ⟨hI0, hk, hd, _, hH0⟩ := init_inv cfg k domain
  obtain ⟨a1, a2, a3⟩ := runRounds_hist cfg hbot inputs _ [] s H hI0
    (by rw [hk, hd]; exact hds) hH0 hrun
  simp only [List.nil_append] at a1
  obtain ⟨b1, b2⟩ := hist_pos a3 hne hpos
  obtain ⟨v, rv, nd, h1, h2⟩ := argmaxListed_spec hbot (h0 ▸ a2.pinv) a1 b1 b2
  exact ⟨v, rv, nd, by rw [lastPoint, h1], h2⟩

end DOO

namespace StoSOO
variable {α R S : Type} [Add α] [Sub α] [Mul α] [Div α] [OfNat α 2] [NatCast α]
variable [LinearOrder S] [Inhabited S] [Inhabited R]

/-- **C07 for StoSOO**: `get_last_point` returns a cell of the deepest layer, the LAST one whose
stored mean is maximal in that layer. -/
theorem lastPoint_deepest (cfg : StoCfg S R) (hbot : ∀ x, cfg.negInf ≤ x) {s : StoSOO α R S}
    (hI : Inv cfg s) :
    ∃ v l nd, lastPoint cfg s = .ok v ∧ s.P.layers[s.P.depth]? = some l ∧
      s.P.nodes[v]? = some nd ∧ nd.depth = s.P.depth ∧ nd.children = none ∧
      IsLastMax (nodeScore s.P (·.mean)) l v nd.st.mean := by
  obtain ⟨l, hl⟩ := hI.wf.layer_exists (Nat.le_refl s.P.depth)
  unfold lastPoint
  rw [hl]
  dsimp only
  rw [foldl_eq_amFold (nodeScore s.P (·.mean)) _ ?hg l]
  case hg =>
    intro acc id
    unfold amStep nodeScore
    cases s.P.nodes[id]? <;> rfl
  cases e1 : amFold (nodeScore s.P (·.mean)) l (cfg.negInf, none) with
  | mk x mn =>
  have hmax := amFold_bot hbot e1
  cases mn with
  | none =>
    obtain ⟨w, hw⟩ := List.exists_mem_of_ne_nil l (hI.wf.layer_ne_nil hl)
    obtain ⟨nd, h1, _⟩ := (hI.wf.mem_layer_iff hl w).1 hw
    have := hmax w hw
    rw [nodeScore_at h1] at this
    cases this
  | some m =>
    obtain ⟨nd, h1, h2⟩ := (hI.wf.mem_layer_iff hl m).1 hmax.mem
    have hx := hmax.score
    rw [nodeScore_at h1] at hx
    cases hx
    exact ⟨m, l, nd, rfl, rfl, h1, h2, hI.wf.leaf_of_deepest h1 h2, hmax⟩

end StoSOO

namespace Ex07
open Ex08

/-- only negative rewards -/
def inNeg : List (Input Nat Sc) :=
  [(1, [dr 0], sc (-5)), (2, [dr 1], sc (-3)), (3, [dr 0], sc (-7)), (4, [dr 0], sc (-4))]

def stNeg : SOO Nat Sc :=
  match SOO.run ⊥ .binary dom2 10 inNeg with
  | .ok x => x.1
  | .error _ => SOO.init ⊥ .binary dom2 10

/-- SOO recommends cell `1` (reward `-3`, the best received reward), although cell `4`
(never evaluated) and the root are listed too. -/
example : (SOO.lastPoint ⊥ stNeg).toOption = some 1 ∧ stNeg.P.layers = [[0], [1, 2], [3, 4]] ∧
    stNeg.P.nodes.map (fun nd => (nd.st.visited, nd.st.reward)) =
      [(true, sc (-5)), (true, sc (-3)), (true, sc (-7)), (true, sc (-4)), (false, ⊥)] := by
  decide

/-- `SOO.lastPoint_best` applies to this run. -/
example : ∃ s H v rv, SOO.run ⊥ .binary dom2 10 inNeg = .ok (s, H) ∧
    SOO.lastPoint ⊥ s = .ok v ∧ (v, rv) ∈ H ∧ ∀ e ∈ H, e.2 ≤ rv := by
  obtain ⟨s, H, e, _⟩ := SOO.loop_total ⊥ botLe .binary dom2 10 inNeg (by decide) (by decide)
  obtain ⟨v, rv, _, h1, h2, _, _, _, h3, _⟩ := SOO.lastPoint_best ⊥ botLe .binary dom2 10 inNeg
    (by decide) e (by decide) (by decide)
  exact ⟨s, H, v, rv, e, h1, h2, h3⟩

/-- `DOO.lastPoint_best` applies to the run of `Ex08` (`reward0 = negInf`). -/
example : ∃ s H v rv, DOO.run cfgDOO .binary dom2 inDOO = .ok (s, H) ∧
    DOO.lastPoint cfgDOO s = .ok v ∧ (v, rv) ∈ H ∧ ∀ e ∈ H, e.2 ≤ rv := by
  obtain ⟨s, H, e, _⟩ := DOO.loop_total cfgDOO botLe cfgDOO_deltaOK .binary dom2 inDOO (by decide)
  obtain ⟨v, rv, _, h1, h2, _, _, _, h3, _⟩ := DOO.lastPoint_best cfgDOO botLe rfl .binary dom2
    inDOO (by decide) e (by decide) (by decide)
  exact ⟨s, H, v, rv, e, h1, h2, h3⟩

/-- a configuration violating `reward0 = negInf`: the stored reward starts at `0` (scores `ℤ`,
`-1000` plays `-inf`) -/
def cfgBad : DOOCfg Nat Int :=
  { negInf := -1000, inf := 1000, reward0 := 0, bOf := fun r d => r + d,
    delta := fun _ h => .ok (10 - 2 * (h : Int)) }

def inBad : List (Input Nat Int) := [(1, [dr 0], -5), (2, [dr 1], -3)]

def stBad (cfg : DOOCfg Nat Int) : DOO Nat Int :=
  match DOO.run cfg .binary dom2 inBad with
  | .ok x => x.1
  | .error _ => DOO.init cfg .binary dom2

/-- **Counterexample (DOO, `reward0 = 0`)**: after two rounds with the negative rewards `-5`
(root) and `-3` (cell `1`), `get_last_point` returns cell `2`, which has never been evaluated
(it still stores the initial reward `0`, larger than every received reward). -/
theorem DOO_lastPoint_counterexample :
    (DOO.run cfgBad .binary dom2 inBad).toOption.map (·.2) = some [(0, -5), (1, -3)] ∧
    (DOO.lastPoint cfgBad (stBad cfgBad)).toOption = some 2 ∧
    (stBad cfgBad).P.nodes.map (fun nd => (nd.st.visited, nd.st.reward)) =
      [(true, -5), (true, -3), (false, 0)] := by decide

/-- with `reward0 = negInf` the same run recommends the evaluated cell `1` -/
example : (DOO.lastPoint { cfgBad with reward0 := -1000 }
    (stBad { cfgBad with reward0 := -1000 })).toOption = some 1 := by decide

/-- StoSOO: after the six rounds of `Ex08` the deepest layer is `[1, 2]` with stored means
`(4 + 9) / 2 = 6` and `(3 + 2) / 2 = 2`; the recommendation is cell `1`. -/
example : (StoSOO.lastPoint cfgSto (stSto 6)).toOption = some 1 ∧
    (stSto 6).P.layers = [[0], [1, 2]] ∧
    (stSto 6).P.nodes.map (fun nd => (nd.st.count, nd.st.mean)) = [(2, 6), (2, 6), (2, 2)] := by
  decide

end Ex07

end PyXAB
