/-
  Property C09 — GPO (and PCT / VPCT, which are GPO with a fixed base learner): "GPO creates N
  base learners with parameters (nu_max, rho_max^(2N/(2i+1))), i = 1..N, all distinct; each
  learner is driven for `half` pull/reward rounds and receives only rewards of points it
  proposed, after which its last proposed point is evaluated `half` times and scored by the mean
  of exactly those rewards.  Once all phases are over, pull and get_last_point return the
  validated point with the highest score."

  Setting.  `GPO.pull / receive / lastPoint` of `PyXABModel/Model/Meta.lean`, for EVERY base
  learner `ops : LearnerOps L α R Pt ρ` and every configuration record with `1 ≤ N`, `1 ≤ half`
  (both necessary: with `N = 0` or `half = 0` the first `pull` returns `None`, see
  `GPO_degenerate`).  `Spec/MetaSpec.lean` defines the ghost-instrumented loop (`GPO.round`,
  `GPO.run`; a log entry records phase and counter before the round, the point returned by
  `pull`, the reward, and the argument of `rhoOf` if a learner was constructed) and `OpsTotal`.
-/
import PyXABProofs.Lemmas.MT_GPOScore
import PyXABProofs.Lemmas.MT_Argmax
import PyXABProofs.Lemmas.MT_Grid
import PyXABProofs.Lemmas.MT_Example

namespace PyXAB
open GPO MT MT.GPO

variable {L α R S Pt ρ : Type}

/-- every prefix of a successful run is a successful run, with the corresponding prefix of the log -/
theorem GPO_run_prefix [LT S] [DecidableLT S] (ops : LearnerOps L α R Pt ρ) (cfg : GPOCfg R S ρ)
    (s s' : GPO L S Pt) (xs ys : List (RoundIn α R)) (log : List (GPO.Entry R Pt))
    (h : GPO.run ops cfg s (xs ++ ys) = .ok (s', log)) :
    ∃ s1 log1 log2, GPO.run ops cfg s xs = .ok (s1, log1) ∧ GPO.run ops cfg s1 ys = .ok (s', log2) ∧
      log = log1 ++ log2 :=
  MT.GPO.run_append_ok_iff.mp h

/-- After `k ≤ N·2·half` complete rounds: phase, counter, the number of learners constructed
(= phases started), the number of validated points (= phases whose validation has started);
the learners were constructed with `rhoOf 1, rhoOf 2, …` in this order; and the `j`-th log
entry was played in phase `j / (2·half) + 1` with counter `j % (2·half)`, constructing a learner
(with `rhoOf phase`) exactly when the counter is `0`. -/
theorem GPO_schedule [LT S] [DecidableLT S] {ops : LearnerOps L α R Pt ρ} {cfg : GPOCfg R S ρ}
    (hN : 1 ≤ cfg.N) (hh : 1 ≤ cfg.half) {s' : GPO L S Pt} {xs : List (RoundIn α R)}
    {log : List (GPO.Entry R Pt)} (h : GPO.run ops cfg GPO.init xs = .ok (s', log))
    (hk : xs.length ≤ cfg.N * (2 * cfg.half)) :
    s'.phase = xs.length / (2 * cfg.half) + 1 ∧ s'.counter = xs.length % (2 * cfg.half) ∧
    s'.created = (xs.length + 2 * cfg.half - 1) / (2 * cfg.half) ∧
    s'.V.length = (xs.length + cfg.half - 1) / (2 * cfg.half) ∧ s'.Vx.length = s'.V.length ∧
    createdParams log = List.range' 1 s'.created ∧
    ∀ (j : Nat) e, log[j]? = some e →
      e.phase = j / (2 * cfg.half) + 1 ∧ e.counter = j % (2 * cfg.half) ∧ e.phase ≤ cfg.N ∧
      e.created = if j % (2 * cfg.half) = 0 then some (j / (2 * cfg.half) + 1) else none := by
  have hI := run_inv hh (inv_init cfg hN hh) h
  have hlen := run_length h
  have hrn : roundNo cfg s' = xs.length := by
    rw [run_roundNo hN hh h, hlen]; exact Nat.min_eq_left hk
  obtain ⟨e1, e2, e3, e4⟩ := schedule_of_roundNo hh hI hrn
  refine ⟨e1, e2, e3, e4, hI.hlen, run_created hN hh h, fun j e hj => ?_⟩
  -- the entry records the state after `j < N·2·half` rounds
  obtain ⟨s1, hI1, hrn1, hep, hec, hcr⟩ := run_entry hN hh h hj
  have hjk : j < cfg.N * (2 * cfg.half) :=
    Nat.lt_of_lt_of_le (hlen ▸ (List.getElem?_eq_some_iff.mp hj).1) hk
  rw [Nat.min_eq_left (Nat.le_of_lt hjk)] at hrn1
  obtain ⟨f1, f2, -, -⟩ := schedule_of_roundNo hh hI1 hrn1
  have hle : j / (2 * cfg.half) + 1 ≤ cfg.N := Nat.div_lt_of_lt_mul (Nat.mul_comm _ _ ▸ hjk)
  rw [hep, hec, hcr, creates, f1, f2]
  refine ⟨rfl, rfl, hle, ?_⟩
  by_cases h0 : j % (2 * cfg.half) = 0
  · rw [if_pos ⟨hle, h0⟩, if_pos h0]
  · rw [if_neg (fun h' => h0 h'.2), if_neg h0]

/-- One round of a running phase (`phase ≤ N`), from ANY state.  Exploring (`counter < half`):
`pull` calls `ops.pull` on the current learner — constructed in this very `pull` with
`rhoOf phase` if `counter = 0` — and `receive` hands the reward to that same learner; scores and
validated points are untouched.  Validating (`counter ≥ half`): NO learner operation is
performed (the current learner and the draws are returned unchanged), `pull` returns the
remembered point `goodx`, and `receive` updates `V[phase-1]` (appended as `zero` by the `pull`
when `counter = half`) with `k = counter - half`.  Times and draws of `receive` are arbitrary. -/
theorem GPO_explore_routing [LT S] [DecidableLT S] {ops : LearnerOps L α R Pt ρ} {cfg : GPOCfg R S ρ}
    (hh : 1 ≤ cfg.half) {s s1 s2 : GPO L S Pt} {time time' : Nat} {ds ds1 ds' ds2 : List (Draw α)}
    {pt : Pt} {r : R} (hd : s.phase ≤ cfg.N)
    (hp : GPO.pull ops cfg s time ds = .ok (s1, ds1, pt))
    (hr : GPO.receive ops cfg s1 time' r ds' = .ok (s2, ds2)) :
    (s.counter < cfg.half → ∃ l l1 l2,
      (if s.counter = 0 then ops.create (cfg.rhoOf s.phase) ds = .ok (l, ds1)
        else s.curr = some l ∧ ds1 = ds) ∧
      ops.pull l time = .ok (l1, pt) ∧ s1.curr = some l1 ∧
      ops.receive l1 time' r ds' = .ok (l2, ds2) ∧ s2.curr = some l2 ∧
      s2.V = s.V ∧ s2.Vx = s.Vx) ∧
    (cfg.half ≤ s.counter →
      s1.curr = s.curr ∧ s2.curr = s.curr ∧ ds1 = ds ∧ ds2 = ds' ∧ s.goodx = some pt ∧
      ∃ V1 v, V1 = (if s.counter = cfg.half then s.V ++ [cfg.zero] else s.V) ∧
        V1[s.phase - 1]? = some v ∧
        s2.V = V1.set (s.phase - 1) (cfg.upd v (s.counter - cfg.half) r) ∧
        s2.Vx = (if s.counter = cfg.half then s.Vx ++ [pt] else s.Vx)) := by
  constructor
  · intro hlt
    obtain ⟨l, l1, l2, h1, h2, h3, h4, rfl⟩ := explore_round hd hlt hp hr
    exact ⟨l, l1, l2, h1, h2, h3, h4, rfl, rfl, rfl⟩
  · intro hge
    exact (validate_round hh hd hge hp hr).2.2

/-- Along a run from the constructor, every validation round (log index `j`, phase `p ≤ N`,
counter `c ≥ half`) returns the point which the learner of phase `p` proposed in its last
exploration round — the log entry of index `(p-1)·2·half + half - 1`, whose counter is
`half - 1`; and every validated point `Vx[q]` is the last proposal of the learner of phase `q+1`. -/
theorem GPO_validation_point [LT S] [DecidableLT S] {ops : LearnerOps L α R Pt ρ} {cfg : GPOCfg R S ρ}
    (hN : 1 ≤ cfg.N) (hh : 1 ≤ cfg.half) {s' : GPO L S Pt} {xs : List (RoundIn α R)}
    {log : List (GPO.Entry R Pt)} (h : GPO.run ops cfg GPO.init xs = .ok (s', log)) :
    (∀ (j : Nat) e, log[j]? = some e → e.phase ≤ cfg.N → cfg.half ≤ e.counter →
      ∃ e0, log[(e.phase - 1) * (2 * cfg.half) + cfg.half - 1]? = some e0 ∧ e0.phase = e.phase ∧
        e0.counter = cfg.half - 1 ∧ e0.pt = e.pt) ∧
    (∀ (q : Nat) pt, s'.Vx[q]? = some pt →
      ∃ e0, log[q * (2 * cfg.half) + cfg.half - 1]? = some e0 ∧ e0.phase = q + 1 ∧
        e0.counter = cfg.half - 1 ∧ e0.pt = pt) := by
  have hP := run_points hN hh h
  constructor
  · intro j e hj hd hge
    obtain ⟨e0, hle, he0, h1, h2, hpt⟩ := hP.val j e hj hd hge
    have hjk := run_entry_index hN hh h hj hd
    -- `j = (p-1)·2·half + c` with `c ≥ half`: `c - half + 1` entries back is the round with counter `half - 1`
    rw [show j - (e.counter - cfg.half + 1) = (e.phase - 1) * (2 * cfg.half) + cfg.half - 1 by omega] at he0
    exact ⟨e0, he0, h1, Nat.eq_sub_of_add_eq h2, hpt⟩
  · intro q pt hq
    obtain ⟨k, e0, hk, h1, hd, h2, hpt⟩ := hP.vx q pt hq
    have hkk := run_entry_index hN hh h hk (h1 ▸ hd)
    rw [h1, Nat.add_sub_cancel] at hkk
    -- `k = q·2·half + e0.counter` and `e0.counter + 1 = half`
    rw [show q * (2 * cfg.half) + cfg.half - 1 = k by omega]
    exact ⟨e0, hk, h1, Nat.eq_sub_of_add_eq h2, hpt⟩

/-- Over a field of characteristic zero with the running-mean update `(V·k + r)/(k+1)` (any
`zero`): once phase `p` is over, `V[p-1]` is the arithmetic mean of exactly the `half` rewards
of the validation rounds (`counter ≥ half`) of phase `p`. -/
theorem GPO_validation_mean [Field α] [CharZero α] [LT α] [DecidableLT α] {ops : LearnerOps L α α Pt ρ}
    {cfg : GPOCfg α α ρ} (hN : 1 ≤ cfg.N) (hh : 1 ≤ cfg.half)
    (hupd : ∀ v k r, cfg.upd v k r = (v * (k : α) + r) / ((k : α) + 1))
    {s' : GPO L α Pt} {xs : List (RoundIn α α)} {log : List (GPO.Entry α Pt)}
    (h : GPO.run ops cfg GPO.init xs = .ok (s', log)) {p : Nat} (hp1 : 1 ≤ p) (hp : p < s'.phase) :
    (valRewards cfg log p).length = cfg.half ∧
    ∃ v, s'.V[p - 1]? = some v ∧ v = (valRewards cfg log p).sum / (cfg.half : α) := by
  have hV := run_validation hN hh hupd h
  have hl := hV.past p hp1 hp
  have hlt : p - 1 < s'.V.length := by
    have := ((run_inv hh (inv_init cfg hN hh) h).sched hh).2.2
    omega
  refine ⟨hl, s'.V[p - 1], List.getElem?_eq_getElem hlt, ?_⟩
  have := hV.mean (p - 1) _ (List.getElem?_eq_getElem hlt)
  rw [Nat.sub_add_cancel hp1, hl] at this
  rw [← this, mul_div_assoc, div_self (Nat.cast_ne_zero.mpr (Nat.ne_of_gt hh)), mul_one]

/-- the same over a linearly ordered field (whose order is the one used by `np.argmax`) -/
theorem GPO_validation_mean_ordered [Field α] [LinearOrder α] [IsStrictOrderedRing α]
    {ops : LearnerOps L α α Pt ρ} {cfg : GPOCfg α α ρ} (hN : 1 ≤ cfg.N) (hh : 1 ≤ cfg.half)
    (hupd : ∀ v k r, cfg.upd v k r = (v * (k : α) + r) / ((k : α) + 1))
    {s' : GPO L α Pt} {xs : List (RoundIn α α)} {log : List (GPO.Entry α Pt)}
    (h : GPO.run ops cfg GPO.init xs = .ok (s', log)) {p : Nat} (hp1 : 1 ≤ p) (hp : p < s'.phase) :
    (valRewards cfg log p).length = cfg.half ∧
    ∃ v, s'.V[p - 1]? = some v ∧ v = (valRewards cfg log p).sum / (cfg.half : α) :=
  GPO_validation_mean hN hh hupd h hp1 hp

/-- After `N·2·half` rounds (or more) all phases are over: `phase = N + 1`, exactly `N` learners
were constructed and `N` points validated; `pull` returns the validated point `Vx[i]` with `i`
the FIRST index of a maximal score, without any learner operation (state and draws unchanged);
`receive` changes nothing; and `get_last_point` returns the same point. -/
theorem GPO_done [LinearOrder S] {ops : LearnerOps L α R Pt ρ} {cfg : GPOCfg R S ρ}
    (hN : 1 ≤ cfg.N) (hh : 1 ≤ cfg.half) {s' : GPO L S Pt} {xs : List (RoundIn α R)}
    {log : List (GPO.Entry R Pt)} (h : GPO.run ops cfg GPO.init xs = .ok (s', log))
    (hk : cfg.N * (2 * cfg.half) ≤ xs.length) :
    s'.phase = cfg.N + 1 ∧ s'.counter = 0 ∧ s'.created = cfg.N ∧ s'.V.length = cfg.N ∧
    s'.Vx.length = cfg.N ∧
    ∃ i p, argmaxFirst s'.V = some i ∧ IsFirstMax s'.V i ∧ s'.Vx[i]? = some p ∧
      (∀ time ds, GPO.pull ops cfg s' time ds = .ok (s', ds, p)) ∧
      (∀ time r ds, GPO.receive ops cfg s' time r ds = .ok (s', ds)) ∧
      GPO.lastPoint s' = .ok p := by
  have hI := run_inv hh (inv_init cfg hN hh) h
  have hd := run_over hN hh h hk
  obtain ⟨hc0, hcr, hvl, i, p, hi, hx, hg⟩ := hI.done hd
  refine ⟨Nat.le_antisymm hI.hph.2 hd, hc0, hcr, hvl, hI.hlen.trans hvl, i, p, hi, argmaxFirst_spec hi, hx,
    fun time ds => ?_, fun time r ds => receive_done hd, ?_⟩
  · rw [pull_done hd, hg]; rfl
  · simp only [GPO.lastPoint, hi, hx]

/-- If the base learner never raises, no round ever raises; `get_last_point` raises `ValueError`
(`np.argmax` of an empty list) as long as no validation has started, in particular during the
first `half` rounds. -/
theorem GPO_total [LT S] [DecidableLT S] {ops : LearnerOps L α R Pt ρ} {cfg : GPOCfg R S ρ}
    (hN : 1 ≤ cfg.N) (hh : 1 ≤ cfg.half) (hops : OpsTotal ops) (xs : List (RoundIn α R)) :
    ∃ s' log, GPO.run ops cfg (GPO.init : GPO L S Pt) xs = .ok (s', log) ∧
      (s'.V = [] → GPO.lastPoint s' = .error .valueError) ∧
      (xs.length ≤ cfg.half → s'.V = []) := by
  obtain ⟨s', log, h⟩ := run_total hh hops xs (inv_init cfg hN hh)
  refine ⟨s', log, h, fun hV => by simp [GPO.lastPoint, hV, argmaxFirst_nil], fun hk => ?_⟩
  have hle : xs.length ≤ cfg.N * (2 * cfg.half) := by
    have : 1 * (2 * cfg.half) ≤ cfg.N * (2 * cfg.half) := Nat.mul_le_mul_right _ hN
    omega
  obtain ⟨-, -, -, hvl, -⟩ := GPO_schedule hN hh h hle
  rw [Nat.div_eq_of_lt (by omega)] at hvl
  exact List.eq_nil_of_length_eq_zero hvl

/-- The hypotheses `1 ≤ N` and `1 ≤ half` are necessary: otherwise the first `pull` falls off the
end of the function (returns `None`) even for a total base learner. -/
theorem GPO_degenerate [LT S] [DecidableLT S] {ops : LearnerOps L α R Pt ρ} {cfg : GPOCfg R S ρ}
    (hops : OpsTotal ops) (h0 : cfg.N = 0 ∨ cfg.half = 0) (time : Nat) (ds : List (Draw α)) :
    GPO.pull ops cfg (GPO.init : GPO L S Pt) time ds = .error .returnedNone := by
  by_cases hN : cfg.N = 0
  · simp [GPO.pull, GPO.init, hN]
  · have hh : cfg.half = 0 := by rcases h0 with h | h; exact absurd h hN; exact h
    obtain ⟨⟨l, ds'⟩, hc⟩ := hops.1 (cfg.rhoOf 1) ds
    have : ¬ 1 > cfg.N := by omega
    simp [GPO.pull, GPO.init, hh, hc, this, bind, Except.bind, pure, Except.pure]

/-- Over ℝ, for a fixed `N ≥ 1` and `0 < rhomax < 1`: the exponents `2N/(2i+1)` and the grid
values `rhomax^(2N/(2i+1))`, `i = 1..N` (in fact for all `i`), are pairwise distinct, and every
grid value lies in `(0, 1)`.  It is below `rhomax` iff `i < N` (iff `2i+1 < 2N`, exponent `> 1`)
— so this FAILS for the last learner `i = N`, whose exponent `2N/(2N+1)` is `< 1`: its `rho`
EXCEEDS `rhomax`. -/
theorem GPO_grid {rhomax : ℝ} (h0 : 0 < rhomax) (h1 : rhomax < 1) {N : ℕ} (hN : 1 ≤ N) :
    (∀ i j, gridExp N i = gridExp N j → i = j) ∧
    (∀ i j, gridRho rhomax N i = gridRho rhomax N j → i = j) ∧
    (∀ i, 0 < gridRho rhomax N i ∧ gridRho rhomax N i < 1) ∧
    (∀ i, gridRho rhomax N i < rhomax ↔ i < N) ∧
    (∀ i, rhomax < gridRho rhomax N i ↔ N ≤ i) ∧
    gridExp N N < 1 ∧ rhomax < gridRho rhomax N N :=
  ⟨fun _ _ h => gridExp_inj_fixed hN h,
   fun _ _ h => gridExp_inj_fixed hN ((gridRho_eq_iff h0 h1 ..).mp h),
   fun i => ⟨gridRho_pos h0 N i, Real.rpow_lt_one (le_of_lt h0) h1 (gridExp_pos hN)⟩,
   fun i => gridRho_lt_rhomax_iff h0 h1 N i,
   fun i => rhomax_lt_gridRho_iff h0 h1 N i,
   gridExp_lt_one_iff.mpr (Nat.le_refl N),
   (rhomax_lt_gridRho_iff h0 h1 N N).mpr (Nat.le_refl N)⟩

/-- The grid values of the learners actually constructed by a complete run (`rhoOf 1 … rhoOf N`,
`GPO_schedule`) are pairwise distinct. -/
theorem GPO_grid_run [LT S] [DecidableLT S] {ops : LearnerOps L α R Pt ρ} {cfg : GPOCfg R S ρ}
    (hN : 1 ≤ cfg.N) (hh : 1 ≤ cfg.half) {s' : GPO L S Pt} {xs : List (RoundIn α R)}
    {log : List (GPO.Entry R Pt)} (h : GPO.run ops cfg GPO.init xs = .ok (s', log))
    (hk : xs.length = cfg.N * (2 * cfg.half)) {rhomax : ℝ} (h0 : 0 < rhomax) (h1 : rhomax < 1) :
    createdParams log = List.range' 1 cfg.N ∧
    ((createdParams log).map (gridRho rhomax cfg.N)).Nodup := by
  have hcp := run_created hN hh h
  rw [((run_inv hh (inv_init cfg hN hh) h).done (run_over hN hh h (Nat.le_of_eq hk.symm))).2.1] at hcp
  refine ⟨hcp, ?_⟩
  rw [hcp]
  exact (List.nodup_map_iff_inj_on List.nodup_range').mpr fun i _ j _ hij =>
    gridExp_inj_fixed hN ((gridRho_eq_iff h0 h1 ..).mp hij)

/-! Non-vacuity: the recording learner, `N = 2`, `half = 2`, rewards 1, 2, 3, … -/

open MT.Ex in
/-- the hypotheses of the theorems are satisfiable -/
example : 1 ≤ gpoCfg.N ∧ 1 ≤ gpoCfg.half ∧ OpsTotal (recOps Unit Nat Nat) :=
  ⟨by decide, by decide, recOps_total ..⟩

open MT.Ex in
/-- a complete run: two learners (parameters 1, 2); each explores for two rounds (it receives
exactly the two rewards of its own proposals: `[1,2]`, `[5,6]`), then its last proposal (`[1]`,
resp. `[5]`: the state of the learner when it proposed) is evaluated twice; with
`upd = sum` the scores are `3+4` and `7+8`; the best validated point is `[5]`. -/
example : gpoState 8 = some (3, 0, 2) ∧
    gpoLists 8 = some (some [5, 6], some [5], [[1], [5]], [7, 15]) ∧
    gpoLog 8 = some [(1, 0, [], 1), (1, 1, [1], 2), (1, 2, [1], 3), (1, 3, [1], 4),
                     (2, 0, [], 5), (2, 1, [5], 6), (2, 2, [5], 7), (2, 3, [5], 8)] ∧
    gpoParams 8 = some [1, 2] := by decide

open MT.Ex in
/-- in the middle of phase 1 (validation started): one learner, which received `[1, 2]` -/
example : gpoState 3 = some (1, 3, 1) ∧ gpoLists 3 = some (some [1, 2], some [1], [[1]], [3]) := by
  decide

open MT.Ex in
/-- after the last phase nothing changes any more and `pull` returns the best point -/
example : gpoState 10 = some (3, 0, 2) ∧ gpoLists 10 = gpoLists 8 ∧
    (gpoLog 10).map (fun l => l.drop 8) = some [(3, 0, [5], 9), (3, 0, [5], 10)] := by decide

open MT.Ex in
/-- `get_last_point`: `ValueError` before the first validation, then the best validated point -/
example : gpoLast 2 = some (.inl .valueError) ∧ gpoLast 3 = some (.inr [1]) ∧
    gpoLast 8 = some (.inr [5]) := by decide

end PyXAB
