/-
  The *optimism* lemma of the Zooming analysis, for the model `PyXABModel/Model/Zooming.lean`.

  "Fix a point `xstar` of the (valid) domain and a level `fstar`.  Call a state *optimistic* (at
  phase `ph`) when every active arm whose cell contains `xstar` has index
  `cfg.indexOf avg ph pulls ≥ fstar` (in the regret analysis this is the high-probability event
  `mean + confidence radius + radius of the cell ≥ f*` for the arms whose cell contains a
  maximiser; here it is a hypothesis on the state).  Then in every state reached by the
  algorithm, (1) some active arm's cell contains `xstar`, and (2) if the state is optimistic at
  its current phase, the arm which the next `pull` returns has index `≥ fstar`:
  **Zooming only ever pulls arms whose optimistic index is at least `fstar`**."

  The theorems hold for all runs (any number of rounds), every ordered field of coordinates,
  every linear order of index values, all numeric formulas (fields of `ZoomCfg`), the five
  partition classes and all admissible draws.

  Vocabulary.
  * `Spec/ZoomSpec.lean`, `Props/C11.lean`: the invariant `Cover`, the index `idx`, the reachable
    states `GoodRun cfg k domain s H` (`init`, then rounds `pull; receive` whose draws satisfy the
    NumPy guarantees `RecvDrawsOK` and in which `negInf` is below every index), `NegInfLe`
    (`negInf` is below the index of every active arm of the state: the hypothesis of
    `C11.pull_argmax`; automatic when `negInf` is a bottom element — `*_bot`).
  * `Spec/OptZSpec.lean`: `OPTZ.Optimistic`, `OPTZ.CoversAt`.
  * Lemmas: `Lemmas/OPTZ_Core.lean` (the statements for a single `Cover` state, from
    `Cover.arm_cells_tile` of `Lemmas/ZM_Run.lean` and `pull_spec` of `Lemmas/ZM_Pull.lean`, the
    lemmas behind `C11.cover_cells_tile` and `C11.pull_argmax`; an executable test for
    `Optimistic`).

  Since `GoodRun.round` extends a `GoodRun` state, every state in which a `pull` of a run is made
  is itself a `GoodRun` state: the theorems below, stated for the next `pull` on any reachable
  state, cover every `pull` of every run (`Zooming_optimism_round`).
-/
import PyXABProofs.Lemmas.OPTZ_Core
import PyXABProofs.Props.C11
import Mathlib.Algebra.Order.Monoid.WithTop

set_option linter.unusedSectionVars false
set_option linter.unusedVariables false

namespace PyXAB
namespace ZoomOpt
open Zooming ZM OPTZ _root_.PyXAB.Tree

section
variable {α R S : Type}

/-- `Optimistic` is antitone in the level: optimistic at `fstar` implies optimistic at every
smaller level. -/
theorem Optimistic.mono [LE α] [Preorder S] {cfg : ZoomCfg R S} {s : Zooming α S} {ph : Nat}
    {xstar : List α} {f g : S} (h : Optimistic cfg s ph xstar f) (hgf : g ≤ f) :
    Optimistic cfg s ph xstar g :=
  fun a ha hm => le_trans hgf (h a ha hm)

/-- A state all of whose active arms have index `≥ fstar` is optimistic for every point. -/
theorem Optimistic.of_all [LE α] [LE S] {cfg : ZoomCfg R S} {s : Zooming α S} {ph : Nat}
    {fstar : S} (h : ∀ a ∈ s.arms, fstar ≤ idx cfg ph a) (xstar : List α) :
    Optimistic cfg s ph xstar fstar :=
  fun a ha _ => h a ha

end

section
variable {α R S : Type} [LinearOrder α] [LinearOrder S]

/-- **Optimism from the invariant of the state** (no run): in a state satisfying the invariant
`Cover` of C11 for the domain `root`, with `negInf` below every index, which is optimistic for
a point `xstar` of `root` and the level `fstar` at its current phase, some active arm is
responsible for `xstar` and `pull` returns an arm of index `≥ fstar`. -/
theorem Zooming_optimism_state (cfg : ZoomCfg R S) {root : Box α} {s : Zooming α S}
    (hC : Cover root s) (hbot : NegInfLe cfg s) {xstar : List α} (hx : Box.Mem root xstar)
    {fstar : S} (hO : Optimistic cfg s s.phase xstar fstar) :
    (∃ c, CoversAt s xstar c ∧ fstar ≤ idx cfg s.phase c) ∧
    ∃ i a, s.arms[i]? = some a ∧ pull cfg s = .ok ({ s with best := some i }, i, a.pt) ∧
      fstar ≤ idx cfg s.phase a ∧ ∀ b ∈ s.arms, idx cfg s.phase b ≤ idx cfg s.phase a := by
  obtain ⟨c, hc, _⟩ := cover_exists hC hx
  exact ⟨⟨c, hc, hO c hc.1 hc.2⟩, pull_optimistic cfg hC hbot hx hO⟩

end

variable {α R S : Type} [Field α] [LinearOrder α] [IsStrictOrderedRing α]

/-- **(1) Some active arm is responsible for `xstar`.**

In plain words: run Zooming (the model of `PyXAB/algos/Zooming.py`) on a valid domain with a
partition of any class, for ANY number of rounds, with admissible draws.  In the state `s`
reached, every point `xstar` of the domain lies in the closed cell of some active arm `a`
(`CoversAt s xstar a`: `a ∈ s.arms` and `Box.Mem (cellBox s.P a.cell) xstar`); that cell is a
leaf `nd` of depth `≥ 1` of the partition tree and it also contains the arm's own point.

This is the cover invariant of C11 (`run_Cover`, `cover_cells_tile`): the cells of the active
arms tile the domain.  Nothing is assumed about the state being optimistic. -/
theorem Zooming_cover_xstar [LinearOrder S] {cfg : ZoomCfg R S} {k : Kind} {domain : Box α}
    (hv : Box.Valid domain) {s : Zooming α S} {H : List (Nat × R)}
    (hG : GoodRun cfg k domain s H) {xstar : List α} (hx : Box.Mem domain xstar) :
    ∃ a, CoversAt s xstar a ∧ ∃ nd, LeafAt s.P a.cell nd ∧ 1 ≤ nd.depth ∧
      Box.Mem nd.box xstar ∧ Box.Mem nd.box a.pt :=
  cover_exists (C11.run_Cover hv hG).1 hx

variable [LinearOrder S]

/-- **The pulled arm dominates the arm responsible for `xstar`** (no optimism hypothesis).

In plain words: in every reachable state `s` in which `negInf` is below the index of every
active arm (`NegInfLe`, the hypothesis of `C11.pull_argmax`), `pull` succeeds and returns a
position `i` of `arms` and the point of the arm `a` stored there; `a` has the largest index (at
the current phase) among ALL active arms; and for every point `xstar` of the domain there is an
active arm `c` whose cell contains `xstar`, so that `index c ≤ index a`. -/
theorem Zooming_pull_dominates {cfg : ZoomCfg R S} {k : Kind} {domain : Box α}
    (hv : Box.Valid domain) {s : Zooming α S} {H : List (Nat × R)}
    (hG : GoodRun cfg k domain s H) (hbot : NegInfLe cfg s) {xstar : List α}
    (hx : Box.Mem domain xstar) :
    ∃ i a, s.arms[i]? = some a ∧ pull cfg s = .ok ({ s with best := some i }, i, a.pt) ∧
      (∀ b ∈ s.arms, idx cfg s.phase b ≤ idx cfg s.phase a) ∧
      ∃ c, CoversAt s xstar c ∧ idx cfg s.phase c ≤ idx cfg s.phase a :=
  pull_dominates cfg (C11.run_Cover hv hG).1 hbot hx

/-- **(2) Optimism of Zooming: the pulled arm has index `≥ fstar`.**

In plain words: run Zooming on the valid domain `domain` with a partition of class `k`, for ANY
number of rounds, with admissible draws (`GoodRun`), reaching the state `s`.  Let `xstar` be a
point of the domain and `fstar` a level such that `s` is optimistic at its current phase: every
active arm whose cell contains `xstar` has index `cfg.indexOf avg s.phase pulls ≥ fstar`.  Then
the next `pull` succeeds, and the arm `a` it returns (position `i`, point `a.pt`) has index
`≥ fstar` — indeed its index is the maximum of the indices of all active arms, one of which is
responsible for `xstar` (`Zooming_cover_xstar`).  Only the field `best` of the state changes.

Assumptions:
* `hv`, `hx`: the domain is a valid box (`lo ≤ hi` in every coordinate) and `xstar` lies in it
  (closed containment).  `xstar` need not be a maximiser of anything;
* `hG`: `s` is reachable (`GoodRun`: the draws consumed by refinements satisfy the NumPy
  guarantees, and in every earlier round `negInf` was below every index);
* `hbot`: in `s`, `negInf` is below the index of every active arm (as in `C11.pull_argmax`;
  see `Zooming_optimism_bot` when `negInf` is a bottom element);
* `hO`: `s` is optimistic for `xstar`, `fstar` at the phase `s.phase` in which `pull` computes
  the indices.

The second part of the conclusion says the same for any given successful `pull` (the model is
deterministic). -/
theorem Zooming_optimism {cfg : ZoomCfg R S} {k : Kind} {domain : Box α}
    (hv : Box.Valid domain) {s : Zooming α S} {H : List (Nat × R)}
    (hG : GoodRun cfg k domain s H) (hbot : NegInfLe cfg s) {xstar : List α}
    (hx : Box.Mem domain xstar) {fstar : S} (hO : Optimistic cfg s s.phase xstar fstar) :
    (∃ i a, s.arms[i]? = some a ∧ pull cfg s = .ok ({ s with best := some i }, i, a.pt) ∧
      fstar ≤ idx cfg s.phase a ∧ ∀ b ∈ s.arms, idx cfg s.phase b ≤ idx cfg s.phase a) ∧
    ∀ s1 i pt, pull cfg s = .ok (s1, i, pt) →
      ∃ a, s.arms[i]? = some a ∧ pt = a.pt ∧ s1 = { s with best := some i } ∧
        fstar ≤ cfg.indexOf a.avg s.phase a.pulls ∧
        ∀ b ∈ s.arms, idx cfg s.phase b ≤ idx cfg s.phase a :=
  ⟨pull_optimistic cfg (C11.run_Cover hv hG).1 hbot hx hO,
   fun _ _ _ hp => of_pull_ok (pull_optimistic cfg (C11.run_Cover hv hG).1 hbot hx hO) hp⟩

/-- **Optimism of Zooming when `negInf` is a bottom element** of the index values (`-inf`): the
hypothesis `NegInfLe` of `Zooming_optimism` is then automatic (`C11.negInfLe_of_bot`).  In every
reachable state which is optimistic for `xstar`, `fstar` at its current phase, `pull` succeeds
and returns an arm of index `≥ fstar`. -/
theorem Zooming_optimism_bot {cfg : ZoomCfg R S} (hbot : ∀ x, cfg.negInf ≤ x) {k : Kind}
    {domain : Box α} (hv : Box.Valid domain) {s : Zooming α S} {H : List (Nat × R)}
    (hG : GoodRun cfg k domain s H) {xstar : List α} (hx : Box.Mem domain xstar) {fstar : S}
    (hO : Optimistic cfg s s.phase xstar fstar) :
    ∃ i a, s.arms[i]? = some a ∧ pull cfg s = .ok ({ s with best := some i }, i, a.pt) ∧
      fstar ≤ idx cfg s.phase a ∧ ∀ b ∈ s.arms, idx cfg s.phase b ≤ idx cfg s.phase a :=
  (Zooming_optimism hv hG (C11.negInfLe_of_bot cfg s hbot) hx hO).1

/-- **Optimism, for a round of a run.**  Let one more round `pull; receive r` be made after a
run (so that the run continues: `GoodRun … s2 (H ++ [(i, r)])`).  If the state `s` in which the
round started was optimistic for `xstar`, `fstar` at its phase, then the position `i` recorded
in the history is that of an arm of `s` whose index, in the phase of `s`, was `≥ fstar`; and the
point handed out was the point of that arm. -/
theorem Zooming_optimism_round {cfg : ZoomCfg R S} {k : Kind} {domain : Box α}
    (hv : Box.Valid domain) {s s1 s2 : Zooming α S} {H : List (Nat × R)}
    (hG : GoodRun cfg k domain s H) (hbot : NegInfLe cfg s) {i : Nat} {pt : List α} {r : R}
    {ds ds' : List (Draw α)} (hp : pull cfg s = .ok (s1, i, pt)) (hds : RecvDrawsOK cfg s1 ds)
    (hr : receive cfg s1 r ds = .ok (s2, ds')) {xstar : List α} (hx : Box.Mem domain xstar)
    {fstar : S} (hO : Optimistic cfg s s.phase xstar fstar) :
    GoodRun cfg k domain s2 (H ++ [(i, r)]) ∧
    ∃ a, s.arms[i]? = some a ∧ pt = a.pt ∧ fstar ≤ idx cfg s.phase a := by
  obtain ⟨a, h1, h2, _, h3, _⟩ := (Zooming_optimism hv hG hbot hx hO).2 s1 i pt hp
  exact ⟨GoodRun.round hG hbot hp hds hr, a, h1, h2, h3⟩

/-- **Contrapositive**: if, in a reachable state, `pull` returns an arm whose index is below
`fstar`, then the state is not optimistic for any point of the domain: for every `xstar` of the
domain some active arm whose cell contains `xstar` has index `< fstar`.  (In the analysis:
pulling an arm with a small index is only possible outside the high-probability event.) -/
theorem Zooming_not_optimistic_of_pull_lt {cfg : ZoomCfg R S} {k : Kind} {domain : Box α}
    (hv : Box.Valid domain) {s : Zooming α S} {H : List (Nat × R)}
    (hG : GoodRun cfg k domain s H) (hbot : NegInfLe cfg s) {s1 : Zooming α S} {i : Nat}
    {pt : List α} (hp : pull cfg s = .ok (s1, i, pt)) {a : Arm α S} (ha : s.arms[i]? = some a)
    {fstar : S} (hlt : idx cfg s.phase a < fstar) {xstar : List α} (hx : Box.Mem domain xstar) :
    ∃ c, CoversAt s xstar c ∧ idx cfg s.phase c < fstar ∧ ¬ Optimistic cfg s s.phase xstar fstar := by
  obtain ⟨a', h1, _, _, _, c, hc, hca⟩ := of_pull_ok (Zooming_pull_dominates hv hG hbot hx) hp
  obtain rfl : a' = a := Option.some.inj (h1.symm.trans ha)
  have hcl : idx cfg s.phase c < fstar := lt_of_le_of_lt hca hlt
  exact ⟨c, hc, hcl, fun hO => absurd (hO c hc.1 hc.2) (not_le_of_gt hcl)⟩

end ZoomOpt

/-! Non-vacuity.

`α = S = ℚ`, the interval `dom01 = [0,1]` with binary midpoint splits, the configuration `exCfg`
(`index = avg + 8*phase/(2+pulls)`, `negInf = -1`, refinement as soon as `pulls > depth`) and the
run `st0 → st1 → st2 → st3` of `Lemmas/ZM_Example.lean` (all rewards `1`; round 3 refines the cell
`[1/2,1]`).

* After `init` (`st0`: arms at `1/4`, `3/4` for the cells `[0,1/2]`, `[1/2,1]`, phase 1, both
  indices `0 + 8/2 = 4`): for `xstar = 1/3` the state is optimistic at `fstar = 4`, NOT optimistic
  at `fstar = 5`, and `pull` returns position 1 (tie: last maximiser) of index `4 ≥ 4`.
* After three rounds (`st3`: cells `[0,1/2]`, `[1/2,3/4]`, `[3/4,1]`, pulls `1, 2, 0`, means
  `1, 1, 0`, phase 2, indices `19/3, 5, 8`): for `xstar = 1/3` optimistic at `6`, not at `7`; for
  the boundary point `xstar = 3/4` (in BOTH cells `[1/2,3/4]` and `[3/4,1]`) optimistic at `5`,
  not at `6`; `pull` returns position 2 of index `8`.
* `cfgB`: scores `WithBot ℚ`, `negInf = ⊥`: the `*_bot` form applies to every run. -/
namespace ExOptZ
open Zooming ZM OPTZ ZoomOpt _root_.PyXAB.Tree

def xstarQ : List ℚ := [1 / 3]
/-- the common boundary of the cells `3 = [1/2,3/4]` and `4 = [3/4,1]` of `st3` -/
def xbndQ : List ℚ := [3 / 4]

/-- a point `0 ≤ x ≤ 1` of `[0,1]` -/
theorem mem_dom01 {x : ℚ} (h0 : 0 ≤ x) (h1 : x ≤ 1) : Box.Mem dom01 [x] :=
  List.Forall₂.cons ⟨h0, h1⟩ List.Forall₂.nil

theorem xstarQ_mem : Box.Mem dom01 xstarQ := mem_dom01 (by decide +kernel) (by decide +kernel)

theorem xbndQ_mem : Box.Mem dom01 xbndQ := mem_dom01 (by decide +kernel) (by decide +kernel)

/-- the state after `init`: per arm `(cell, box of the cell, point, pulls, mean, index)` -/
theorem st0_view : st0.phase = 1 ∧ st0.arms.map (fun a =>
      (a.cell, cellBox st0.P a.cell, a.pt, a.pulls, a.avg, idx exCfg st0.phase a)) =
    [(1, [⟨0, 1 / 2⟩], [1 / 4], 0, 0, 4), (2, [⟨1 / 2, 1⟩], [3 / 4], 0, 0, 4)] := by
  decide +kernel

theorem st0_negInfLe : NegInfLe exCfg st0 := by
  show ∀ a ∈ st0.arms, exCfg.negInf ≤ idx exCfg st0.phase a
  decide +kernel

/-- **(1) instantiated**: some arm of `st0` is responsible for `1/3` -/
theorem st0_covers : ∃ a, CoversAt st0 xstarQ a :=
  (Zooming_cover_xstar dom01_valid good0 xstarQ_mem).imp fun _ h => h.1

/-- **the hypothesis `Optimistic` holds** after `init` for `xstar = 1/3`, `fstar = 4` -/
theorem st0_optimistic : Optimistic exCfg st0 st0.phase xstarQ 4 :=
  optimistic_of_check (by decide +kernel)

/-- … and fails for `fstar = 5` (the arm of the cell `[0,1/2] ∋ 1/3` has index 4): the
hypothesis is not vacuous in the other direction either -/
theorem st0_not_optimistic : ¬ Optimistic exCfg st0 st0.phase xstarQ 5 :=
  not_optimistic_of_witness 0 (by decide +kernel)

/-- **`Zooming_optimism` instantiated** after `init`: every hypothesis is discharged -/
theorem st0_optimism :
    ∃ i a, st0.arms[i]? = some a ∧
      pull exCfg st0 = .ok ({ st0 with best := some i }, i, a.pt) ∧
      (4 : ℚ) ≤ idx exCfg st0.phase a ∧
      ∀ b ∈ st0.arms, idx exCfg st0.phase b ≤ idx exCfg st0.phase a :=
  (Zooming_optimism dom01_valid good0 st0_negInfLe xstarQ_mem st0_optimistic).1

/-- the conclusion, for the `pull` which the kernel evaluates: position 1 (the LAST arm of
maximal index), point `3/4`, index 4 -/
theorem st0_pull : ((pl st0).2.1, (pl st0).2.2,
    st0.arms[(pl st0).2.1]?.map (idx exCfg st0.phase)) = (1, [3 / 4], some 4) := by
  decide +kernel

/-- the state after three rounds: per arm `(cell, box of the cell, point, pulls, mean, index)` -/
theorem st3_view : st3.phase = 2 ∧ st3.arms.map (fun a =>
      (a.cell, cellBox st3.P a.cell, a.pt, a.pulls, a.avg, idx exCfg st3.phase a)) =
    [(1, [⟨0, 1 / 2⟩], [1 / 4], 1, 1, 19 / 3), (3, [⟨1 / 2, 3 / 4⟩], [3 / 4], 2, 1, 5),
     (4, [⟨3 / 4, 1⟩], [7 / 8], 0, 0, 8)] := by
  decide +kernel

theorem st3_negInfLe : NegInfLe exCfg st3 := by
  show ∀ a ∈ st3.arms, exCfg.negInf ≤ idx exCfg st3.phase a
  decide +kernel

/-- `xstar = 1/3`: optimistic at `fstar = 6` (the arm of `[0,1/2]` has index `19/3`) … -/
theorem st3_optimistic : Optimistic exCfg st3 st3.phase xstarQ 6 :=
  optimistic_of_check (by decide +kernel)

/-- … and not at `fstar = 7` -/
theorem st3_not_optimistic : ¬ Optimistic exCfg st3 st3.phase xstarQ 7 :=
  not_optimistic_of_witness 0 (by decide +kernel)

/-- **`Zooming_optimism` instantiated** after three rounds -/
theorem st3_optimism :
    ∃ i a, st3.arms[i]? = some a ∧
      pull exCfg st3 = .ok ({ st3 with best := some i }, i, a.pt) ∧
      (6 : ℚ) ≤ idx exCfg st3.phase a ∧
      ∀ b ∈ st3.arms, idx exCfg st3.phase b ≤ idx exCfg st3.phase a :=
  (Zooming_optimism dom01_valid good3 st3_negInfLe xstarQ_mem st3_optimistic).1

/-- the fourth `pull`, evaluated: position 2 (the fresh arm of `[3/4,1]`), point `7/8`,
index `8 ≥ 6` — an arm whose cell does NOT contain `xstar` -/
theorem st3_pull : ((pl st3).2.1, (pl st3).2.2,
    st3.arms[(pl st3).2.1]?.map (idx exCfg st3.phase)) = (2, [7 / 8], some 8) := by
  decide +kernel

theorem pull3 : pull exCfg st3 = .ok ((pl st3).1, (pl st3).2.1, (pl st3).2.2) :=
  eq_ok_getOk (by decide +kernel)

/-- the second form of the conclusion, for that `pull` -/
theorem st3_pull_optimistic :
    ∃ a, st3.arms[(pl st3).2.1]? = some a ∧ (pl st3).2.2 = a.pt ∧
      (6 : ℚ) ≤ exCfg.indexOf a.avg st3.phase a.pulls := by
  obtain ⟨a, h1, h2, _, h3, _⟩ :=
    (Zooming_optimism dom01_valid good3 st3_negInfLe xstarQ_mem st3_optimistic).2 _ _ _ pull3
  exact ⟨a, h1, h2, h3⟩

/-- The boundary point `xstar = 3/4` lies in the cells of TWO active arms (indices 5 and 8):
`Optimistic` asks for both, so it holds at `fstar = 5` … -/
theorem st3_bnd_optimistic : Optimistic exCfg st3 st3.phase xbndQ 5 :=
  optimistic_of_check (by decide +kernel)

/-- … and fails at `fstar = 6` (witness: position 1, index 5), although the pulled arm, whose
cell also contains `3/4`, has index 8 -/
theorem st3_bnd_not_optimistic : ¬ Optimistic exCfg st3 st3.phase xbndQ 6 :=
  not_optimistic_of_witness 1 (by decide +kernel)

example : ∃ i a, st3.arms[i]? = some a ∧
    pull exCfg st3 = .ok ({ st3 with best := some i }, i, a.pt) ∧
    (5 : ℚ) ≤ idx exCfg st3.phase a ∧
    ∀ b ∈ st3.arms, idx exCfg st3.phase b ≤ idx exCfg st3.phase a :=
  (Zooming_optimism dom01_valid good3 st3_negInfLe xbndQ_mem st3_bnd_optimistic).1

/-- The optimism hypothesis cannot be dropped: at `fstar = 9` the state is not optimistic for
`1/3` and the pulled arm (index 8) is below `fstar`; `Zooming_not_optimistic_of_pull_lt` derives
the former from the latter. -/
example : ∃ c, CoversAt st3 xstarQ c ∧ idx exCfg st3.phase c < 9 ∧
    ¬ Optimistic exCfg st3 st3.phase xstarQ 9 := by
  obtain ⟨a, ha, _⟩ := (pull_inv pull3).2
  have h8 : (st3.arms[(pl st3).2.1]?.map (idx exCfg st3.phase)) = some 8 :=
    congrArg (fun t => t.2.2) st3_pull
  rw [ha] at h8
  simp only [Option.map_some, Option.some.injEq] at h8
  exact Zooming_not_optimistic_of_pull_lt dom01_valid good3 st3_negInfLe pull3 ha
    (by rw [h8]; decide +kernel) xstarQ_mem

/-- `Zooming_optimism_round` applies to round 3 of the run (`st2 → st3`, the refining round):
`st2` is optimistic for `1/3` at `fstar = 3`, hence the arm pulled in round 3 (position 1) had
index `≥ 3`. -/
example : ∃ a, st2.arms[(pl st2).2.1]? = some a ∧ (pl st2).2.2 = a.pt ∧
    (3 : ℚ) ≤ idx exCfg st2.phase a := by
  have hr : receive exCfg (pl st2).1 1 [d0] =
      .ok (st3, (getOk (receive exCfg (pl st2).1 1 [d0])).2) := eq_ok_getOk recvOk2
  exact (Zooming_optimism_round dom01_valid good2 negInfLe2 pull2 drawsOK_pulled2 hr xstarQ_mem
    (fstar := 3) (optimistic_of_check (by decide +kernel))).2

/-- the same formulas with index values in `WithBot ℚ` and `negInf = ⊥` (`-inf`) -/
def cfgB : ZoomCfg ℚ (WithBot ℚ) :=
  { negInf := ⊥, zero := ((0 : ℚ) : WithBot ℚ)
    indexOf := fun avg ph n => avg + ((8 * (ph : ℚ) / (2 + (n : ℚ)) : ℚ) : WithBot ℚ)
    upd := fun avg n r => WithBot.map (fun q => (q * (n : ℚ) + r) / ((n : ℚ) + 1)) avg
    refine := fun _ n d => decide (d + 1 ≤ n) }

/-- **`Zooming_optimism_bot` for this instance**: every hypothesis except the run and the
optimism of its last state is discharged; all runs, all points `x` of `[0,1]` given by a
coordinate `0 ≤ x ≤ 1`. -/
theorem optimism_B {s : Zooming ℚ (WithBot ℚ)} {H : List (Nat × ℚ)}
    (hG : GoodRun cfgB .binary dom01 s H) {x : ℚ} (h0 : 0 ≤ x) (h1 : x ≤ 1) {fstar : WithBot ℚ}
    (hO : Optimistic cfgB s s.phase [x] fstar) :
    ∃ i a, s.arms[i]? = some a ∧ pull cfgB s = .ok ({ s with best := some i }, i, a.pt) ∧
      fstar ≤ idx cfgB s.phase a ∧ ∀ b ∈ s.arms, idx cfgB s.phase b ≤ idx cfgB s.phase a :=
  Zooming_optimism_bot (fun _ => bot_le) dom01_valid hG (mem_dom01 h0 h1) hO

/-- reachable states of this instance exist (`init` with the draw `d0`), and the initial state
is optimistic for every point at the level `4 = 0 + 8*1/(2+0)` -/
example : ∃ s, GoodRun cfgB .binary dom01 s [] ∧
    ∀ x : List ℚ, Optimistic cfgB s s.phase x (((4 : ℚ) : WithBot ℚ)) := by
  obtain ⟨s, e, _, _, _, harms, hph, _⟩ :=
    C11.init_Cover cfgB .binary dom01 d0 [] dom01_valid (by decide) Nat.zero_lt_one
  refine ⟨s, GoodRun.init (d := d0) (ds := []) (by decide) Nat.zero_lt_one e,
    fun x => Optimistic.of_all ?_ x⟩
  intro a ha
  rw [harms] at ha
  obtain ⟨c, _, rfl⟩ := List.mem_map.1 ha
  rw [hph]
  show ((4 : ℚ) : WithBot ℚ) ≤ ((0 : ℚ) : WithBot ℚ) + ((8 * ((1 : ℕ) : ℚ) / (2 + ((0 : ℕ) : ℚ)) : ℚ) : WithBot ℚ)
  rw [← WithBot.coe_add, WithBot.coe_le_coe]
  decide +kernel

end ExOptZ
end PyXAB
