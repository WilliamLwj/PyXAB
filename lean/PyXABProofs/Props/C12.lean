/-
  Property C12 — the opening schedule of SequOOL.

  "SequOOL opens the root, then for depth h = 1, 2, ... opens at most floor(h_max/h) cells of
  depth h, never opening beyond depth h_max; each opened cell is an unopened cell of the current
  depth with the highest observed reward, and opening it evaluates each of its children exactly
  once, in order.  No search cell is evaluated twice; once the schedule is exhausted, further
  pulls return the domain centre (the root cell) and do not alter the recommendation."

  Setting (`Spec/SeqSpec.lean`): the documented loop `init; (pull; receive)*` is `SQ.round` /
  `SQ.runRounds` / `SQ.run`; the invariant between rounds is `SQ.Inv`; `SQ.SearchPull s s1 v`
  is the documented effect of one `pull` of the search phase; `SQ.expCount P h` counts the
  expanded cells of depth `h` (cells whose opening has at least started); `h_max` is the
  parameter `hmax` (the code computes `floor(n / H_n)` in floats; the test driver recomputes it
  with exact fractions, and `Props/SequOOLBudget.lean` takes `hmax = ⌊n / H_n⌋` over `ℚ`).
  Rewards live in a linear order `S` with a bottom element `negInf` (`-inf` of the code);
  draws are well-formed (`SQ.HeadOK`: `pull` expands at most one cell, one draw suffices).
  Lemmas: `Lemmas/SQ_*.lean`.
-/
import Mathlib.Data.Int.Order.Basic
import Mathlib.Data.Nat.Basic
import PyXABProofs.Lemmas.SQ_Sched

set_option linter.unusedSectionVars false
set_option linter.unusedVariables false

namespace PyXAB
namespace SQ
namespace C12
open Tree TBA

variable {α S : Type} [Add α] [Sub α] [Mul α] [Div α] [OfNat α 2] [NatCast α]
variable [LinearOrder S] [Inhabited S] {negInf : S}

/-- The state after `__init__` satisfies the invariant (for a partition class of arity `≥ 1`;
every well-formed draw witnesses this: `arity_pos_of_headOK`). -/
theorem init_Inv (k : Kind) (domain : Box α) (hmax : Nat) (hK : 1 ≤ k.arity domain.length) :
    Inv negInf (SequOOL.init k domain hmax : SequOOL α S) := by
  have hK' : 1 ≤ K (SequOOL.init k domain hmax : SequOOL α S).P := hK
  unfold Inv
  exact
    { wf := init_WF' k domain _
      K_pos := hK'
      cd_le := Nat.zero_le _
      cd_le_depth := Nat.zero_le _
      pdepth_le := Nat.zero_le _
      loc_lt := hK'
      chosen_eq := rfl
      mr_le := Nat.le_refl _
      len := rfl
      cd0 := fun _ => rfl
      rew := fun i nd hi => by
        obtain ⟨rfl, rfl⟩ := Part.getElem?_init.1 hi
        exact ⟨fun h => absurd h (Nat.not_succ_le_zero 0), fun _ => rfl⟩
      opened_ch := fun i nd hi ho => by
        obtain ⟨_, rfl⟩ := Part.getElem?_init.1 hi
        cases ho
      ch_depth := fun i nd cs hi hc => by
        obtain ⟨_, rfl⟩ := Part.getElem?_init.1 hi
        cases hc
      ch_opened := fun i nd cs hi hc => by
        obtain ⟨_, rfl⟩ := Part.getElem?_init.1 hi
        cases hc
      opening := nofun
      unopened := fun h => absurd h (Nat.not_succ_le_zero 0)
      budget := fun h => absurd h (Nat.not_succ_le_zero 0)
      sched := fun h h1 h2 => absurd h2 (Nat.not_lt_zero _) }

theorem arity_pos_of_headOK {k : Kind} {n : Nat} {ds : List (Draw α)} (h : HeadOK k n ds) :
    1 ≤ k.arity n := by
  obtain ⟨d, _, _, hd⟩ := h.cons
  exact arity_pos_of_drawOK hd

/-- `pull` never raises from an invariant state (no `IndexError` from `get_reward()` of an
unevaluated cell, no `None` dereference of `max_node`: the current layer always contains an
evaluated unopened cell). -/
theorem pull_total (hbot : ∀ x : S, negInf ≤ x) {s : SequOOL α S} (I : Inv negInf s) (t : Nat)
    {ds : List (Draw α)} (hds : HeadOK s.P.kind (dimn s.P) ds) :
    ∃ s1 ds1 v, SequOOL.pull negInf s t ds = .ok (s1, ds1, v) := by
  by_cases hex : Exhausted s
  · exact ⟨_, _, _, pull_exhausted I.wf hex t ds⟩
  · obtain ⟨s1, ds1, h, _⟩ := pull_search hbot (t := t) I (Nat.le_of_not_lt hex) hds
    exact ⟨s1, ds1, _, h⟩

/-- `receive` after a `pull` never raises and re-establishes the invariant. -/
theorem receive_total (hbot : ∀ x : S, negInf ≤ x) {s s1 : SequOOL α S} (I : Inv negInf s)
    {t v : Nat} {ds ds1 : List (Draw α)} (hds : HeadOK s.P.kind (dimn s.P) ds)
    (hp : SequOOL.pull negInf s t ds = .ok (s1, ds1, v)) (r : S) :
    ∃ s2, SequOOL.receive s1 r = .ok s2 ∧ Inv negInf s2 := by
  by_cases hex : Exhausted s
  · rw [pull_exhausted I.wf hex t ds] at hp
    simp only [Except.ok.injEq, Prod.mk.injEq] at hp
    obtain ⟨rfl, _, _⟩ := hp
    exact ⟨_, receive_eq rfl r, (round_exhausted I hex t r ds).2⟩
  · obtain ⟨s1', ds1', h, M, _⟩ := pull_search hbot (t := t) I (Nat.le_of_not_lt hex) hds
    rw [h] at hp
    simp only [Except.ok.injEq, Prod.mk.injEq] at hp
    obtain ⟨rfl, _, _⟩ := hp
    exact ⟨_, (receive_mid M r).1, (receive_mid M r).2⟩

/-- What makes the scan of `pull` succeed: while a depth `1 ≤ currDepth ≤ hmax` is being
processed its layer exists, every cell of the layer has been evaluated (exactly one reward), and
at least one of them is unopened. -/
theorem current_layer {s : SequOOL α S} (I : Inv negInf s) (h1 : 1 ≤ s.currDepth)
    (h2 : s.currDepth ≤ s.hmax) :
    ∃ layer, s.P.layers[s.currDepth]? = some layer ∧
      (∀ id ∈ layer, ∃ nd r, s.P.nodes[id]? = some nd ∧ nd.depth = s.currDepth ∧
        nd.st.rewards = [r]) ∧
      ∃ id ∈ layer, isUnopened s.P id = true := by
  obtain ⟨layer, id, a1, a2, a3⟩ := I.unopened h1 h2
  refine ⟨layer, a1, fun i hi => ?_, id, a2, a3⟩
  obtain ⟨b1, b2⟩ := Core.layer_le I h1 a1 hi
  obtain ⟨nd, n1, n2⟩ := (I.wf.mem_layer_iff a1 i).1 hi
  have := (I.rew i nd n1).1 b1 b2
  match hr : nd.st.rewards, this with
  | [r], _ => exact ⟨nd, r, n1, n2, hr⟩

/-- One round never raises and keeps the invariant (as well as `hmax`, the partition class and
the dimension). -/
theorem round_total (hbot : ∀ x : S, negInf ≤ x) {s : SequOOL α S} (I : Inv negInf s) (t : Nat)
    (r : S) {ds : List (Draw α)} (hds : HeadOK s.P.kind (dimn s.P) ds) :
    ∃ s2 v, round negInf s t r ds = .ok (s2, v) ∧ Inv negInf s2 ∧ s2.hmax = s.hmax ∧
      s2.P.kind = s.P.kind ∧ dimn s2.P = dimn s.P := by
  obtain ⟨s2, v, h1, h2, h3, h4, h5, _⟩ := round_inv hbot I t r hds
  exact ⟨s2, v, h1, h2, h3, h4, h5⟩

/-- **Totality of the loop** from any invariant state, for any number of rounds. -/
theorem loop_total (hbot : ∀ x : S, negInf ≤ x) {s : SequOOL α S} (I : Inv negInf s) (t : Nat)
    (inputs : List (S × List (Draw α))) (hin : InputsOK s.P.kind (dimn s.P) inputs) :
    ∃ s' H, runRounds negInf s t inputs = .ok (s', H) ∧ Inv negInf s' ∧
      H.length = inputs.length ∧ H.map (·.2) = inputs.map (·.1) ∧ s'.hmax = s.hmax := by
  obtain ⟨s', H, h1, h2, h3, _, _, h6, _⟩ := runRounds_inv hbot inputs s t I hin
  refine ⟨s', H, h1, h2, ?_, h6, h3⟩
  have := congrArg List.length h6
  simpa using this

/-- Construction followed by any number of rounds: the invariant holds at the end. -/
theorem run_inv (hbot : ∀ x : S, negInf ≤ x) (k : Kind) (domain : Box α) (hmax : Nat)
    (hK : 1 ≤ k.arity domain.length) (inputs : List (S × List (Draw α)))
    (hin : InputsOK k domain.length inputs) :
    ∃ s' H, run negInf k domain hmax inputs = .ok (s', H) ∧ Inv negInf s' ∧
      H.length = inputs.length ∧ H.map (·.2) = inputs.map (·.1) ∧ s'.hmax = hmax :=
  loop_total hbot (init_Inv k domain hmax hK) 1 inputs hin

/-- **The documented loop never raises** (no hypothesis on the arity: it is witnessed by the
first draw). -/
theorem run_total (hbot : ∀ x : S, negInf ≤ x) (k : Kind) (domain : Box α) (hmax : Nat)
    (inputs : List (S × List (Draw α))) (hin : InputsOK k domain.length inputs) :
    ∃ s' H, run negInf k domain hmax inputs = .ok (s', H) ∧ H.length = inputs.length := by
  cases inputs with
  | nil => exact ⟨_, [], rfl, rfl⟩
  | cons x rest =>
    have hK := arity_pos_of_headOK (hin x (List.mem_cons_self ..))
    obtain ⟨s', H, h1, _, h3, _⟩ := run_inv hbot k domain hmax hK (x :: rest) hin
    exact ⟨s', H, h1, h3⟩

/-- `expCount P h` is the number of cells of depth `h` which have a child list. -/
theorem expCount_eq {σ : Type} {P : Part α σ} (W : WF P) (h : Nat) :
    expCount P h = ((List.range P.nodes.length).filter (fun i =>
      (P.nodes[i]?.map (·.depth)) == some h && isExp P i)).length := by
  rw [expCount_countP W, List.countP_eq_length_filter]

/-- **Schedule**: in every reachable state, for every depth `h ≥ 1`, at most `hmax / h` cells of
depth `h` have been opened (even partially). -/
theorem schedule {s : SequOOL α S} (I : Inv negInf s) {h : Nat} (h1 : 1 ≤ h) :
    expCount s.P h ≤ s.hmax / h := I.schedule h1

/-- While depth `currDepth ≥ 1` is being processed, the remaining budget `b` satisfies
`1 ≤ b ≤ hmax / currDepth`; the number of expanded cells of this depth plus `b` is
`hmax / currDepth` (plus one while an opening is in progress). -/
theorem budget_bounds {s : SequOOL α S} (I : Inv negInf s) (h1 : 1 ≤ s.currDepth)
    (h2 : s.currDepth ≤ s.hmax) :
    ∃ b, s.budget = some b ∧ 1 ≤ b ∧ b ≤ s.hmax / s.currDepth ∧
      expCount s.P s.currDepth + b = s.hmax / s.currDepth + (if s.loc = 0 then 0 else 1) := by
  obtain ⟨b, b1, b2⟩ := I.budget h1
  obtain ⟨c1, c2, c3⟩ := b2 h2
  refine ⟨b, b1, c1, c2, ?_⟩
  rw [c3]
  by_cases hl : s.loc = 0
  · simp [hl]
  · have : 0 < s.loc := by omega
    simp [hl, this]

/-- No cell of depth `> hmax` is ever opened, no cell of depth `> hmax + 1` is ever created
(hence handed out), and `currDepth ≤ hmax + 1`, `loc < K`. -/
theorem depth_bounds {s : SequOOL α S} (I : Inv negInf s) :
    s.currDepth ≤ s.hmax + 1 ∧ s.loc < K s.P ∧
    ∀ (i : Nat) (nd : Node α (SqSt S)), s.P.nodes[i]? = some nd →
      nd.depth ≤ s.hmax + 1 ∧ (nd.children ≠ none → nd.depth ≤ s.hmax) ∧
      (nd.st.opened = true → 1 ≤ nd.depth ∧ nd.depth ≤ s.hmax) := by
  refine ⟨I.cd_le, I.loc_lt, fun i nd hi => ⟨(I.depth_bounds hi).1, (I.depth_bounds hi).2, ?_⟩⟩
  intro ho
  obtain ⟨a1, cs, a2, _⟩ := I.opened_ch i nd hi ho
  exact ⟨a1, (I.ch_depth i nd cs hi a2).1⟩

/-- The schedule over any run of the documented loop. -/
theorem run_schedule (hbot : ∀ x : S, negInf ≤ x) (k : Kind) (domain : Box α) (hmax : Nat)
    (hK : 1 ≤ k.arity domain.length) (inputs : List (S × List (Draw α)))
    (hin : InputsOK k domain.length inputs) {s' : SequOOL α S} {H : List (Nat × S)}
    (hrun : run negInf k domain hmax inputs = .ok (s', H)) :
    (∀ h, 1 ≤ h → expCount s'.P h ≤ hmax / h) ∧
    (∀ (i : Nat) (nd : Node α (SqSt S)), s'.P.nodes[i]? = some nd →
      nd.depth ≤ hmax + 1 ∧ (nd.children ≠ none → nd.depth ≤ hmax)) := by
  obtain ⟨I, _, _, h5⟩ := ListAux.of_eq_ok₂ (run_inv hbot k domain hmax hK inputs hin) hrun
  rw [← h5]
  exact ⟨fun h hh => I.schedule hh, fun i nd hi => I.depth_bounds hi⟩

/-- **The root is opened first**: the first `K` pulls hand out the children `1, …, K` of the
root, in this order, and then depth 1 is entered with budget `hmax / 1`. -/
theorem root_first (hbot : ∀ x : S, negInf ≤ x) (k : Kind) (domain : Box α) (hmax : Nat)
    (inputs : List (S × List (Draw α))) (hlen : inputs.length = k.arity domain.length)
    (hne : inputs ≠ []) (hin : InputsOK k domain.length inputs) :
    ∃ s' H r, run negInf k domain hmax inputs = .ok (s', H) ∧ Inv negInf s' ∧
      s'.P.nodes[0]? = some r ∧ r.children = some (List.range' 1 (k.arity domain.length)) ∧
      H.map (·.1) = List.range' 1 (k.arity domain.length) ∧ s'.chosen = H.map (·.1) ∧
      s'.currDepth = 1 ∧ s'.loc = 0 ∧ s'.budget = some hmax := by
  obtain ⟨x, hx⟩ := List.exists_mem_of_ne_nil inputs hne
  have hK := arity_pos_of_headOK (hin x hx)
  have I0 : Inv negInf (SequOOL.init k domain hmax : SequOOL α S) := init_Inv k domain hmax hK
  obtain ⟨s', H, tgt, tn, cs, ⟨h1, I', h3, h4, _, h6, h7, h8, h9, h10, _⟩, h12⟩ :=
    opening_complete hbot I0 rfl (Nat.zero_le _) 1 (inputs := inputs) hlen hin
  obtain rfl : tgt = 0 := h4.1 rfl
  have hcs : cs = List.range' 1 (k.arity domain.length) := h8
  subst hcs
  have hc : s'.chosen = List.range' 1 (k.arity domain.length) := by simpa [SequOOL.init] using h10
  obtain ⟨d1, d2⟩ := h12 rfl
  exact ⟨s', H, tn, h1, I', h6, h7, h9, by rw [hc, h9], d1, h3,
    by simpa [SequOOL.init] using d2⟩

/-- **One `pull` of the search phase** (`SearchPull`): the cell being opened is the selected
cell of the current depth (`Selected`: the root at depth 0, otherwise the last unopened cell of
the layer with maximal first reward); when the opening starts (`loc = 0`) it is a leaf and gets
the `K` new children `n, …, n+K-1`; the handed-out cell is its child number `loc`; the last
child flags the cell `opened`, decrements the budget and advances the depth exactly when the
budget reaches 0 or the cell was the last unopened one of its depth. -/
theorem pull_search_spec (hbot : ∀ x : S, negInf ≤ x) {s : SequOOL α S} (I : Inv negInf s)
    (hne : ¬ Exhausted s) (t : Nat) {ds : List (Draw α)}
    (hds : HeadOK s.P.kind (dimn s.P) ds) :
    ∃ s1 ds1 v, SequOOL.pull negInf s t ds = .ok (s1, ds1, v) ∧ SearchPull s s1 v := by
  obtain ⟨s1, ds1, h, _, SP⟩ := pull_search hbot (t := t) I (Nat.le_of_not_lt hne) hds
  exact ⟨s1, ds1, _, h, SP⟩

/-- What `Selected` means at a search depth: the cell lies in the current layer, is unopened,
was evaluated, and no unopened cell of the layer has a larger first reward. -/
theorem selected_max {s : SequOOL α S} {tgt : Nat} (h : Selected s tgt) (h1 : 1 ≤ s.currDepth) :
    ∃ layer rt, s.P.layers[s.currDepth]? = some layer ∧ tgt ∈ layer ∧
      isUnopened s.P tgt = true ∧ firstRew s.P tgt = some rt ∧
      ∀ id ∈ layer, isUnopened s.P id = true → ∀ r, firstRew s.P id = some r → r ≤ rt := by
  obtain ⟨layer, hl, harg⟩ := h.2 h1
  obtain ⟨rt, a1, a2⟩ := harg.max
  exact ⟨layer, rt, hl, harg.mem, harg.unopened, a1, a2⟩

/-- **An opening in progress** (`loc > 0`, between two rounds): the cell `t` being opened is the
selected cell of the current depth (the scan keeps returning it), it is not yet flagged, and of
its `K` children exactly the first `loc` have been handed out. -/
theorem opening_in_progress (hbot : ∀ x : S, negInf ≤ x) {s : SequOOL α S} (I : Inv negInf s)
    (hl : 0 < s.loc) :
    ∃ (t : Nat) (tn : Node α (SqSt S)) (cs : List Nat), s.P.nodes[t]? = some tn ∧
      tn.depth = s.currDepth ∧ s.currDepth ≤ s.hmax ∧ Selected s t ∧ tn.children = some cs ∧
      cs.length = K s.P ∧ (1 ≤ s.currDepth → tn.st.opened = false) ∧
      ∀ j c, cs[j]? = some c → (c ∈ s.chosen ↔ j < s.loc) := by
  have C := I.core_opening hl
  obtain ⟨tgt, num, nd, _, hnd, hdep, hch, hsel, hsc⟩ := C.target_opening
  obtain ⟨_, _, _, _, t3, t4, _, _⟩ := C.opening rfl
  refine ⟨tgt, nd, _, hnd, hdep, t3, hsel, hch, by simp, fun h => (hsc h).1, fun j c hj => ?_⟩
  have hjK : j < K s.P := by simpa using lt_length_of_getElem? hj
  rw [List.getElem?_range' hjK] at hj
  have hc : c = 1 + s.chosen.length - s.loc + j := by simpa using hj.symm
  rw [I.mem_chosen]
  omega

/-- **One complete opening**: from a state between openings (`loc = 0`, schedule not
exhausted), the next `K` rounds open the selected cell `tgt`, which is a leaf: they hand out its
children `cs[0], …, cs[K-1]` in this order, one per round, each exactly once; afterwards
`loc = 0` again and (at a search depth) the cell is flagged `opened`. -/
theorem opening_complete (hbot : ∀ x : S, negInf ≤ x) {s : SequOOL α S} (I : Inv negInf s)
    (hl0 : s.loc = 0) (hne : ¬ Exhausted s) (t : Nat) {inputs : List (S × List (Draw α))}
    (hlen : inputs.length = K s.P) (hin : InputsOK s.P.kind (dimn s.P) inputs) :
    ∃ s' H tgt tn cs, runRounds negInf s t inputs = .ok (s', H) ∧ Inv negInf s' ∧ s'.loc = 0 ∧
      Selected s tgt ∧ s.P.isLeaf tgt = true ∧ s'.P.nodes[tgt]? = some tn ∧
      tn.children = some cs ∧ cs = List.range' s.P.nodes.length (K s.P) ∧ H.map (·.1) = cs ∧
      s'.chosen = s.chosen ++ cs ∧ (1 ≤ s.currDepth → tn.st.opened = true) := by
  obtain ⟨s', H, tgt, tn, cs, h, _⟩ :=
    SQ.opening_complete hbot I hl0 (Nat.le_of_not_lt hne) t hlen hin
  exact ⟨s', H, tgt, tn, cs, h⟩

/-- The `opened` flag of a search cell is set exactly when all of its children have been handed
out. -/
theorem opened_iff {s : SequOOL α S} (I : Inv negInf s) {i : Nat} {nd : Node α (SqSt S)}
    (hi : s.P.nodes[i]? = some nd) (hd : 1 ≤ nd.depth) :
    nd.st.opened = true ↔ ∃ cs, nd.children = some cs ∧ ∀ c ∈ cs, c ∈ s.chosen :=
  I.opened_iff hi hd

/-- **`no_double_eval`**: while the schedule is not exhausted, every `pull` hands out a cell
that was never handed out before (it is not the root either, and has no reward yet). -/
theorem no_double_eval (hbot : ∀ x : S, negInf ≤ x) {s s1 : SequOOL α S} (I : Inv negInf s)
    (hne : ¬ Exhausted s) {t v : Nat} {ds ds1 : List (Draw α)}
    (hds : HeadOK s.P.kind (dimn s.P) ds)
    (hp : SequOOL.pull negInf s t ds = .ok (s1, ds1, v)) :
    v ∉ s.chosen ∧ v ≠ 0 ∧ s1.chosen = s.chosen ++ [v] ∧
      ∃ nd, s1.P.nodes[v]? = some nd ∧ nd.st.rewards = [] := by
  obtain ⟨s1', ds1', h, M, SP⟩ := pull_search hbot (t := t) I (Nat.le_of_not_lt hne) hds
  rw [h] at hp
  simp only [Except.ok.injEq, Prod.mk.injEq] at hp
  obtain ⟨rfl, _, rfl⟩ := hp
  have hcell := M.last_cell
  rw [SP.chosen, List.length_append] at hcell
  exact ⟨fun hm => absurd (I.mem_chosen.1 hm).2 (Nat.not_succ_le_self _), Nat.succ_ne_zero _,
    SP.chosen, hcell⟩

/-- `chosen` lists the handed-out search cells without duplicates; the root is not among them. -/
theorem chosen_nodup {s : SequOOL α S} (I : Inv negInf s) : s.chosen.Nodup ∧ 0 ∉ s.chosen :=
  ⟨I.chosen_eq ▸ List.nodup_range', I.root_not_chosen⟩

/-- Every handed-out search cell has exactly one reward; every other search cell none. -/
theorem rewards_once {s : SequOOL α S} (I : Inv negInf s) {i : Nat} {nd : Node α (SqSt S)}
    (hi : s.P.nodes[i]? = some nd) (h0 : i ≠ 0) :
    (i ∈ s.chosen → nd.st.rewards.length = 1) ∧ (i ∉ s.chosen → nd.st.rewards = []) := by
  constructor
  · intro h
    obtain ⟨h1, h2⟩ := I.mem_chosen.1 h
    exact (I.rew i nd hi).1 h1 h2
  · intro h
    apply (I.rew i nd hi).2
    apply Nat.lt_of_not_le
    intro hle
    exact h (I.mem_chosen.2 ⟨by omega, hle⟩)

/-- **The history of a run**: the search phase hands out the cells `m+1, m+2, …, m+j` (creation
order: pairwise distinct, none handed out before), each of which ends up with exactly the reward
received in its round; the remaining rounds (schedule exhausted) hand out the root `0`. -/
theorem history (hbot : ∀ x : S, negInf ≤ x) {s s' : SequOOL α S} (I : Inv negInf s) (t : Nat)
    (inputs : List (S × List (Draw α))) (hin : InputsOK s.P.kind (dimn s.P) inputs)
    {H : List (Nat × S)} (hrun : runRounds negInf s t inputs = .ok (s', H)) :
    ∃ j, j ≤ inputs.length ∧
      H.map (·.1) = List.range' (s.chosen.length + 1) j ++ List.replicate (inputs.length - j) 0 ∧
      s'.chosen = s.chosen ++ List.range' (s.chosen.length + 1) j ∧
      (j < inputs.length → Exhausted s') ∧ (Exhausted s → j = 0) ∧
      (∀ e ∈ H, e.1 ≠ 0 → ∃ nd, s'.P.nodes[e.1]? = some nd ∧ nd.st.rewards = [e.2]) := by
  obtain ⟨_, _, _, _, _, _, j, j1, j2, j3, j4, j5, _⟩ :=
    ListAux.of_eq_ok₂ (runRounds_inv hbot inputs s t I hin) hrun
  exact ⟨j, j1, j5, j4, j3, j2, (ListAux.of_eq_ok₂ (run_frame hbot inputs s t I hin) hrun).2.2⟩

/-- **Once the schedule is exhausted**, `pull` returns the root id `0`, and the round changes
nothing but `iteration`, `curr` and the reward list of the root: `chosen`, `currDepth`, the
tree skeleton and the rewards of all `chosen` cells are those of `s`; the invariant, exhaustion
and the recommendation `lastPoint` are kept. -/
theorem exhausted_round {s : SequOOL α S} (I : Inv negInf s) (hex : Exhausted s) (t : Nat)
    (r : S) (ds : List (Draw α)) :
    SequOOL.pull negInf s t ds = .ok ({ s with iteration := t, curr := some 0 }, ds, 0) ∧
    round negInf s t r ds = .ok (credit { s with iteration := t, curr := some 0 } 0 r, 0) ∧
    Inv negInf (credit { s with iteration := t, curr := some 0 } 0 r) ∧
    Exhausted (credit { s with iteration := t, curr := some 0 } 0 r) ∧
    SequOOL.lastPoint negInf (credit { s with iteration := t, curr := some 0 } 0 r) =
      SequOOL.lastPoint negInf s :=
  ⟨pull_exhausted I.wf hex t ds, (round_exhausted I hex t r ds).1, (round_exhausted I hex t r ds).2,
    hex, lastPoint_credit r I.root_not_chosen rfl rfl⟩

/-- the effect of `credit … 0 r` on the arena, spelled out: same skeleton, and only the reward
list of the root changes -/
theorem credit_root_frame (s : SequOOL α S) (r : S) :
    (credit s 0 r).chosen = s.chosen ∧ (credit s 0 r).currDepth = s.currDepth ∧
    (credit s 0 r).P.layers = s.P.layers ∧ (credit s 0 r).P.depth = s.P.depth ∧
    (credit s 0 r).P.nodes.length = s.P.nodes.length ∧
    ∀ (i : Nat) (nd : Node α (SqSt S)), s.P.nodes[i]? = some nd →
      ∃ nd', (credit s 0 r).P.nodes[i]? = some nd' ∧ Skel nd nd' ∧
        nd'.st.opened = nd.st.opened ∧ (i ≠ 0 → nd'.st = nd.st) := by
  have R := PRel_modifySt s.P 0 (fun st : SqSt S => { st with rewards := st.rewards ++ [r] })
  refine ⟨rfl, rfl, rfl, rfl, R.len, fun i nd hi => ?_⟩
  obtain ⟨nd', n1, n2, n3⟩ := R.node i nd hi
  refine ⟨nd', n1, n2, ?_, fun h => ?_⟩
  · rw [n3]; split <;> rfl
  · rw [n3]; simp [h]

/-- **Once exhausted, always exhausted**: any number of further rounds (whatever the draws)
return the root, and leave `chosen`, the depth and the recommendation unchanged. -/
theorem exhausted_stays {s : SequOOL α S} (I : Inv negInf s) (hex : Exhausted s) (t : Nat)
    (inputs : List (S × List (Draw α))) :
    ∃ s', runRounds negInf s t inputs = .ok (s', inputs.map (fun x => (0, x.1))) ∧
      Inv negInf s' ∧ Exhausted s' ∧ s'.chosen = s.chosen ∧ s'.currDepth = s.currDepth ∧
      SequOOL.lastPoint negInf s' = SequOOL.lastPoint negInf s := by
  induction inputs generalizing s t with
  | nil => exact ⟨s, rfl, I, hex, rfl, rfl, rfl⟩
  | cons x rest ih =>
    obtain ⟨h1, I2⟩ := round_exhausted I hex t x.1 x.2
    obtain ⟨s', g1, I', g2, g3, g4, g6⟩ := ih I2 hex (t + 1)
    refine ⟨s', by simp only [runRounds, h1, g1, List.map_cons], I', g2, g3, g4, ?_⟩
    rw [g6]
    exact lastPoint_credit x.1 I.root_not_chosen rfl rfl

/-- The root cell `0` is the domain: its box is the `domain` given to `__init__`, throughout
any run (so the point returned in the exhausted phase is the domain centre). -/
theorem root_is_domain (hbot : ∀ x : S, negInf ≤ x) (k : Kind) (domain : Box α) (hmax : Nat)
    (hK : 1 ≤ k.arity domain.length) (inputs : List (S × List (Draw α)))
    (hin : InputsOK k domain.length inputs) {s' : SequOOL α S} {H : List (Nat × S)}
    (hrun : run negInf k domain hmax inputs = .ok (s', H)) :
    ∃ r, s'.P.nodes[0]? = some r ∧ r.box = domain := by
  obtain ⟨nd', h1, h2, _⟩ :=
    (ListAux.of_eq_ok₂ (run_frame hbot inputs _ 1 (init_Inv k domain hmax hK) hin) hrun).2.1 0 _ rfl
  exact ⟨nd', h1, h2⟩

section examples

/-- the square `[0,8] × [0,8]` -/
def dom2 : Box Nat := [⟨0, 8⟩, ⟨0, 8⟩]
def dr (dim : Nat) : Draw Nat := ⟨dim, []⟩

/-- twelve rounds: rewards of both signs; one draw per round -/
def inputs12 : List (Int × List (Draw Nat)) :=
  [(-3, [dr 0]), (5, [dr 0]), (1, [dr 1]), (7, [dr 1]), (-2, [dr 1]), (7, [dr 1]),
   (2, [dr 0]), (9, [dr 0]), (4, [dr 1]), (-1, [dr 1]), (6, [dr 0]), (8, [dr 0])]

/-- the run: `hmax = 3`, `-inf := -1000`; `none` if the loop raised -/
def run12 : Option (SequOOL Nat Int × List (Nat × Int)) :=
  (run (-1000 : Int) .binary dom2 3 inputs12).toOption

example : InputsOK Kind.binary dom2.length inputs12 := by decide

/-- the loop succeeds (as `run_total` predicts) -/
example : run12.isSome = true := by decide +kernel

/-- handed-out cells: the search phase hands out `1 … 10` in creation order; the schedule
(root; 2 cells of depth 1 — only two exist; `3/2 = 1` cell of depth 2; `3/3 = 1` cell of
depth 3) is then exhausted and the last two pulls return the root `0`. -/
example : run12.map (fun p => p.2.map (·.1)) = some [1, 2, 3, 4, 5, 6, 7, 8, 9, 10, 0, 0] := by
  decide +kernel

example : run12.map (fun p => p.1.chosen) = some [1, 2, 3, 4, 5, 6, 7, 8, 9, 10] := by
  decide +kernel

/-- the opened cells, in the final tree: cell 2 (reward 5) was opened before cell 1 (reward
-3) — its children are 3, 4 — then, at depth 2, cell 6 (the last of the two cells with the
maximal reward 7), at depth 3 cell 8 (reward 9). -/
example : run12.map (fun p => p.1.P.nodes.map (fun nd => (nd.st.opened, nd.children))) = some
    [(false, some [1, 2]), (true, some [5, 6]), (true, some [3, 4]), (false, none), (false, none),
     (false, none), (true, some [7, 8]), (false, none), (true, some [9, 10]), (false, none),
     (false, none)] := by decide +kernel

/-- reward lists: one reward per search cell, the two late rewards at the root -/
example : run12.map (fun p => p.1.P.nodes.map (fun nd => nd.st.rewards)) = some
    [[6, 8], [-3], [5], [1], [7], [-2], [7], [2], [9], [4], [-1]] := by decide +kernel

example : run12.map (fun p => (p.1.currDepth, p.1.hmax, p.1.P.depth, p.1.P.layers)) =
    some (4, 3, 4, [[0], [1, 2], [3, 4, 5, 6], [7, 8], [9, 10]]) := by decide +kernel

/-- the state after 5 rounds: the opening of cell 1 is in progress (`loc = 1`), the budget of
depth 1 is 2 of 3 -/
example : (run (-1000 : Int) .binary dom2 3 (inputs12.take 5)).toOption.map
    (fun p => (p.1.loc, p.1.currDepth, p.1.budget, p.1.chosen)) =
    some (1, 1, some 2, [1, 2, 3, 4, 5]) := by decide +kernel

/-- rewards in `Nat` with `-inf := 0` (a bottom element), the draws of `inputs12` -/
def inputsN : List (Nat × List (Draw Nat)) :=
  [(3, [dr 0]), (5, [dr 0]), (1, [dr 1]), (7, [dr 1]), (2, [dr 1]), (7, [dr 1]),
   (2, [dr 0]), (9, [dr 0]), (4, [dr 1]), (1, [dr 1]), (6, [dr 0]), (8, [dr 0])]

/-- the hypotheses of `run_inv` and `root_first` are satisfiable: the run succeeds, ends in an
invariant state, and the first two pulls hand out the children of the root -/
example : ∃ s' H, run (0 : Nat) .binary dom2 3 inputsN = .ok (s', H) ∧ Inv (0 : Nat) s' ∧
    H.length = 12 ∧ s'.hmax = 3 := by
  obtain ⟨s', H, h1, h2, h3, _, h5⟩ := run_inv (negInf := (0 : Nat)) Nat.zero_le .binary dom2 3
    (by decide) inputsN (by decide)
  exact ⟨s', H, h1, h2, h3, h5⟩

example : ∃ s' H r, run (0 : Nat) .binary dom2 3 (inputsN.take 2) = .ok (s', H) ∧
    s'.P.nodes[0]? = some r ∧ r.children = some [1, 2] ∧ H.map (·.1) = [1, 2] ∧
    s'.currDepth = 1 ∧ s'.budget = some 3 := by
  obtain ⟨s', H, r, h1, _, h3, h4, h5, _, h7, _, h9⟩ := root_first (negInf := (0 : Nat))
    Nat.zero_le .binary dom2 3 (inputsN.take 2) (by decide) (by decide) (by decide)
  exact ⟨s', H, r, h1, h3, h4, h5, h7, h9⟩

/-- the same run, evaluated -/
example : (run (0 : Nat) .binary dom2 3 inputsN).toOption.map (fun p => p.2.map (·.1)) =
    some [1, 2, 3, 4, 5, 6, 7, 8, 9, 10, 0, 0] := by decide +kernel

end examples

end C12
end SQ
end PyXAB
