/-
  Property C13 — the ranking, sampling and credit assignment of VROOM.

  "At every pull the ranks VROOM assigns within each depth 1..floor(log2 n) form a permutation of
  1..2^h that is non-increasing in the cells' lower confidence value, and a cell of depth h and
  rank r is drawn with probability 1/(h*r*C) where C normalises these weights to sum to one.  The
  returned point is drawn from a descendant (down to the depth cap) of the drawn cell and
  therefore lies in that cell, and the reward is credited to the drawn cell and the descendants
  on that path."

  Quantifier: binary-child partitions (`Tree.K P = 2`, see `arity_two`), every reward history,
  every outcome of the internal sampling (`PullDrawsOK` / `InitDrawsOK` state what NumPy
  guarantees about the random choices; `pullDrawsOK_of_simple` / `initDrawsOK_of_simple` are
  simple sufficient conditions).  Theorems which do not need arity 2 are stated for every arity.

  Definitions: `Spec/VroomSpec.lean`; proofs of the lemmas: `Lemmas/VR_*.lean`.
  `sd` = `search_depth` = floor(log2 n), `hmax` = the depth cap.
-/
import PyXABProofs.Lemmas.VR_Recv
import PyXABProofs.Lemmas.VR_Example

set_option linter.unusedSectionVars false

namespace PyXAB
namespace C13
open VR VROOM _root_.PyXAB.Tree

section sorting
variable {S : Type} [LinearOrder S]

/-- `sorted(nodes, key, reverse=True)` permutes its input. -/
theorem sortDesc_perm (key : Nat → S) (l : List Nat) : (sortDesc key l).Perm l :=
  VR.sortDesc_perm key l

/-- … sorts by non-increasing key. -/
theorem sortDesc_sorted (key : Nat → S) (l : List Nat) :
    (sortDesc key l).Pairwise (fun a b => key b ≤ key a) :=
  VR.sortDesc_sorted key l

/-- … and is stable: the elements of any given key keep their order. -/
theorem sortDesc_stable_filter (key : Nat → S) (l : List Nat) (k : S) :
    (sortDesc key l).filter (fun a => decide (key a = k)) =
      l.filter (fun a => decide (key a = k)) :=
  VR.sortDesc_stable_filter key l k

/-- Stability, "occurs before" form (no `Nodup` needed): if `a` occurs before `b` in `l` and
they have equal keys then `a` occurs before `b` in the sorted list. -/
theorem sortDesc_stable (key : Nat → S) (l : List Nat) {a b : Nat}
    (hab : Before a b l) (hk : key a = key b) : Before a b (sortDesc key l) :=
  VR.sortDesc_stable key l hab hk

/-- "occurs before", by positions -/
theorem before_iff {a b : Nat} {l : List Nat} :
    Before a b l ↔ ∃ i j : Nat, i < j ∧ l[i]? = some a ∧ l[j]? = some b := by
  constructor
  · intro h
    obtain ⟨r₁, r₂, rfl, ha, hb⟩ := List.cons_sublist_iff.1 h
    obtain ⟨i, hi⟩ := List.mem_iff_getElem?.1 ha
    obtain ⟨j, hj⟩ := List.mem_iff_getElem?.1 (List.singleton_sublist.1 hb)
    have hil := lt_length_of_getElem? hi
    exact ⟨i, r₁.length + j, Nat.lt_add_right j hil, (List.getElem?_append_left hil).trans hi,
      (List.getElem?_append_right (Nat.le_add_right _ _)).trans
        ((congrArg (r₂[·]?) (Nat.add_sub_cancel_left ..)).trans hj)⟩
  · rintro ⟨i, j, hij, hi, hj⟩
    rw [← List.take_append_drop (i + 1) l]
    refine List.Sublist.append (l₁ := [a]) (r₁ := [b]) (List.singleton_sublist.2 ?_)
      (List.singleton_sublist.2 ?_)
    · exact List.mem_of_getElem? ((List.getElem?_take.trans (if_pos (Nat.lt_succ_self i))).trans hi)
    · exact List.mem_of_getElem? (i := j - (i + 1))
        (List.getElem?_drop.trans ((congrArg (l[·]?) (Nat.add_sub_cancel' hij)).trans hj))

variable {α R : Type}

/-- For a duplicate-free list of valid ids, `self.rank(layer)` appends
exactly one rank to every cell of the list; the new ranks are a permutation of
`1..layer.length`, non-increasing in the key `cfg.lcb rewards` with ties broken by list
position; nothing else changes (see `RankedLayer` for the clauses). -/
theorem rankLayer_spec (cfg : VrCfg R S) (P : Part α (VrSt R S)) (layer : List Nat)
    (hnd : layer.Nodup) (hvalid : ∀ id ∈ layer, id < P.nodes.length) :
    RankedLayer cfg P (rankLayer cfg P layer) layer := by
  have h := rankLayer_rel cfg P layer hnd hvalid
  refine ⟨h.rel.kind, h.rel.layers, h.rel.depth, h.rel.len, fun i nd hi => ?_, h.rank_eq, h.perm,
    h.mono, h.stable⟩
  obtain ⟨nd', h0, h1, h2, h3, h4, h5⟩ := h.rel.node i nd hi
  exact ⟨nd', h0, h1.depth, h1.index, h1.parent, h1.children, h1.box, h2, h3, h4, h5⟩

theorem rankLayer_WF (cfg : VrCfg R S) (P : Part α (VrSt R S)) (layer : List Nat)
    (hnd : layer.Nodup) (hvalid : ∀ id ∈ layer, id < P.nodes.length) (W : WF P) :
    WF (rankLayer cfg P layer) :=
  (rankLayer_rel cfg P layer hnd hvalid).rel.wf W

/-- strict form of monotonicity: a strictly larger key gets a strictly smaller rank -/
theorem rankLayer_strict (cfg : VrCfg R S) (P : Part α (VrSt R S)) (layer : List Nat)
    (hnd : layer.Nodup) (hvalid : ∀ id ∈ layer, id < P.nodes.length) {a b : Nat}
    (ha : a ∈ layer) (hb : b ∈ layer) (hk : key cfg P b < key cfg P a) :
    lastRank (rankLayer cfg P layer) a < lastRank (rankLayer cfg P layer) b := by
  have h := rankLayer_rel cfg P layer hnd hvalid
  refine Nat.lt_of_le_of_ne
    (Nat.le_of_not_lt fun h1 => absurd (h.mono b a hb ha h1) (not_le.2 hk)) fun e => ?_
  -- equal ranks: the ranks of the layer are pairwise distinct, hence `a = b`
  have hab := List.inj_on_of_nodup_map
    (h.perm.nodup_iff.2 (List.nodup_range' (h := Nat.one_pos))) ha hb e
  exact lt_irrefl _ (hab ▸ hk)

/-- **The ranking stage of a `pull`** in a tree deepened to `sd` (any arity): it never raises,
realises `Ranked` for the depths `1..sd` (ranks of each depth are a permutation of
`1..(size of the layer)`, non-increasing in the lower confidence value, stable), and returns the
index list and the weights layer by layer. -/
theorem rankAll_spec (cfg : VrCfg R S) (P : Part α (VrSt R S)) (W : WF P)
    (hdeep : cfg.sd ≤ P.depth) :
    ∃ P', rankAll cfg P = .ok (P', idxList cfg.sd P, probList cfg P P') ∧
      Ranked cfg (List.range' 1 cfg.sd) P P' := by
  obtain ⟨P', m, H⟩ := rankFold_spec cfg (List.range' 1 cfg.sd) P [] [] W List.nodup_range'
    (fun h hh => W.layers_len ▸ Nat.lt_succ_of_le (Nat.le_trans (mem_range'_one.1 hh).2 hdeep))
  exact ⟨P', m, Ranked.of_rankedAt W H⟩

end sorting

section layers
variable {α σ : Type}

/-- documented arity 2: the kinds `.binary`, `.randBinary`, `.kary 2`, `.randKary 2`, and
`.dimBinary` in dimension 1 -/
theorem arity_two (P : Part α σ)
    (h : P.kind = .binary ∨ P.kind = .randBinary ∨ P.kind = .kary 2 ∨ P.kind = .randKary 2 ∨
      (P.kind = .dimBinary ∧ dimn P = 1)) : K P = 2 := by
  unfold K
  rcases h with h | h | h | h | ⟨h, h'⟩
  · rw [h]; rfl
  · rw [h]; rfl
  · rw [h]; rfl
  · rw [h]; rfl
  · rw [h, h']; rfl

/-- `deepen` multiplies the layer size by the arity `K` (static form): under the C03 invariant, if
every cell of layer `h` has been split then layer `h + 1` has `K` times as many cells. -/
theorem layer_succ_length {P : Part α σ} (W : WF P) {h : Nat} {l l' : List Nat}
    (hl : P.layers[h]? = some l) (hl' : P.layers[h + 1]? = some l')
    (hint : ∀ p pn, p ∈ l → P.nodes[p]? = some pn → pn.children ≠ none) :
    l'.length = K P * l.length :=
  VR.layer_succ_length W hl hl' hint

/-- layer `h + 1` is a permutation of the concatenated child lists of layer `h` -/
theorem layer_succ_perm {P : Part α σ} (W : WF P) {h : Nat} {l l' : List Nat}
    (hl : P.layers[h]? = some l) (hl' : P.layers[h + 1]? = some l') :
    l'.Perm (l.flatMap (kids P)) :=
  VR.layer_succ_perm W hl hl'

variable [LinearOrder α]

/-- **Layer sizes, arity 2**: layer `h ≤ sd` has exactly `2^h` cells (`K^h` for any arity:
`layersPow_of_internal`). -/
theorem layers_two {sd : Nat} {P : Part α σ} (T : TInv sd P) (hK : K P = 2) :
    ∀ h, h ≤ sd → ∃ l, P.layers[h]? = some l ∧ l.length = 2 ^ h := by
  intro h hh
  obtain ⟨l, h1, h2⟩ := layersPow_of_internal T.wf T.deep T.internal h hh
  exact ⟨l, h1, by rw [h2, hK]⟩

end layers

section inv
variable {α R S : Type} [Field α] [LinearOrder α] [IsStrictOrderedRing α]

/-- `deepen` multiplies the layer size by the arity `K` (dynamic form; doubling for the binary
partitions VROOM uses): one `deepen()` with draws satisfying the
NumPy guarantees succeeds, keeps the C03 invariant and the geometry, increases the depth by one,
makes every cell of the old deepest layer internal, and the new deepest layer has exactly `K`
times as many cells as the old one. -/
theorem deepen_doubles {σ : Type} {P : Part α σ} (W : WF P) (G : Geo P) (s0 : σ)
    (ds : List (Draw α)) (hds : DeepenDrawsOK P ds) :
    ∃ P', P.deepen s0 ds = .ok (P', ds.drop (lastLayer P).length) ∧ WF P' ∧ Geo P' ∧
      P'.depth = P.depth + 1 ∧ K P' = K P ∧
      (lastLayer P').length = K P * (lastLayer P).length ∧
      (∀ q, q ∈ lastLayer P → ∃ qn, P'.nodes[q]? = some qn ∧ qn.children ≠ none) := by
  obtain ⟨P', m, W', G', hdep, Gr, hlast⟩ := deepen_inv W G s0 ds hds
  exact ⟨P', m, W', G', hdep, Gr.K_eq, lastLayer_deepen W W' hdep Gr hlast, hlast⟩

/-- simple sufficient condition for the draw hypothesis of `init_tinv` (`.binary`, `.kary K`,
`.dimBinary`): `Σ_{i<sd} K^i` draws, each well-formed -/
theorem initDrawsOK_of_simple (sd : Nat) (k : Kind) (domain : Box α) (ds : List (Draw α))
    (hv : Box.Valid domain)
    (hs : ∀ d ∈ ds, SimpleDraw (Part.init k domain (VROOM.st0 (R := R) (S := S))) d)
    (hlen : geomSum (k.arity domain.length) sd ≤ ds.length) :
    InitDrawsOK (VROOM.st0 (R := R) (S := S)) sd (sd + 1) (Part.init k domain VROOM.st0) ds :=
  VR.initDrawsOK_of_simple sd (sd + 1) sd _ ds (init_WF' k domain _) (Geo.init k domain _ hv) hs
    (Nat.le_add_left _ _)
    (Nat.le_trans (Nat.le_of_eq (Nat.one_mul _)) hlen)

/-- after `__init__` with arity 2, layer `h ≤ sd` has exactly `2^h` cells -/
theorem init_layers (cfg : VrCfg R S) (k : Kind) (domain : Box α) (ds ds' : List (Draw α))
    (hv : Box.Valid domain)
    (hds : InitDrawsOK (VROOM.st0 (R := R) (S := S)) cfg.sd (cfg.sd + 1)
      (Part.init k domain VROOM.st0) ds)
    (hk : k.arity domain.length = 2) {s : VROOM α R S}
    (hm : VROOM.init cfg k domain ds = .ok (s, ds')) :
    ∀ h, h ≤ cfg.sd → ∃ l, s.P.layers[h]? = some l ∧ l.length = 2 ^ h := by
  obtain ⟨h2, _, _, _, h6, _⟩ := ListAux.of_eq_ok₂ (init_tinv cfg k domain ds hv hds) hm
  exact layers_two h2 (h6.trans hk)

variable [LinearOrder S]
variable {cfg : VrCfg R S} {s s' : VROOM α R S} {time : Nat} {dr : VDraw α} {last : Nat}
  {P1 : Part α (VrSt R S)} {h l node : Nat} {path : List Nat}

omit [LinearOrder S] in
/-- **The descent** `while h < h_max` from a cell `node` of depth `h` (any arity): under `DescOK`
it never raises and returns `(P', last, ul ++ path)` where `path` follows child links of `P'`
from `node` to `last` and has `hmax - h` steps; the tree invariant is kept and only cells of
depth `≥ sd` are expanded. -/
theorem descentLoop_spec (hmax sd : Nat) (steps : List (Option (Draw α) × Nat))
    (h node : Nat) (ul : List Nat) (P : Part α (VrSt R S)) (nd : Node α (VrSt R S))
    (T : TInv sd P) (hnd : P.nodes[node]? = some nd) (hdep : nd.depth = h)
    (hok : DescOK hmax steps h node P) :
    ∃ P' last path, descentLoop hmax steps h node ul P = .ok (P', last, ul ++ path) ∧
      TInv sd P' ∧ Grow st0 sd P P' ∧ IsPath P' node path last ∧ path.length = hmax - h := by
  induction steps generalizing h node ul P nd with
  | nil =>
    exact ⟨P, node, [], by rw [descentLoop_stop hok, List.append_nil], T, Grow.refl _ _ _, rfl,
      (Nat.sub_eq_zero_of_le (Nat.le_of_not_lt hok)).symm⟩
  | cons x rest ih =>
    obtain ⟨od, sign⟩ := x
    by_cases hh : h < hmax
    · obtain ⟨P1, c, cn, e, T1, Gr1, c1, c2, hD, nd1, cs, n1, n2, n3⟩ :=
        descent_step hh ul T hnd hdep hok
      obtain ⟨P', last, path, m, T', Gr, hp, hl⟩ := ih (h + 1) c (ul ++ [c]) P1 cn T1 c1 c2 hD
      obtain ⟨nd', g0, g1⟩ := Gr.children n1 n2
      refine ⟨P', last, c :: path, ?_, T', Gr1.trans Gr, ⟨⟨nd', cs, g0, g1, n3⟩, hp⟩, ?_⟩
      · rw [e, m, List.append_assoc]; rfl
      · rw [List.length_cons, hl, Nat.sub_add_eq, Nat.sub_add_cancel (Nat.sub_pos_of_lt hh)]
    · exact ⟨P, node, [], by rw [descentLoop_stop hh, List.append_nil], T, Grow.refl _ _ _, rfl,
        (Nat.sub_eq_zero_of_le (Nat.le_of_not_lt hh)).symm⟩

/-- **`pull` keeps the invariant and never changes the layers `≤ sd`** (the descent only
expands cells of depth `≥ sd`, because every shallower cell is internal): after a successful
`pull` the tree invariant holds again, the layers `0..sd` are the same lists, kind / dimension /
arity are unchanged; the cells that existed before keep position, box, rewards and `tilde` and
stay internal; the new cells lie strictly below depth `sd` and carry the empty payload. -/
theorem pull_inv (F : PullFacts cfg s time dr s' last P1 h l node path) :
    TInv cfg.sd s'.P ∧
    (∀ h', h' ≤ cfg.sd → s'.P.layers[h']? = s.P.layers[h']?) ∧
    s'.P.kind = s.P.kind ∧ dimn s'.P = dimn s.P ∧ K s'.P = K s.P ∧
    (∀ (i : Nat) (nd : Node α (VrSt R S)), s.P.nodes[i]? = some nd →
      ∃ nd', s'.P.nodes[i]? = some nd' ∧ nd'.depth = nd.depth ∧ nd'.index = nd.index ∧
        nd'.parent = nd.parent ∧ nd'.box = nd.box ∧ nd'.st.rewards = nd.st.rewards ∧
        nd'.st.tilde = nd.st.tilde ∧ (nd.children ≠ none → nd'.children = nd.children)) ∧
    (∀ (i : Nat) (nd' : Node α (VrSt R S)), s'.P.nodes[i]? = some nd' → s.P.nodes.length ≤ i →
      cfg.sd < nd'.depth ∧ nd'.st = st0) := by
  have hR := F.ranked.toPRel
  refine ⟨F.tinv, fun h' hh' => ?_, F.grow.kind.trans hR.kind, F.grow.dimn.trans hR.dimn_eq,
    F.K_eq, fun i nd hi => ?_, fun i nd' hi hle => F.grow.new i nd' hi (F.ranked.len ▸ hle)⟩
  · rw [F.grow.layers h' hh', F.ranked.layers]
  · obtain ⟨b, b0, b1, b2, b3⟩ := hR.node i nd hi
    obtain ⟨c, c0, c1, c2, c3, c4, c5, c6⟩ := F.grow.old i b b0
    refine ⟨c, c0, c1.trans b1.depth, c2.trans b1.index, c3.trans b1.parent, c4.trans b1.box,
      c5 ▸ b2, c5 ▸ b3, fun hn => ?_⟩
    rw [c6 (b1.children ▸ hn), b1.children]

/-- `get_last_point` keeps the invariant, only expands cells of depth `≥ sd` (`Grow`: in
particular the layers `≤ sd`, all payloads and all boxes are unchanged), recommends a listed
cell, and changes no other component of the state. -/
theorem lastPoint_inv (cfg : VrCfg R S) (s : VROOM α R S) (dr : VDraw α)
    (T : TInv cfg.sd s.P)
    (hdesc : ∀ h layer node, s.P.layers[h]? = some layer → node ∈ layer →
      DescOK cfg.hmax dr.steps h node s.P)
    {s' : VROOM α R S} {node last : Nat} {pt : List α}
    (hm : lastPoint cfg s dr = .ok (s', node, last, pt)) :
    pt = dr.pt ∧ s'.iteration = s.iteration ∧ s'.prob = s.prob ∧ s'.curr = s.curr ∧
    s'.updateList = s.updateList ∧ TInv cfg.sd s'.P ∧ Grow st0 cfg.sd s.P s'.P ∧
    K s'.P = K s.P ∧ (∀ h', h' ≤ cfg.sd → s'.P.layers[h']? = s.P.layers[h']?) ∧
    ∃ h path, (∃ layer, s.P.layers[h]? = some layer ∧ node ∈ layer) ∧
      IsPath s'.P node path last ∧ path.length = cfg.hmax - h := by
  rw [lastPoint] at hm
  split at hm
  · cases hm
  · rename_i node' h heq
    -- the argmax loops over the layers only ever record a listed cell
    obtain ⟨layer, hl, hin⟩ : ∃ layer, s.P.layers[h]? = some layer ∧ node' ∈ layer := by
      let I : S × Option (Nat × Nat) → Prop := fun acc => ∀ node h, acc.2 = some (node, h) →
        ∃ layer, s.P.layers[h]? = some layer ∧ node ∈ layer
      refine ListAux.foldl_inv I _ _ (cfg.negInf, none) (fun _ _ h => nomatch h)
        (fun acc x hx hI => ?_) node' h heq
      obtain ⟨layer, h'⟩ := x
      refine ListAux.foldl_inv I _ layer acc hI (fun acc id hid hI node h hacc => ?_)
      dsimp only at hacc
      split at hacc
      · exact hI node h hacc
      · split at hacc
        · cases hacc
          exact ⟨layer, List.mem_zipIdx_iff_getElem?.1 hx, hid⟩
        · exact hI node h hacc
    obtain ⟨nd, n1, n2⟩ := (T.wf.mem_layer_iff hl node').1 hin
    obtain ⟨P2, last', path, m2, T2, Gr, hp, hlen⟩ := descentLoop_spec cfg.hmax cfg.sd dr.steps h
      node' [node'] s.P nd T n1 n2 (hdesc h layer node' hl hin)
    rw [m2] at hm
    simp only [bind, Except.bind, pure, Except.pure] at hm
    cases hm
    exact ⟨rfl, rfl, rfl, rfl, rfl, T2, Gr, Gr.K_eq, Gr.layers, h, path, ⟨layer, hl, hin⟩, hp,
      hlen⟩

end inv

section weights
variable {S : Type} [Field S] [LinearOrder S] [IsStrictOrderedRing S]

theorem normC_pos {sd : Nat} (hsd : 1 ≤ sd) : 0 < (normC sd : S) := VR.normC_pos hsd

/-- `Σ_{h=1..sd} Σ_{l=1..2^h} 1/(h·l·C) = 1` -/
theorem weights_sum_one {sd : Nat} (hsd : 1 ≤ sd) :
    ((List.range' 1 sd).map (fun (h : Nat) =>
      ((List.range' 1 ((2 : Nat) ^ h)).map
        (fun (l : Nat) => (1 / ((h : S) * (l : S) * normC sd)))).sum)).sum = 1 :=
  VR.weights_sum_one hsd

/-- number of weights: `Σ_{h=1..sd} 2^h = 2^(sd+1) - 2` -/
theorem cumIdx_eq (sd : Nat) :
    cumIdx sd = ((List.range' 1 sd).map (fun h => 2 ^ h)).sum ∧ cumIdx sd + 2 = 2 ^ (sd + 1) :=
  ⟨cumIdx_eq_sum sd, cumIdx_closed sd⟩

variable {α R : Type} [Field α] [LinearOrder α] [IsStrictOrderedRing α]
variable {cfg : VrCfg R S} {s s' : VROOM α R S} {time : Nat} {dr : VDraw α} {last : Nat}
  {P1 : Part α (VrSt R S)} {h l node : Nat} {path : List Nat}

omit [Field S] [IsStrictOrderedRing S] in
/-- **The ranks** assigned at a `pull` (arity 2): within each depth `h' = 1..sd` they are a
permutation of `1..2^h'`, non-increasing in the lower confidence value of the cells (computed
from the rewards before the pull), ties broken by the position in the layer. -/
theorem pull_ranks (F : PullFacts cfg s time dr s' last P1 h l node path)
    (T : TInv cfg.sd s.P) (hK : K s.P = 2) :
    ∀ h', 1 ≤ h' → h' ≤ cfg.sd →
      ((layerAt s.P h').map (lastRank P1)).Perm (List.range' 1 (2 ^ h')) ∧
      (∀ a b, a ∈ layerAt s.P h' → b ∈ layerAt s.P h' → lastRank P1 a < lastRank P1 b →
        key cfg s.P b ≤ key cfg s.P a) ∧
      (∀ a b, Before a b (layerAt s.P h') → key cfg s.P a = key cfg s.P b →
        lastRank P1 a < lastRank P1 b) := by
  intro h' h1 h2
  have hm : h' ∈ List.range' 1 cfg.sd := mem_range'_one.2 ⟨h1, h2⟩
  exact ⟨hK ▸ F.ranked.perm_pow T h1 h2, F.ranked.mono h' hm, F.ranked.stable h' hm⟩

/-- **The weights** computed at a `pull` (arity 2, over a field): they sum to one; there are
`Σ_{h=1..sd} 2^h` of them; the index list is `[(h, l) | h = 1..sd, l < 2^h]` in lexicographic
order; and the drawn cell — the `l`-th cell of layer `h`, `(h, l)` the drawn entry of the index
list — was drawn with the weight `1/(h · rank · C)` where `rank` is its new rank and
`C = normC sd > 0`. -/
theorem pull_weights (F : PullFacts cfg s time dr s' last P1 h l node path)
    (FC : FieldCfg cfg) (hsd : 1 ≤ cfg.sd) (T : TInv cfg.sd s.P) (hK : K s.P = 2) :
    s'.prob.sum = 1 ∧ s'.prob.length = cumIdx cfg.sd ∧
    idxList cfg.sd s.P = indexList cfg.sd ∧
    (indexList cfg.sd)[dr.choice]? = some (h, l) ∧ (layerAt s.P h)[l]? = some node ∧
    s'.prob[dr.choice]? = some (1 / ((h : S) * (lastRank P1 node : S) * normC cfg.sd)) ∧
    (0 : S) < normC cfg.sd := by
  have hi := idxList_eq (sd := cfg.sd) (P := s.P) fun h' _ hh' => hK ▸ length_layerAt T hh'
  exact ⟨F.prob_eq ▸ F.ranked.probList_sum FC hsd T hK, (F.post T hK).problen, hi, hi ▸ F.drawn,
    F.cell, by rw [F.weight, FC.probOf]; rfl, VR.normC_pos hsd⟩

omit [IsStrictOrderedRing S] in
/-- The weight formula, every entry (arity 2): if entry `c` of the index list is `(h', l')`,
the `c`-th weight is `1/(h' · rank · C)` with `rank` the new rank of the `l'`-th cell of layer
`h'`. -/
theorem weight_formula (F : PullFacts cfg s time dr s' last P1 h l node path)
    (FC : FieldCfg cfg) (T : TInv cfg.sd s.P) (hK : K s.P = 2) {c h' l' : Nat}
    (hc : (indexList cfg.sd)[c]? = some (h', l')) :
    1 ≤ h' ∧ h' ≤ cfg.sd ∧ l' < 2 ^ h' ∧ ∃ cell, (layerAt s.P h')[l']? = some cell ∧
      s'.prob[c]? = some (1 / ((h' : S) * (lastRank P1 cell : S) * normC cfg.sd)) := by
  have hL : ∀ h', h' ≤ cfg.sd → (layerAt s.P h').length = 2 ^ h' :=
    fun h' hh' => hK ▸ length_layerAt T hh'
  rw [← idxList_eq fun h' _ => hL h'] at hc
  obtain ⟨h1, h2, cell, h3, h4⟩ := weight_at (P' := P1) hc
  exact ⟨h1, h2, hL h' h2 ▸ lt_length_of_getElem? h3, cell, h3,
    by rw [F.prob_eq, h4, FC.probOf]; rfl⟩

end weights

section point
variable {α R S : Type} [Field α] [LinearOrder α] [IsStrictOrderedRing α] [LinearOrder S]

omit [Field α] [IsStrictOrderedRing α] in
/-- Along a path of the tree: the end cell has depth `depth(start) + length`, its box is
contained in the box of the start cell, every cell on the path is strictly deeper than the
start and contained in it, and `start :: path` has no repetitions. -/
theorem path_facts {σ : Type} {P : Part α σ} (W : WF P) (G : Geo P) (path : List Nat)
    (node last : Nat) (nd : Node α σ) (hnd : P.nodes[node]? = some nd)
    (hp : IsPath P node path last) :
    (∃ ln, P.nodes[last]? = some ln ∧ ln.depth = nd.depth + path.length ∧
      Box.Subset ln.box nd.box) ∧
    (∀ c ∈ path, ∃ cn, P.nodes[c]? = some cn ∧ nd.depth < cn.depth ∧
      Box.Subset cn.box nd.box) ∧
    (node :: path).Nodup ∧ last = (node :: path).getLast (by simp) :=
  let ⟨a, b, c⟩ := IsPath.facts W G path node last nd hnd hp
  ⟨a, b, c, IsPath.getLast path node last hp⟩

variable {cfg : VrCfg R S} {s s' : VROOM α R S} {time : Nat} {dr : VDraw α} {last : Nat}
  {P1 : Part α (VrSt R S)} {h l node : Nat} {path : List Nat}

/-- **The returned cell**: it is the last element of the update list, has depth `max h hmax`,
and its box is contained in the box of the drawn cell (depth `h`). -/
theorem pull_last (F : PullFacts cfg s time dr s' last P1 h l node path) :
    last = s'.updateList.getLast (by rw [F.updateList]; simp) ∧
    ∃ nn ln, s'.P.nodes[node]? = some nn ∧ nn.depth = h ∧ s'.P.nodes[last]? = some ln ∧
      ln.depth = max h cfg.hmax ∧ Box.Subset ln.box nn.box :=
  F.path_facts.2.2

/-- If the sampled coordinates lie in the box of the returned cell
(what `np.random.uniform(lo, hi)` guarantees coordinatewise), then the point returned by `pull`
lies in the drawn cell `s'.curr` — whose box is the one it had before the pull — and in the root
cell (the domain). -/
theorem point_in_drawn_cell (F : PullFacts cfg s time dr s' last P1 h l node path)
    (hpt : Box.Mem (boxOf s'.P last) dr.pt) :
    s'.curr = some node ∧ Box.Mem (boxOf s'.P node) dr.pt ∧ Box.Mem (boxOf s.P node) dr.pt ∧
      Box.Mem (boxOf s.P 0) dr.pt := by
  obtain ⟨_, _, _, nn, ln, n1, _, l1, _, hsub⟩ := F.path_facts
  obtain ⟨r, r0, _⟩ := F.tinv.wf.root
  obtain ⟨n0, c0, _⟩ := F.cell_depth
  have hlen := F.ranked.len
  rw [boxOf_eq l1] at hpt
  have hm : Box.Mem (boxOf s'.P node) dr.pt := (boxOf_eq n1).symm ▸ Box.mem_of_subset hsub hpt
  refine ⟨F.curr, hm, F.boxOf_eq (hlen ▸ lt_length_of_getElem? c0) ▸ hm,
    F.boxOf_eq (hlen ▸ F.tinv1.wf.length_pos) ▸ (boxOf_eq r0).symm ▸ ?_⟩
  exact Box.mem_of_subset (Geo.sub_root F.tinv.wf F.tinv.geo node nn r n1 r0) (boxOf_eq n1 ▸ hm)

end point

section credit
variable {α R S : Type} [Field α] [LinearOrder α] [IsStrictOrderedRing α] [LinearOrder S]
variable {cfg : VrCfg R S} {s s' : VROOM α R S} {time : Nat} {dr : VDraw α} {last : Nat}
  {P1 : Part α (VrSt R S)} {h l node : Nat} {path : List Nat}

/-- after `pull`: the drawn cell is recorded, the update list is the drawn cell followed by the
descent path, it has no repetitions and names valid cells, each a child of its predecessor (`IsPath`); the
path has `hmax - h` cells -/
theorem pull_updateList (F : PullFacts cfg s time dr s' last P1 h l node path) :
    s'.curr = some node ∧ s'.updateList = node :: path ∧ IsPath s'.P node path last ∧
    s'.updateList.Nodup ∧ (∀ id ∈ s'.updateList, id < s'.P.nodes.length) ∧
    path.length = cfg.hmax - h := by
  obtain ⟨h1, h2, _⟩ := F.path_facts
  exact ⟨F.curr, F.updateList, F.isPath, h1, h2, F.steps⟩

/-- **`receive`** (any state satisfying `PullPost`): never raises; appends `r` to `rewards` and
one entry to `tilde` of exactly the cells of the update list (once each), changes no other
payload, no rank, no tree field, no other component of the state (`RecvFacts`). -/
theorem receive_credit (cfg : VrCfg R S) (s : VROOM α R S) (r : R) (hsd : 1 ≤ cfg.sd)
    (hp : PullPost cfg s) :
    ∃ s', receive cfg s r = .ok s' ∧ RecvFacts cfg s s' r := by
  obtain ⟨P', m, hrel⟩ := foldlM_modifySt
    (fun nd i => credit cfg r (cumVal cfg s.prob cfg.sd nd.depth) i)
    (fun a b sk => by rw [sk.depth]) (recvStep cfg s.prob r)
    (fun P x nd hx => by
      have e : cumProb cfg s.prob nd.depth = .ok (cumVal cfg s.prob cfg.sd nd.depth) :=
        cumGo_spec cfg s.prob nd.depth cfg.sd hp.problen nd.depth 0 hsd rfl
      simp only [recvStep, hx, e, bind, Except.bind, pure, Except.pure]
      rfl)
    s.updateList.zipIdx s.P (by rw [List.zipIdx_map_fst]; exact hp.nodup)
    (fun x hx => hp.valid x.1 (List.mem_of_getElem? (List.mem_zipIdx_iff_getElem?.1 hx)))
  refine ⟨{ s with P := P' }, by rw [receive_eq, m]; rfl, hrel.kind, hrel.layers, hrel.depth,
    hrel.len, rfl, rfl, rfl, rfl, fun i nd hi => ?_⟩
  obtain ⟨nd', h0, h1, h2, h3⟩ := hrel.node i nd hi
  have h2' := fun j hj => h2 j (List.mem_zipIdx_iff_getElem?.2 hj)
  have h3' : i ∉ s.updateList → nd'.st = nd.st :=
    fun hj => h3 (by rw [List.zipIdx_map_fst]; exact hj)
  refine ⟨nd', h0, h1.depth, h1.index, h1.parent, h1.children, h1.box, ?_,
    fun j hj => by rw [h2' j hj]; exact ⟨rfl, rfl⟩, h3'⟩
  by_cases hmem : i ∈ s.updateList
  · obtain ⟨j, hj⟩ := List.mem_iff_getElem?.1 hmem
    rw [h2' j hj]; rfl
  · rw [h3' hmem]

/-- **One round `pull; receive r`** (arity 2): the reward is credited to the drawn cell and to
the descendants on the descent path — each of them gets `r` appended to its rewards exactly
once — and to no other cell. -/
theorem round_credit (F : PullFacts cfg s time dr s' last P1 h l node path)
    (T : TInv cfg.sd s.P) (hK : K s.P = 2) (hsd : 1 ≤ cfg.sd) (r : R) :
    ∃ s'', receive cfg s' r = .ok s'' ∧ TInv cfg.sd s''.P ∧ K s''.P = 2 ∧
      s''.P.layers = s'.P.layers ∧
      ∀ (i : Nat) (nd : Node α (VrSt R S)), s'.P.nodes[i]? = some nd →
        ∃ nd'', s''.P.nodes[i]? = some nd'' ∧ nd''.st.ranks = nd.st.ranks ∧
          (i ∈ node :: path → nd''.st.rewards = nd.st.rewards ++ [r] ∧
            nd''.st.tilde.length = nd.st.tilde.length + 1) ∧
          (i ∉ node :: path → nd''.st = nd.st) := by
  obtain ⟨s'', m, RF⟩ := receive_credit cfg s' r hsd (F.post T hK)
  refine ⟨s'', m, F.tinv.of_PRel RF.toPRel, by rw [RF.toPRel.K_eq, F.K_eq, hK], RF.layers,
    fun i nd hi => ?_⟩
  obtain ⟨nd'', h0, _, _, _, _, _, h6, h7, h8⟩ := RF.node i nd hi
  refine ⟨nd'', h0, h6, fun hmem => ?_, fun hmem => h8 (by rw [F.updateList]; exact hmem)⟩
  rw [← F.updateList] at hmem
  obtain ⟨j, hj⟩ := List.mem_iff_getElem?.1 hmem
  obtain ⟨e1, e2⟩ := h7 j hj
  exact ⟨e1, by rw [e2]; simp⟩

end credit

section totality
variable {α R S : Type} [Field α] [LinearOrder α] [IsStrictOrderedRing α]

/-- **`pull` never raises** (any arity), given that `np.random.choice` accepts the weights:
complete description of the result in `PullFacts`. -/
theorem pull_total' [LinearOrder S] (cfg : VrCfg R S) (s : VROOM α R S) (time : Nat)
    (dr : VDraw α) (T : TInv cfg.sd s.P) (hOK : ProbAccepted cfg s)
    (hdr : PullDrawsOK cfg s dr) :
    ∃ s' last P1 h l node path, pull cfg s time dr = .ok (s', last, dr.pt) ∧
      PullFacts cfg s time dr s' last P1 h l node path := by
  obtain ⟨P1, m1, Rk⟩ := rankAll_spec cfg s.P T.wf T.deep
  have T1 : TInv cfg.sd P1 := T.of_PRel Rk.toPRel
  obtain ⟨⟨h, l⟩, hidx⟩ : ∃ x, (idxList cfg.sd s.P)[dr.choice]? = some x :=
    ⟨_, List.getElem?_eq_getElem hdr.choice⟩
  obtain ⟨hh1, hh2, node, hnode, hw⟩ := weight_at (P' := P1) hidx
  have hlay : P1.layers[h]? = some (layerAt s.P h) := by
    rw [Rk.layers]
    exact layerAt_spec (by rw [T.wf.layers_len]; exact Nat.lt_succ_of_le (Nat.le_trans hh2 T.deep))
  obtain ⟨nd, n1, n2⟩ := (T1.wf.mem_layer_iff hlay node).1 (List.mem_of_getElem? hnode)
  obtain ⟨P2, last, path, m2, T2, Gr, hp, hl⟩ := descentLoop_spec cfg.hmax cfg.sd dr.steps h node
    [node] P1 nd T1 n1 n2 (hdr.desc P1 h l node Rk hidx hnode)
  refine ⟨{ s with P := P2, iteration := time, prob := probList cfg s.P P1, curr := some node,
                   updateList := node :: path }, last, P1, h, l, node, path, ?_, Rk, hidx,
    ⟨hh1, hh2⟩, hnode, ⟨nd, n1, n2⟩, hw, rfl, rfl, rfl, rfl, T1, T2, Gr, hp, hl⟩
  rw [pull, m1]
  simp only [bind, Except.bind, pure, Except.pure, hOK P1 Rk, hidx, hlay, hnode, m2]
  rfl

variable [Field S] [LinearOrder S] [IsStrictOrderedRing S]

omit [Field S] [IsStrictOrderedRing S] in
/-- for arity 2 the drawn index ranges over `Σ_{h=1..sd} 2^h` positions -/
theorem length_idxList (cfg : VrCfg R S) (s : VROOM α R S) (T : TInv cfg.sd s.P)
    (hK : K s.P = 2) : (idxList cfg.sd s.P).length = cumIdx cfg.sd :=
  length_flatMap_cumIdx _ cfg.sd fun h _ h2 => by
    rw [layerIndex, List.length_map, List.length_range, length_layerAt T h2, hK]

/-- **Totality of `pull` for arity 2** over a field: the weights the code computes sum to one,
so a `probOK` that accepts every list summing to one accepts them, and `pull` returns. -/
theorem pull_total (cfg : VrCfg R S) (FC : FieldCfg cfg) (hsd : 1 ≤ cfg.sd)
    (hOK : ∀ ps : List S, ps.sum = 1 → cfg.probOK ps = true)
    (s : VROOM α R S) (time : Nat) (dr : VDraw α) (T : TInv cfg.sd s.P) (hK : K s.P = 2)
    (hdr : PullDrawsOK cfg s dr) :
    ∃ s' last P1 h l node path, pull cfg s time dr = .ok (s', last, dr.pt) ∧
      PullFacts cfg s time dr s' last P1 h l node path ∧ PullPost cfg s' ∧ K s'.P = 2 := by
  obtain ⟨s', last, P1, h, l, node, path, m, F⟩ :=
    pull_total' cfg s time dr T (probAccepted_of_field FC hsd hOK T hK) hdr
  exact ⟨s', last, P1, h, l, node, path, m, F, F.post T hK, by rw [F.K_eq, hK]⟩

omit [Field S] [IsStrictOrderedRing S] in
/-- **Totality of `receive`**: for a weight list of length `Σ_{h=1..sd} 2^h` (`sd ≥ 1`) the
indexing in `cumProb` never fails, and `receive` returns. -/
theorem receive_total (cfg : VrCfg R S) (s : VROOM α R S) (r : R) (hsd : 1 ≤ cfg.sd)
    (hp : PullPost cfg s) : ∃ s', receive cfg s r = .ok s' :=
  let ⟨s', h1, _⟩ := receive_credit cfg s r hsd hp
  ⟨s', h1⟩

/-- **Every reachable state** (`Reachable`: `__init__`, then any number of rounds
`pull; receive r` with arbitrary rewards `r`, and `get_last_point` calls, the random choices
being arbitrary among those NumPy can produce; arity 2, over a field): the tree invariant holds,
the arity is 2 and the root box is the domain.  Hence (`layers_two`) layer `h ≤ sd` has `2^h`
cells in every reachable state, and `pull_total` / `pull_weights` / `point_in_drawn_cell` /
`round_credit` apply at every round of every run. -/
theorem reachable_inv (cfg : VrCfg R S) (FC : FieldCfg cfg) (hsd : 1 ≤ cfg.sd)
    (hOK : ∀ ps : List S, ps.sum = 1 → cfg.probOK ps = true)
    (k : Kind) (domain : Box α) (hv : Box.Valid domain) (hk : k.arity domain.length = 2)
    {s : VROOM α R S} (hr : Reachable cfg k domain s) :
    TInv cfg.sd s.P ∧ K s.P = 2 ∧ boxOf s.P 0 = domain ∧
      ∀ h, h ≤ cfg.sd → ∃ l, s.P.layers[h]? = some l ∧ l.length = 2 ^ h := by
  have key : TInv cfg.sd s.P ∧ K s.P = 2 ∧ boxOf s.P 0 = domain := by
    induction hr with
    | init hds hm =>
      obtain ⟨h2, _, _, _, h6, h7, _⟩ := ListAux.of_eq_ok₂ (init_tinv cfg k domain _ hv hds) hm
      exact ⟨h2, h6.trans hk, h7⟩
    | @round s0 s1 s2 time dr last pt r _ hdr hp hrc ih =>
      obtain ⟨T, hK, hB⟩ := ih
      obtain ⟨s', last', P1, h, l, node, path, m, F⟩ :=
        pull_total' cfg s0 time dr T (probAccepted_of_field FC hsd hOK T hK) hdr
      obtain rfl := congrArg Prod.fst (Except.ok.inj (hp.symm.trans m))
      obtain ⟨s'', m2, RF⟩ := receive_credit cfg s1 r hsd (F.post T hK)
      obtain rfl := Except.ok.inj (hrc.symm.trans m2)
      have hR := RF.toPRel
      exact ⟨F.tinv.of_PRel hR, by rw [hR.K_eq, F.K_eq, hK],
        by rw [boxOf_of_PRel hR, F.boxOf_eq T.wf.length_pos, hB]⟩
    | @lastPoint s0 s' dr node last pt _ hdesc hm ih =>
      obtain ⟨T, hK, hB⟩ := ih
      obtain ⟨_, _, _, _, _, T', Gr, _⟩ := lastPoint_inv cfg s0 dr T hdesc hm
      exact ⟨T', by rw [Gr.K_eq, hK], by rw [Gr.boxOf_eq T.wf.length_pos, hB]⟩
  exact ⟨key.1, key.2.1, key.2.2, layers_two key.1 key.2.1⟩

end totality

section cum
variable {R S : Type}

/-- (no field structure needed) For `sd ≥ 1` and a weight list of length
`Σ_{h=1..sd} 2^h`, for a cell of depth `d < sd` the loop accumulates exactly the first
`Σ_{h≤d} 2^h` weights, and for `d ≥ sd` it returns `pone`. -/
theorem cumProb_spec (cfg : VrCfg R S) (probs : List S) {sd : Nat} (hsd : 1 ≤ sd)
    (hlen : probs.length = cumIdx sd) (d : Nat) :
    cumProb cfg probs d =
      .ok (if d < sd then (probs.take (cumIdx d)).foldl cfg.padd cfg.pzero else cfg.pone) :=
  cumGo_spec cfg probs d sd hlen d 0 hsd rfl

variable {α : Type} [Field S]

/-- over a field, for the weights of a `pull` (layer `h` has `2^h` cells) and a cell of depth
`d < sd`: `cumProb` is the sum of the weights of the layers `1..d`. -/
theorem cumProb_field {cfg : VrCfg R S} (FC : FieldCfg cfg) (hsd : 1 ≤ cfg.sd)
    {P P' : Part α (VrSt R S)}
    (hL : ∀ h, 1 ≤ h → h ≤ cfg.sd → (layerAt P h).length = 2 ^ h) {d : Nat} (hd : d < cfg.sd) :
    cumProb cfg (probList cfg P P') d =
      .ok (((List.range' 1 d).flatMap (fun h => layerProbs cfg P' h (layerAt P h))).sum) := by
  have e : cfg.padd = (· + ·) := funext fun a => funext (FC.padd a)
  rw [cumProb_spec cfg _ hsd (length_probList hL) d, if_pos hd, e, FC.pzero,
    ← List.sum_eq_foldl, probList_take hL (Nat.le_of_lt hd)]

end cum

section counterexample

/-- the three weights the code computes for a ternary partition with `search_depth = 1` (the
constant `C = 1 + 1/2` is computed for `2^h` cells per layer) sum to
`(1 + 1/2 + 1/3)/(1 + 1/2) = 11/9 ≠ 1` -/
theorem arity3_weights_counterexample :
    ((List.range' 1 3).map (fun l => (weight 1 1 l : ℚ))).sum = 11 / 9 ∧
      (11 / 9 : ℚ) ≠ 1 := by
  constructor <;> decide +kernel

/-- **Counterexample for arity 3**: on the ternary partition (`.kary 3`) of `[0,1]` with
`search_depth = 1`, `__init__` succeeds and establishes the tree invariant (with arity 3 and
a layer 1 of 3 cells), but the weights computed by the very first `pull` sum to `11/9`, so
`np.random.choice` rejects them: `pull` raises `ValueError`, whatever the random choices. -/
theorem arity3_counterexample :
    (∃ ds', VROOM.init cfgT (.kary 3) dom01 [d0] = .ok (sT0, ds')) ∧
    TInv 1 sT0.P ∧ K sT0.P = 3 ∧ sT0.P.layers = [[0], [1, 2, 3]] ∧
    (∃ P1, rankAll cfgT sT0.P = .ok (P1, [(1, 0), (1, 1), (1, 2)], probList cfgT sT0.P P1) ∧
      (probList cfgT sT0.P P1).sum = 11 / 9) ∧
    ∀ time dr, pull cfgT sT0 time dr = .error .valueError := by
  have hds : InitDrawsOK (VROOM.st0 (R := ℚ) (S := ℚ)) cfgT.sd (cfgT.sd + 1)
      (Part.init (.kary 3) dom01 VROOM.st0) [d0] :=
    initDrawsOK_of_simple 1 (.kary 3) dom01 [d0] dom01_valid (fun d hd => by
      obtain rfl : d = d0 := by simpa using hd
      exact ⟨by decide, fun b hb => ⟨by omega, by rw [hb]; decide⟩⟩) (by decide)
  have hT : TInv 1 sT0.P :=
    (ListAux.of_eq_ok₂ (init_tinv cfgT (.kary 3) dom01 [d0] dom01_valid hds) sT0_eq).1
  obtain ⟨P1, m, Rk⟩ := rankAll_spec cfgT sT0.P hT.wf hT.deep
  have hK : K sT0.P = 3 := by decide +kernel
  have hidx : idxList cfgT.sd sT0.P = [(1, 0), (1, 1), (1, 2)] := by decide +kernel
  -- the three ranks are a permutation of `1, 2, 3`, so the weights are those of
  -- `arity3_weights_counterexample` in some order
  have hsum : (probList cfgT sT0.P P1).sum = 11 / 9 :=
    (probList_sum_eq (exCfg_field 1 2) (fun h => 3 ^ h)
      fun h h1 h2 => hK ▸ Rk.perm_pow hT h1 h2).trans
      ((add_zero _).trans arity3_weights_counterexample.1)
  refine ⟨⟨_, sT0_eq⟩, hT, hK, by decide +kernel, ⟨P1, hidx ▸ m, hsum⟩, fun time dr => ?_⟩
  have hbad : cfgT.probOK (probList cfgT sT0.P P1) = false :=
    decide_eq_false (hsum ▸ arity3_weights_counterexample.2)
  rw [pull, m]
  simp only [bind, Except.bind, hbad]
  rfl

end counterexample

/-! Non-vacuity: a concrete round over `ℚ`.

Binary partition of `[0,1]`, `search_depth = 2`, `h_max = 3`; `np.random.choice` returns
position 3 of the weight list (cell 4 = `[1/4, 1/2]`, depth 2), the descent expands cell 4 and
moves to its second child (cell 8 = `[3/8, 1/2]`, depth 3 = `h_max`), the sampled point is `7/16`,
the reward is `3/4`. -/
section examples

/-- the draw hypothesis of `init_tinv` holds for the three draws of the two `deepen()` calls -/
theorem exB_initDraws : InitDrawsOK (VROOM.st0 (R := ℚ) (S := ℚ)) cfgB.sd (cfgB.sd + 1)
    (Part.init .binary dom01 VROOM.st0) [d0, d0, d0] :=
  initDrawsOK_of_simple 2 .binary dom01 [d0, d0, d0] dom01_valid (fun d hd => by
    obtain rfl : d = d0 := by simpa using hd
    exact ⟨by decide, fun b hb => by show 0 < b.length; rw [hb]; decide⟩) (by decide)

/-- the initial state satisfies the invariant, with arity 2 -/
theorem exB_inv : TInv cfgB.sd sB0.P ∧ K sB0.P = 2 := by
  exact ⟨(ListAux.of_eq_ok₂ (init_tinv cfgB .binary dom01 [d0, d0, d0] dom01_valid exB_initDraws)
    sB0_eq).1, by decide +kernel⟩

example : sB0.P.layers = [[0], [1, 2], [3, 4, 5, 6]] := by decide +kernel

/-- the hypotheses on the random choices of the pull hold -/
theorem exB_draws : PullDrawsOK cfgB sB0 drB :=
  pullDrawsOK_of_simple cfgB sB0 drB exB_inv.1 (by decide +kernel) (fun h l hidx => by
    have e : (idxList cfgB.sd sB0.P)[drB.choice]? = some (2, 1) := by decide +kernel
    rw [e] at hidx
    obtain ⟨rfl, rfl⟩ : 2 = h ∧ 1 = l := by simpa using hidx
    decide) (fun x hx => by
    obtain rfl : x = (some d0, 1) := by simpa [drB] using hx
    refine ⟨by rw [exB_inv.2]; decide, d0, rfl, by decide +kernel, fun b hb => ?_⟩
    show 0 < b.length
    rw [hb]; decide +kernel)

/-- all hypotheses of `pull_total` are satisfied; its conclusion for the concrete round -/
example : ∃ P1 h l node path, PullFacts cfgB sB0 1 drB sB1 8 P1 h l node path := by
  obtain ⟨s', last, P1, h, l, node, path, m, F, _⟩ := pull_total cfgB (exCfg_field 2 3)
    (by decide) (exCfg_probOK 2 3) sB0 1 drB exB_inv.1 exB_inv.2 exB_draws
  obtain ⟨rfl, e⟩ := Prod.mk.inj (Except.ok.inj (m.symm.trans pB_eq))
  obtain rfl : last = 8 := (congrArg Prod.fst e).trans (congrArg Prod.fst pB_val)
  exact ⟨P1, h, l, node, path, F⟩

/-- what the concrete `pull` returned -/
example : pull cfgB sB0 1 drB = .ok (sB1, 8, [7 / 16]) := by
  rw [pB_eq, pB_val]

example : sB1.curr = some 4 ∧ sB1.updateList = [4, 8] ∧ sB1.prob.sum = 1 ∧
    sB1.prob.length = 6 ∧ sB1.P.layers = [[0], [1, 2], [3, 4, 5, 6], [7, 8]] := by
  decide +kernel

/-- the ranks of layer 2 after the pull (no rewards yet: all keys equal, ranks by position) and
the weight of the drawn cell `(h, rank) = (2, 2)`: `1/(2·2·C)`, `C = 1 + 1/2 + 1/2 + 1/4 + 1/6 + 1/8` -/
example : [3, 4, 5, 6].map (lastRank sB1.P) = [1, 2, 3, 4] ∧
    sB1.prob[3]? = some (1 / (2 * 2 * normC 2)) ∧ (normC 2 : ℚ) = 61 / 24 := by
  decide +kernel

/-- the sampled point lies in the returned cell `[3/8, 1/2]`, hence (by `point_in_drawn_cell`)
in the drawn cell `[1/4, 1/2]` -/
example : boxOf sB1.P 8 = [⟨3 / 8, 1 / 2⟩] ∧ boxOf sB1.P 4 = [⟨1 / 4, 1 / 2⟩] := by
  decide +kernel

example : Box.Mem (boxOf sB1.P 8) drB.pt := by
  have e : boxOf sB1.P 8 = [⟨3 / 8, 1 / 2⟩] := by decide +kernel
  rw [e]
  exact List.Forall₂.cons ⟨by decide +kernel, by decide +kernel⟩ List.Forall₂.nil

/-- the concrete `receive`: the reward is credited to cells 4 and 8 only -/
example : receive cfgB sB1 (3 / 4) = .ok sB2 := sB2_eq

example : (List.range 9).map (fun i => (sB2.P.stOf i).rewards) =
    [[], [], [], [], [3 / 4], [], [], [], [3 / 4]] := by
  decide +kernel

/-- the state after the round is reachable, so `reachable_inv` applies to it -/
example : Reachable cfgB .binary dom01 sB2 :=
  Reachable.round (Reachable.init exB_initDraws sB0_eq) exB_draws pB_eq sB2_eq

example : TInv cfgB.sd sB2.P ∧ K sB2.P = 2 :=
  let ⟨h1, h2, _⟩ := reachable_inv cfgB (exCfg_field 2 3) (by decide) (exCfg_probOK 2 3) .binary
    dom01 dom01_valid rfl
    (Reachable.round (Reachable.init exB_initDraws sB0_eq) exB_draws pB_eq sB2_eq)
  ⟨h1, h2⟩

end examples

end C13
end PyXAB
