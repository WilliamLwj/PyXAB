/-
  Order-type tie (statements explained in `Spec/OrderType.lean`): a table written from the real code that the
  model rule agrees with on every entry (`agrees`, checked by evaluation) and that has an entry for every dense rank
  list of the covered lengths (`complete`, checked by evaluation) determines the model rule on **every** list of
  values of any linear order: the model's choice on `vs` is the table's entry for the order type of `vs`.
-/
import PyXABProofs.Lemmas.OT_Core
import PyXABProofs.Lemmas.OT_Rules
import Mathlib.Algebra.Order.Ring.Rat

namespace PyXAB.OT
open PyXAB PyXAB.OT

section
variable {S : Type} [LinearOrder S]

/-- the common argument: a rule that is unchanged under the dense rank map is given by the table -/
theorem tie_of_map (m : List S → List Nat) (mN : List Nat → List Nat)
    (hm : ∀ vs : List S, mN (denseRanks vs) = m vs)
    (t : Table) (ks : List Nat) (ok : List Nat → Bool)
    (h1 : agrees mN t = true) (h2 : complete t ks ok = true)
    (vs : List S) (hk : vs.length ∈ ks) (hpos : 1 ≤ vs.length) (hok : ok (denseRanks vs) = true) :
    lookup t (denseRanks vs) = some (m vs) := by
  rw [lookup_of_agrees_complete mN t ks ok h1 h2 hk (denseRanks_mem_allDense vs hpos) hok, hm vs]

end

variable {S : Type} [LinearOrder S] [Inhabited S]

theorem pick_tie (t : Table) (ks : List Nat)
    (h1 : agrees (pick (S := Nat)) t = true) (h2 : complete t ks (fun _ => true) = true)
    (vs : List S) (hk : vs.length ∈ ks) (hpos : 1 ≤ vs.length) :
    lookup t (denseRanks vs) = some (pick vs) :=
  tie_of_map pick pick (fun vs => pick_map vs _ (denseRank_emb vs)) t ks _ h1 h2 vs hk hpos rfl

theorem sortD_tie (t : Table) (ks : List Nat)
    (h1 : agrees (sortD (S := Nat)) t = true) (h2 : complete t ks (fun _ => true) = true)
    (vs : List S) (hk : vs.length ∈ ks) (hpos : 1 ≤ vs.length) :
    lookup t (denseRanks vs) = some (sortD vs) :=
  tie_of_map sortD sortD (fun vs => sortD_map vs _ (denseRank_emb vs)) t ks _ h1 h2 vs hk hpos rfl

omit [Inhabited S] in
theorem amaxFirst_tie (t : Table) (ks : List Nat)
    (h1 : agrees (amaxFirst (S := Nat)) t = true) (h2 : complete t ks (fun _ => true) = true)
    (vs : List S) (hk : vs.length ∈ ks) (hpos : 1 ≤ vs.length) :
    lookup t (denseRanks vs) = some (amaxFirst vs) :=
  tie_of_map amaxFirst amaxFirst (fun vs => amaxFirst_map vs _ (denseRank_emb vs)) t ks _ h1 h2 vs hk hpos rfl

omit [Inhabited S] in
theorem backB_tie (t : Table) (ks : List Nat)
    (h1 : agrees (backB (S := Nat)) t = true) (h2 : complete t ks botFirst = true)
    (vs : List S) (hk : vs.length ∈ ks) (hpos : 2 ≤ vs.length)
    (hbot : ∀ b, vs.head? = some b → ∀ x ∈ vs, b ≤ x) :
    lookup t (denseRanks vs) = some (backB vs) :=
  tie_of_map backB backB (fun vs => backB_map vs _ (denseRank_emb vs)) t ks _ h1 h2 vs hk (by omega)
    (denseRanks_head_bot vs hbot (by omega))

omit [Inhabited S] in
theorem amaxArm_tie (t : Table) (ks : List Nat)
    (h1 : agrees (amaxArm (S := Nat)) t = true) (h2 : complete t ks botFirst = true)
    (vs : List S) (hk : vs.length ∈ ks) (hpos : 1 ≤ vs.length)
    (hbot : ∀ b, vs.head? = some b → ∀ x ∈ vs, b ≤ x) :
    lookup t (denseRanks vs) = some (amaxArm vs) :=
  tie_of_map amaxArm amaxArm (fun vs => amaxArm_map vs _ (denseRank_emb vs)) t ks _ h1 h2 vs hk hpos
    (denseRanks_head_bot vs hbot hpos)

/-! ## sanity: the hypotheses are satisfiable and the theorems apply to concrete values -/

section sanity

def pickTable2 : Table := [([0, 0], [1]), ([0, 1], [1]), ([1, 0], [0])]

example : agrees (pick (S := Nat)) pickTable2 = true := by decide
example : complete pickTable2 [2] (fun _ => true) = true := by decide

example (a b : ℚ) : lookup pickTable2 (denseRanks [a, b]) = some (pick [a, b]) :=
  pick_tie pickTable2 [2] (by decide) (by decide) [a, b] (by simp) (by simp)

example : pick [(3 : ℤ), -1] = [0] := by
  have := pick_tie pickTable2 [2] (by decide) (by decide) [(3 : ℤ), -1] (by simp) (by simp)
  have hr : denseRanks [(3 : ℤ), -1] = [1, 0] := by decide
  rw [hr] at this
  exact (Option.some.inj this).symm

def sortTable2 : Table := [([0, 0], [0, 1]), ([0, 1], [1, 0]), ([1, 0], [0, 1])]
def amaxTable2 : Table := [([0, 0], [0]), ([0, 1], [1]), ([1, 0], [0])]
def botTable2 : Table := [([0, 0], [0]), ([0, 1], [0])]

example : agrees (sortD (S := Nat)) sortTable2 = true := by decide
example : complete sortTable2 [2] (fun _ => true) = true := by decide
example : agrees (amaxFirst (S := Nat)) amaxTable2 = true := by decide
example : complete amaxTable2 [2] (fun _ => true) = true := by decide
example : agrees (backB (S := Nat)) botTable2 = true := by decide
example : agrees (amaxArm (S := Nat)) botTable2 = true := by decide
example : complete botTable2 [2] botFirst = true := by decide

example (a b : ℚ) : lookup sortTable2 (denseRanks [a, b]) = some (sortD [a, b]) :=
  sortD_tie sortTable2 [2] (by decide) (by decide) [a, b] (by simp) (by simp)

example (a b : ℚ) : lookup amaxTable2 (denseRanks [a, b]) = some (amaxFirst [a, b]) :=
  amaxFirst_tie amaxTable2 [2] (by decide) (by decide) [a, b] (by simp) (by simp)

example (bot u : ℚ) (h : bot ≤ u) : lookup botTable2 (denseRanks [bot, u]) = some (backB [bot, u]) :=
  backB_tie botTable2 [2] (by decide) (by decide) [bot, u] (by simp) (by simp)
    (by intro b hb x hx; simp at hb hx; subst hb; rcases hx with rfl | rfl <;> simp [h])

example (bot u : ℚ) (h : bot ≤ u) : lookup botTable2 (denseRanks [bot, u]) = some (amaxArm [bot, u]) :=
  amaxArm_tie botTable2 [2] (by decide) (by decide) [bot, u] (by simp) (by simp)
    (by intro b hb x hx; simp at hb hx; subst hb; rcases hx with rfl | rfl <;> simp [h])

end sanity

end PyXAB.OT
