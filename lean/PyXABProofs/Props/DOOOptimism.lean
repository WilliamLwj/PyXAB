/-
  The *optimism* guarantee of DOO (deterministic optimistic optimisation), for the model
  `PyXABModel/Model/Sweep.lean`.

  "DOO only ever expands cells whose optimistic value `f(centre) + delta(depth)` is at least the
  optimum":  let `f` be the objective, `xstar` a point of the (valid) domain `root`, and let the
  user's bound `delta` be valid for `f` along `xstar` (`DeltaValid`: for every cell of depth `h`
  whose closed box contains `xstar`, `f xstar ≤ bOf (f centre) (delta h)`).  Then in EVERY run of
  the documented loop (`init`, then any number of rounds `pull; receive`), on any of the five
  partition classes, with any admissible draws, in which every reward is the noiseless value of
  `f` at the point handed out, EVERY expansion event (every cell DOO ever splits) has a score
  (`b`-value `= bOf reward (delta depth)`) `≥ f xstar`.

  Vocabulary.
  * `Spec/SweepSpec.lean`, `Props/C08.lean`: the documented loop `DOO.run`, the instrumented
    `DOO.pullT` and its expansion events `Ev` (layer, cell id, score, tree before the expansion),
    the per-event facts `DOO.EvOK`, `DeltaStable`, `DeltaOK`, `InputsOK`.
  * `Spec/TotalSpec.lean` (C01): `TT.DOO.GoodDraws cfg k root s inputs` — every draw consumed by an
    expansion of the run satisfies what NumPy guarantees (`DrawOK`) for the box being split;
    automatic for the deterministic classes (`optimism_det`).
  * `Spec/OptSpec.lean`: `DOO.runT` (= `DOO.run` which also returns the expansion events of
    all its `pull`s; `runT_erasure`), `DOO.Noiseless`, `DOO.DeltaValid`, `OPT.CellAt`.
  * Lemmas: `Lemmas/OPT_Geo.lean` (the leaves of the tree of a run tile the domain —
    `ZM.tiles_step` along the expansions of `pullT` — and every cell is a partition cell of
    its depth),
    `Lemmas/OPT_Run.lean` (stored rewards are values of `f`; the invariant of a noiseless run).

  Contents.
  1. `DOO.optimism` (main theorem), `DOO.optimism_max`, `DOO.optimism_det`,
     `DOO.optimism_next_pull` (phrased with the un-instrumented `DOO.run`), `DOO.runT_erasure`,
     `DOO.DeltaValid.of_boxes`, `DOO.noiseless_run_exists` (satisfiability of the hypotheses for
     every schedule), `DOO.optimism_step` (single expansion, from the state invariants).
  2. Non-vacuity (`ExOpt`): `α = ℚ`, scores `WithBot ℚ`, binary partition of `[0,1]`,
     `f x = -|x - 1/3|`, `delta h = (1/2)^h`.
-/
import PyXABProofs.Lemmas.OPT_Run
import Mathlib.Algebra.Order.Field.Rat
import Mathlib.Algebra.Order.Monoid.WithTop
import Mathlib.Tactic.Linarith
import Mathlib.Tactic.NormNum.Basic
import Mathlib.Tactic.Ring

set_option linter.unusedSectionVars false

namespace PyXAB
open _root_.PyXAB.Tree TBA SW TT

namespace DOO
variable {α S : Type} [Field α] [LinearOrder α] [IsStrictOrderedRing α]
variable [LinearOrder S] [Inhabited S]

/-! ## 1. The theorems -/

/-- **Erasure**: `runT` is the documented loop `run` plus the list of expansion events. -/
theorem runT_erasure (cfg : DOOCfg α S) (k : Kind) (domain : Box α) (inputs : List (Input α S)) :
    run cfg k domain inputs = (runT cfg k domain inputs).map (fun y => (y.1, y.2.1)) :=
  OPT.DOO.runRounds_eq cfg inputs _

/-- `delta` valid on cell boxes, whatever the tree it is evaluated on (e.g. a user-supplied
table `delta(h)`), is valid in the sense of `DeltaValid`. -/
theorem DeltaValid.of_boxes {cfg : DOOCfg α S} {k : Kind} {root : Box α} {f : List α → S}
    {xstar : List α}
    (h : ∀ (P : Part α (SwSt S)) (h : Nat) (δ : S) (b : Box α), cfg.delta P h = .ok δ →
      OPT.CellAt k root h b → Box.Mem b xstar → f xstar ≤ cfg.bOf (f (Box.cpoint b)) δ) :
    DeltaValid cfg k root f xstar :=
  fun P w nd δ _ hC hw _ hm hd => h P nd.depth δ nd.box hd (hC w nd hw) hm

/-- **Optimism of DOO.**

In plain words: run DOO (the model of `PyXAB/algos/DOO.py`) on the domain `root` with a
partition of class `k`, for ANY number of rounds, feeding back at every round the exact value of
the objective `f` at the point `pull` returned.  Then every cell that DOO ever splits had, at
the moment it was split, a `b`-value `reward + delta(depth)` at least `f xstar`.

Assumptions:
* `hbot`: `cfg.negInf` is a bottom element of the score order (`-inf`);
* `hst`: `delta` does not read the stored `b_value`s (`DeltaStable`, true of the code);
* `hroot`, `hx`: the domain is a valid box (`lo ≤ hi` in every coordinate) and `xstar` lies in
  it (closed containment).  `xstar` need not be a maximiser: the statement holds for every
  point along which `delta` is valid; for a maximiser see `optimism_max`;
* `hδ`: `delta` is valid for `f` along `xstar` — `f xstar ≤ bOf (f centre) (delta h)` for every
  partition cell of depth `h` whose closed box contains `xstar` (`DeltaValid`);
* `hds`, `hG`: the draws offered to `pull` are well-formed (`DrawOKLen`) and those consumed by
  expansions are admissible (`DrawOK` for the box being split: `GoodDraws`);
* `hN`: every reward is `f` of the centre (`Box.cpoint`) of the cell handed out (`Noiseless`);
* `hrun`: the run returned (it always does when `delta` never raises and every round is offered
  a draw: C08 `DOO.loop_total`, see `noiseless_run_exists`), with final state `s`, history `H`
  and expansion events `evs` (all rounds, in order).

Conclusion: every expansion event `ev` of the run satisfies `f xstar ≤ ev.score`, where
`ev.score` is the stored `b_value` of the expanded cell `ev.id` (C08 `EvOK.node`). -/
theorem optimism (cfg : DOOCfg α S) (hbot : ∀ x, cfg.negInf ≤ x) (hst : DeltaStable cfg)
    (k : Kind) (root : Box α) (hroot : Box.Valid root) (f : List α → S) (xstar : List α)
    (hx : Box.Mem root xstar) (hδ : DeltaValid cfg k root f xstar)
    (inputs : List (Input α S))
    (hds : ∀ x ∈ inputs, ∀ d ∈ x.2.1, DrawOKLen k root.length d)
    (hG : TT.DOO.GoodDraws cfg k root (init cfg k root) inputs)
    (hN : Noiseless cfg f (init cfg k root) inputs)
    {s : DOO α S} {H : List (Nat × S)} {evs : List (Ev α (SwSt S) S)}
    (hrun : runT cfg k root inputs = .ok (s, H, evs)) :
    ∀ ev ∈ evs, f xstar ≤ ev.score :=
  (OPT.DOO.runRoundsT_optimism cfg hbot hst hx hδ inputs _ s H evs
    (OPT.DOO.OInv.init cfg k hroot f) hds hG hN hrun).2

/-- **Optimism, for a maximiser**: if moreover `f x ≤ f xstar` on the whole domain, the score of
every expanded cell dominates `f` on the whole domain. -/
theorem optimism_max (cfg : DOOCfg α S) (hbot : ∀ x, cfg.negInf ≤ x) (hst : DeltaStable cfg)
    (k : Kind) (root : Box α) (hroot : Box.Valid root) (f : List α → S) (xstar : List α)
    (hx : Box.Mem root xstar) (hmax : ∀ x, Box.Mem root x → f x ≤ f xstar)
    (hδ : DeltaValid cfg k root f xstar) (inputs : List (Input α S))
    (hds : ∀ x ∈ inputs, ∀ d ∈ x.2.1, DrawOKLen k root.length d)
    (hG : TT.DOO.GoodDraws cfg k root (init cfg k root) inputs)
    (hN : Noiseless cfg f (init cfg k root) inputs)
    {s : DOO α S} {H : List (Nat × S)} {evs : List (Ev α (SwSt S) S)}
    (hrun : runT cfg k root inputs = .ok (s, H, evs)) :
    ∀ ev ∈ evs, ∀ x, Box.Mem root x → f x ≤ ev.score :=
  fun ev hev x hxr => le_trans (hmax x hxr)
    (optimism cfg hbot hst k root hroot f xstar hx hδ inputs hds hG hN hrun ev hev)

/-- **Optimism for the deterministic partition classes** (Binary, DimensionBinary, Kary): the
admissibility of the draws follows from their well-formedness, no hypothesis on the run. -/
theorem optimism_det (cfg : DOOCfg α S) (hbot : ∀ x, cfg.negInf ≤ x) (hst : DeltaStable cfg)
    (k : Kind) (hk : Kind.Deterministic k) (root : Box α) (hroot : Box.Valid root)
    (f : List α → S) (xstar : List α) (hx : Box.Mem root xstar)
    (hδ : DeltaValid cfg k root f xstar) (inputs : List (Input α S))
    (hin : InputsOK k root.length inputs)
    (hN : Noiseless cfg f (init cfg k root) inputs)
    {s : DOO α S} {H : List (Nat × S)} {evs : List (Ev α (SwSt S) S)}
    (hrun : runT cfg k root inputs = .ok (s, H, evs)) :
    ∀ ev ∈ evs, f xstar ≤ ev.score :=
  optimism cfg hbot hst k root hroot f xstar hx hδ inputs (fun x hx' => (hin x hx').2)
    (TT.DOO.goodDraws_of_det cfg hk inputs _ hin) hN hrun

/-- **Optimism, phrased with the un-instrumented loop**: after any noiseless run of the
documented loop `DOO.run` (any number of rounds), every expansion made by the next `pull`
(events of `pullT`, C08 `pull_erasure`) is optimistic.  Since every prefix of a run is a run,
this covers every expansion of every run. -/
theorem optimism_next_pull (cfg : DOOCfg α S) (hbot : ∀ x, cfg.negInf ≤ x)
    (hst : DeltaStable cfg) (k : Kind) (root : Box α) (hroot : Box.Valid root)
    (f : List α → S) (xstar : List α) (hx : Box.Mem root xstar)
    (hδ : DeltaValid cfg k root f xstar) (inputs : List (Input α S))
    (hds : ∀ x ∈ inputs, ∀ d ∈ x.2.1, DrawOKLen k root.length d)
    (hG : TT.DOO.GoodDraws cfg k root (init cfg k root) inputs)
    (hN : Noiseless cfg f (init cfg k root) inputs)
    {s : DOO α S} {H : List (Nat × S)} (hrun : run cfg k root inputs = .ok (s, H))
    {t : Nat} {ds ds' : List (Draw α)} {s' : DOO α S} {v : Nat} {tr : List (Ev α (SwSt S) S)}
    (hds' : ∀ d ∈ ds, DrawOKLen k root.length d) (hE : EvDraws k root ds tr)
    (hpull : pullT cfg s t ds = .ok (s', ds', v, tr)) :
    ∀ ev ∈ tr, f xstar ≤ ev.score := by
  obtain ⟨evs, hT⟩ := (OPT.DOO.runRounds_ok_iff cfg inputs _ s H).1 hrun
  have hO := (OPT.DOO.runRoundsT_optimism cfg hbot hst hx hδ inputs _ s H evs
    (OPT.DOO.OInv.init cfg k hroot f) hds hG hN hT).1
  exact (OPT.DOO.pullT_optimism cfg hbot hst hx hδ hO hds' hE hpull).2

/-- **Single expansion, from the invariants of the state** (no run): in a tree `ev.before` in
which the facts `EvOK` of C08 hold, whose leaves tile the domain and are partition cells
(`OPT.GInv`), and whose evaluated cells store `f` of their point (`OPT.FInv`), the expanded
cell has a score `≥ f xstar`. -/
theorem optimism_step (cfg : DOOCfg α S) (hst : DeltaStable cfg) {k : Kind} {root : Box α}
    {f : List α → S} {xstar : List α} (hx : Box.Mem root xstar)
    (hδ : DeltaValid cfg k root f xstar) {ev : Ev α (SwSt S) S} (hev : EvOK cfg ev)
    (hG : OPT.GInv k root ev.before) (hF : OPT.FInv f ev.before) : f xstar ≤ ev.score :=
  OPT.DOO.event_optimism cfg hst hx hδ hev hG hF

/-- **The hypotheses are satisfiable for every schedule**: whatever the times and the
(well-formed, at least one per round) draws offered to the `pull`s, feeding back `f` of the
handed-out points gives a noiseless run which returns. -/
theorem noiseless_run_exists (cfg : DOOCfg α S) (hbot : ∀ x, cfg.negInf ≤ x)
    (hδok : DeltaOK cfg) (k : Kind) (root : Box α) (f : List α → S)
    (xs : List (Nat × List (Draw α)))
    (hxs : ∀ x ∈ xs, 1 ≤ x.2.length ∧ ∀ d ∈ x.2, DrawOKLen k root.length d) :
    ∃ inputs : List (Input α S), inputs.map (fun x => (x.1, x.2.1)) = xs ∧
      Noiseless cfg f (init cfg k root) inputs ∧
      ∃ s H evs, runT cfg k root inputs = .ok (s, H, evs) := by
  obtain ⟨hI, hk, hd, _⟩ := init_inv cfg k root
  obtain ⟨inputs, h1, h2, s, H, h3⟩ := OPT.DOO.exists_noiseless cfg hbot hδok f xs _ hI
    (by rw [hk, hd]; exact hxs)
  obtain ⟨evs, h4⟩ := (OPT.DOO.runRounds_ok_iff cfg inputs _ s H).1 h3
  exact ⟨inputs, h1, h2, s, H, evs, h4⟩

end DOO

/-! ## 2. Non-vacuity

`α = ℚ`, scores `WithBot ℚ` (so that the bottom element `-inf` exists), the binary partition of
`[0,1]`, `f x = -|x - 1/3|` (written with `if`, so that the kernel evaluates it), maximiser
`xstar = 1/3`, `delta h = (1/2)^h`, `b = reward + delta`.

The validity hypothesis `DeltaValid` is proved for all cells of all depths
(`cfgQ_deltaValid`, through `cellAt_shape`: a depth-`h` cell of the binary partition of `[0,1]`
is an interval of width `(1/2)^h`) — not by enumeration.  All other hypotheses of `optimism` are
proved as well (`hbot`, `DeltaStable`, `DeltaOK`, `Box.Valid`, `xstar ∈ root`, `f ≤ f xstar`),
so that `optimism_Q` is the theorem for this instance with only the run itself left as a
hypothesis; `noiseless_Q` shows that noiseless runs of every schedule exist; and for a concrete
6-round run `Noiseless`, `GoodDraws` and the run are evaluated by the kernel: its three
expansions have scores `5/6, 5/12, 5/24 ≥ 0 = f xstar`. -/
namespace ExOpt
open DOO

abbrev Sq := WithBot ℚ

/-- `[0,1]` -/
def root01 : Box ℚ := [⟨0, 1⟩]
def xstarQ : List ℚ := [1 / 3]

/-- `-|x - 1/3|` of the first coordinate -/
def fRat (x : ℚ) : ℚ := if x ≤ 1 / 3 then x - 1 / 3 else 1 / 3 - x
def fQ (x : List ℚ) : Sq := ((fRat (x.headD 0) : ℚ) : WithBot ℚ)

theorem fRat_eq (x : ℚ) : fRat x = -|x - 1 / 3| := by
  unfold fRat
  split
  · rename_i h
    rw [abs_of_nonpos (sub_nonpos.2 h), neg_neg]
  · rename_i h
    rw [abs_of_nonneg (sub_nonneg.2 (not_le.1 h).le), neg_sub]

def addQ : Sq → Sq → Sq := fun a b => a + b

/-- `delta(h) = (1/2)^h`, `b = reward + delta`, initial reward `-inf` -/
def cfgQ : DOOCfg ℚ Sq :=
  { negInf := ⊥, inf := ((1000 : ℚ) : WithBot ℚ), reward0 := ⊥, bOf := addQ,
    delta := fun _ h => .ok (((1 / 2 : ℚ) ^ h : ℚ) : WithBot ℚ) }

theorem botLe : ∀ x : Sq, cfgQ.negInf ≤ x := fun _ => bot_le
theorem cfgQ_deltaOK : DeltaOK cfgQ := fun _ _ _ _ => ⟨_, rfl⟩
theorem cfgQ_deltaStable : DeltaStable cfgQ := fun _ _ _ _ => rfl

theorem root01_valid : Box.Valid root01 := Box.valid_cons zero_le_one Box.valid_nil

theorem xstarQ_mem : Box.Mem root01 xstarQ := by
  unfold Box.Mem root01 xstarQ
  refine List.Forall₂.cons ⟨?_, ?_⟩ List.Forall₂.nil
  · show (0 : ℚ) ≤ 1 / 3; norm_num
  · show (1 / 3 : ℚ) ≤ 1; norm_num

/-- `xstar = 1/3` maximises `f` (on the whole space) -/
theorem fQ_max (x : List ℚ) : fQ x ≤ fQ xstarQ := by
  unfold fQ xstarQ
  rw [WithBot.coe_le_coe, fRat_eq, fRat_eq]
  simp

/-- A depth-`h` cell of the binary partition of `[0,1]` is an interval of width `(1/2)^h`. -/
theorem cellAt_shape {h : Nat} {b : Box ℚ} (hc : OPT.CellAt .binary root01 h b) :
    ∃ lo hi : ℚ, b = [⟨lo, hi⟩] ∧ hi - lo = (1 / 2) ^ h := by
  induction hc with
  | root => exact ⟨0, 1, rfl, by norm_num⟩
  | @child h b c d _ hd hmem ih =>
    obtain ⟨lo, hi, rfl, hw⟩ := ih
    have hdim : d.dim = 0 := by
      have : d.dim < 1 := hd
      omega
    simp only [childBoxes, hdim, List.getElem?_cons_zero, splitChain, List.cons_append,
      List.nil_append, chainIvs, List.map_cons, List.map_nil, List.set_cons_zero, List.mem_cons,
      List.not_mem_nil, or_false] at hmem
    rcases hmem with rfl | rfl
    · refine ⟨lo, Iv.mid ⟨lo, hi⟩, rfl, ?_⟩
      simp only [Iv.mid, mid]
      rw [pow_succ, ← hw]; ring
    · refine ⟨Iv.mid ⟨lo, hi⟩, hi, rfl, ?_⟩
      simp only [Iv.mid, mid]
      rw [pow_succ, ← hw]; ring

/-- **`delta h = (1/2)^h` is valid for `f x = -|x - 1/3|` along `xstar = 1/3`, for all cells of
all depths of the binary partition of `[0,1]`.** -/
theorem cfgQ_deltaValid : DeltaValid cfgQ .binary root01 fQ xstarQ := by
  apply DeltaValid.of_boxes
  intro P h δ b hd hc hm
  obtain ⟨lo, hi, rfl, hw⟩ := cellAt_shape hc
  simp only [cfgQ, Except.ok.injEq] at hd
  subst hd
  unfold Box.Mem xstarQ at hm
  rw [List.forall₂_cons] at hm
  obtain ⟨⟨h1, h2⟩, _⟩ := hm
  simp only at h1 h2
  show fQ xstarQ ≤ addQ (fQ (Box.cpoint [⟨lo, hi⟩])) _
  simp only [fQ, xstarQ, addQ, Box.cpoint, List.map_cons, List.map_nil, List.headD_cons, Iv.mid,
    mid]
  rw [← WithBot.coe_add, WithBot.coe_le_coe, fRat_eq, fRat_eq, ← hw]
  -- both the centre of the cell and `1/3` lie in `[lo, hi]`
  rw [sub_self, abs_zero, neg_zero, neg_add_eq_sub, sub_nonneg]
  have hm : lo ≤ hi := h1.trans h2
  exact abs_sub_le_of_le_of_le (by linarith) (by linarith) h1 h2

/-- **`optimism` for this instance**: every hypothesis except the run itself is discharged. -/
theorem optimism_Q (inputs : List (Input ℚ Sq)) (hin : InputsOK .binary 1 inputs)
    (hN : Noiseless cfgQ fQ (init cfgQ .binary root01) inputs)
    {s : DOO ℚ Sq} {H : List (Nat × Sq)} {evs : List (Ev ℚ (SwSt Sq) Sq)}
    (hrun : runT cfgQ .binary root01 inputs = .ok (s, H, evs)) :
    ∀ ev ∈ evs, ∀ x, Box.Mem root01 x → fQ x ≤ ev.score :=
  fun ev hev x _ => le_trans (fQ_max x)
    (optimism_det cfgQ botLe cfgQ_deltaStable .binary trivial root01 root01_valid fQ xstarQ
      xstarQ_mem cfgQ_deltaValid inputs hin hN hrun ev hev)

/-- noiseless runs of every schedule exist for this instance -/
theorem noiseless_Q (xs : List (Nat × List (Draw ℚ)))
    (hxs : ∀ x ∈ xs, 1 ≤ x.2.length ∧ ∀ d ∈ x.2, DrawOKLen .binary 1 d) :
    ∃ inputs : List (Input ℚ Sq), inputs.map (fun x => (x.1, x.2.1)) = xs ∧
      Noiseless cfgQ fQ (init cfgQ .binary root01) inputs ∧
      ∃ s H evs, runT cfgQ .binary root01 inputs = .ok (s, H, evs) :=
  noiseless_run_exists cfgQ botLe cfgQ_deltaOK .binary root01 fQ xs hxs

/-! ### A concrete 6-round run, evaluated by the kernel -/

def dq : Draw ℚ := ⟨0, []⟩
/-- a rational reward as a score (`rw` itself is a tactic keyword) -/
def rw' (q : ℚ) : Sq := ((q : ℚ) : WithBot ℚ)

/-- rewards = `f` at the points `1/2, 1/4, 3/4, 1/8, 3/8, 5/16` handed out -/
def inQ : List (Input ℚ Sq) :=
  [(1, [dq], rw' (-(1 / 6))), (2, [dq], rw' (-(1 / 12))), (3, [dq], rw' (-(5 / 12))),
   (4, [dq], rw' (-(5 / 24))), (5, [dq], rw' (-(1 / 24))), (6, [dq], rw' (-(1 / 48)))]

theorem inQ_ok : InputsOK .binary 1 inQ := by decide

theorem inQ_noiseless : Noiseless cfgQ fQ (init cfgQ .binary root01) inQ :=
  OPT.DOO.noiseless_of_check cfgQ fQ inQ _ (by decide +kernel)

/-- the cells handed out, and the three expansions (layer, cell, score): the root with
`b = -1/6 + 1`, then `[0,1/2]` with `b = -1/12 + 1/2`, then `[1/4,1/2]` with `b = -1/24 + 1/4` -/
theorem inQ_run :
    (runT cfgQ .binary root01 inQ).toOption.map (fun r => (r.2.1.map (·.1),
      r.2.2.map (fun ev => (ev.h, ev.id, ev.score)))) =
    some ([0, 1, 2, 3, 4, 5], [(0, 0, rw' (5 / 6)), (1, 1, rw' (5 / 12)), (2, 4, rw' (5 / 24))]) := by
  decide +kernel

/-- the theorem applies to this run: all its expansion scores dominate `f` on `[0,1]` -/
theorem inQ_optimism {s : DOO ℚ Sq} {H : List (Nat × Sq)} {evs : List (Ev ℚ (SwSt Sq) Sq)}
    (hrun : runT cfgQ .binary root01 inQ = .ok (s, H, evs)) :
    ∀ ev ∈ evs, ∀ x, Box.Mem root01 x → fQ x ≤ ev.score :=
  optimism_Q inQ inQ_ok inQ_noiseless hrun

end ExOpt
end PyXAB
