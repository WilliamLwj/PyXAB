/-
  Property C07 (SequOOL part) — the recommendation `get_last_point()`.

  In every state between rounds (`SQ.Inv`, see `Props/C12.lean`) reached after at least one
  complete round, `lastPoint` succeeds and returns a cell `v` that was actually handed out and
  evaluated during the search (`v ∈ chosen`, never the root) and whose observed reward (the first
  element of its reward list — its only element, `C12.rewards_once`) is `≥` that of every other
  handed-out cell, whatever the sign of the rewards (`negInf` is a bottom element of the reward
  order); among the cells with maximal reward it is the one handed out last.  Before any round
  (`chosen = []`) `lastPoint` raises (`noneDeref`: the recorded crash of the Python code, which
  dereferences `max_node = None`).  Over a run of the documented loop the recommendation is a
  cell of the history whose received reward is maximal among the rewards of the search phase.
-/
import PyXABProofs.Props.C12

set_option linter.unusedSectionVars false
set_option linter.unusedVariables false

namespace PyXAB
namespace SQ
namespace C07
open Tree TBA

variable {α S : Type} [Add α] [Sub α] [Mul α] [Div α] [OfNat α 2] [NatCast α]
variable [LinearOrder S] [Inhabited S] {negInf : S}

/-- **The recommendation** in an invariant state with at least one evaluated cell: `lastPoint`
returns a handed-out cell `v` with first reward `rv`; every handed-out cell `c` has been
evaluated (`rewards = [r]`) and `r ≤ rv`; `v` is the last such cell of `chosen`. -/
theorem lastPoint_spec (hbot : ∀ x : S, negInf ≤ x) {s : SequOOL α S} (I : Inv negInf s)
    (hne : s.chosen ≠ []) :
    ∃ v rv, SequOOL.lastPoint negInf s = .ok v ∧ v ∈ s.chosen ∧ v ≠ 0 ∧
      firstRew s.P v = some rv ∧
      (∀ c ∈ s.chosen, ∃ nd r, s.P.nodes[c]? = some nd ∧ nd.st.rewards = [r] ∧ r ≤ rv) ∧
      IsMaxLast s.P s.chosen v := by
  obtain ⟨v, h1, h2⟩ := lastScan_top s.P negInf hbot s.chosen
    (fun id hid => by
      obtain ⟨_, r, _, _, h⟩ := I.chosen_rew id hid
      exact ⟨r, h⟩) hne
  obtain ⟨hv, rv, a1, a2⟩ := h2.max
  refine ⟨v, rv, by rw [lastPoint_eq h1], hv, fun e => I.root_not_chosen (e ▸ hv), a1, fun c hc => ?_, h2⟩
  obtain ⟨nd, r, n1, n2, n3⟩ := I.chosen_rew c hc
  exact ⟨nd, r, n1, n2, a2 c hc r n3⟩

/-- Before any round `get_last_point()` raises (recorded crash of the Python code). -/
theorem lastPoint_no_round {s : SequOOL α S} (h : s.chosen = []) :
    SequOOL.lastPoint negInf s = .error .noneDeref := by
  have : SequOOL.lastScan s.P s.chosen negInf none = .ok none := by rw [h]; rfl
  rw [lastPoint_eq this]

theorem lastPoint_init (k : Kind) (domain : Box α) (hmax : Nat) :
    SequOOL.lastPoint negInf (SequOOL.init k domain hmax : SequOOL α S) = .error .noneDeref :=
  lastPoint_no_round rfl

/-- **Over a run** of the documented loop with at least one round: the recommendation is a
search cell `v` of the history, handed out in a round which received the reward `rv`, and `rv`
is `≥` the reward of every round of the search phase (rounds of the exhausted phase hand out
the root `0` and are not considered by the code). -/
theorem recommendation (hbot : ∀ x : S, negInf ≤ x) (k : Kind) (domain : Box α) (hmax : Nat)
    (inputs : List (S × List (Draw α))) (hne : inputs ≠ [])
    (hin : InputsOK k domain.length inputs) {s' : SequOOL α S} {H : List (Nat × S)}
    (hrun : run negInf k domain hmax inputs = .ok (s', H)) :
    ∃ v rv, SequOOL.lastPoint negInf s' = .ok v ∧ (v, rv) ∈ H ∧ v ≠ 0 ∧
      ∀ e ∈ H, e.1 ≠ 0 → e.2 ≤ rv := by
  obtain ⟨x, hx⟩ := List.exists_mem_of_ne_nil inputs hne
  have hK := C12.arity_pos_of_headOK (hin x hx)
  have I0 : Inv negInf (SequOOL.init k domain hmax : SequOOL α S) := C12.init_Inv k domain hmax hK
  obtain ⟨I', hist⟩ := ListAux.of_eq_ok₂ (runRounds_inv hbot inputs _ 1 I0 hin) hrun
  have hrew := (ListAux.of_eq_ok₂ (run_frame hbot inputs _ 1 I0 hin) hrun).2.2
  -- the handed-out cells are the search cells of the history
  have hch : ∀ c, c ∈ s'.chosen ↔ c ≠ 0 ∧ ∃ e ∈ H, e.1 = c := fun c => by
    have := hist.search_cells
    rw [show (SequOOL.init k domain hmax : SequOOL α S).chosen = [] from rfl, List.nil_append] at this
    rw [this, List.mem_filter, List.mem_map, bne_iff_ne, and_comm]
  -- the first round is a search round
  obtain ⟨_, _, _, _, _, j, _, _, _, j4, _, j6⟩ := hist
  have hcne : s'.chosen ≠ [] := by
    rw [j4]
    have := j6 (Nat.not_lt.2 (Nat.zero_le _)) hne
    exact fun h => absurd (congrArg List.length h) (by simp; omega)
  obtain ⟨v, rv, l1, l2, l3, l4, l5, _⟩ := lastPoint_spec hbot I' hcne
  obtain ⟨e, e1, e2⟩ := ((hch v).1 l2).2
  obtain ⟨nd, n1, n2⟩ := hrew e e1 (by rw [e2]; exact l3)
  have hrv : e.2 = rv := by
    rw [e2] at n1
    simp only [firstRew, n1, n2, Option.bind_some, List.head?_cons, Option.some.injEq] at l4
    exact l4
  refine ⟨v, rv, l1, ?_, l3, fun e' he' h0 => ?_⟩
  · rw [← e2, ← hrv]; exact e1
  · obtain ⟨nd', r', m1, m2, m3⟩ := l5 e'.1 ((hch _).2 ⟨h0, e', he', rfl⟩)
    obtain ⟨nd'', k1, k2⟩ := hrew e' he' h0
    obtain rfl := getElem?_inj m1 k1
    rw [m2] at k2
    cases k2
    exact m3

section examples
open C12

/-- the recommendation after each prefix of the run of `C12.inputs12`: before any round the
recorded crash; then always the best evaluated cell so far (cell 2 with reward 5, cell 4 with
reward 7, cell 6 — the later one of the two cells with reward 7 —, cell 8 with reward 9), also
when all rewards seen are negative (cell 1 with reward -3 after one round), and unchanged by
the pulls of the exhausted phase. -/
def recAfter (n : Nat) : Option (Except Err Nat) :=
  (run (-1000 : Int) .binary dom2 3 (inputs12.take n)).toOption.map
    (fun p => SequOOL.lastPoint (-1000 : Int) p.1)

example : (List.range 13).map recAfter =
    [some (.error .noneDeref), some (.ok 1), some (.ok 2), some (.ok 2), some (.ok 4),
     some (.ok 4), some (.ok 6), some (.ok 6), some (.ok 8), some (.ok 8), some (.ok 8),
     some (.ok 8), some (.ok 8)] := by decide +kernel

/-- the theorem applied to a concrete run with a bottom element (`S := Nat`, `-inf := 0`) -/
example : ∃ s' H v rv, run (0 : Nat) .binary dom2 3 inputsN = .ok (s', H) ∧
    SequOOL.lastPoint (0 : Nat) s' = .ok v ∧ (v, rv) ∈ H ∧ ∀ e ∈ H, e.1 ≠ 0 → e.2 ≤ rv := by
  obtain ⟨s', H, h1, _⟩ := run_total (negInf := (0 : Nat)) Nat.zero_le .binary dom2 3 inputsN
    (by decide)
  obtain ⟨v, rv, a1, a2, _, a4⟩ := recommendation (negInf := (0 : Nat)) Nat.zero_le .binary dom2 3
    inputsN (by decide) (by decide) h1
  exact ⟨s', H, v, rv, h1, a1, a2, a4⟩

example : (run (0 : Nat) .binary dom2 3 inputsN).toOption.map
    (fun p => SequOOL.lastPoint (0 : Nat) p.1) = some (.ok 8) := by decide +kernel

end examples

end C07
end SQ
end PyXAB
