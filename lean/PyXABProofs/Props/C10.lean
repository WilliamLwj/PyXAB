/-
  Property C10 — POO: "Every POO round is served by exactly one base learner, and the reward of
  that round is delivered to that same learner and to no other; learners are only ever added,
  each with nu_max and a distinct rho in (0, rho_max) taken from the grid rho_max^(2N/(2i+1)).
  At every moment each learner's score equals the arithmetic mean of the rewards it has received
  and its recorded count equals their number, and get_last_point is the next proposal of a
  learner with the highest score."

  Setting.  `POO.pull / receive / lastPoint` of `PyXABModel/Model/Meta.lean`, for EVERY base
  learner `ops : LearnerOps L α R Pt ρ` and every configuration record (`cond` oracle, `rhoOf`,
  `upd`, `zero`).  `Spec/MetaSpec.lean` defines the ghost-instrumented loop (`POO.round`,
  `POO.run`, log entries `(served, received, r, created)`), `POO.Reach` (states reachable from
  the constructor by the documented loop), `OpsTotal`, the effect predicates `PullEffect` /
  `RecvEffect`, and the invariants.  A run over an input list covers "every moment": every
  prefix of a successful run is a successful run (`POO_run_prefix`).

  Quantifier: every oracle with `cond 2 2 = true`; otherwise POO cannot start
  (`POO_start_failure`).
-/
import PyXABProofs.Lemmas.MT_POOScore
import PyXABProofs.Lemmas.MT_Argmax
import PyXABProofs.Lemmas.MT_Grid
import PyXABProofs.Lemmas.MT_Example

namespace PyXAB
open POO MT

variable {L α R S Pt ρ : Type}

/-- If the oracle refuses `N = n = 2`, the very first `pull` reads the attribute `algo_counter`
which does not exist yet. -/
theorem POO_start_failure (ops : LearnerOps L α R Pt ρ) (cfg : POOCfg R S ρ)
    (hc : cfg.cond 2 2 = false) (time : Nat) (ds : List (Draw α)) :
    POO.pull ops cfg (POO.init : POO L S) time ds = .error .noneDeref ∧
    ∀ x xs, POO.run ops cfg (POO.init : POO L S) (x :: xs) = .error .noneDeref := by
  have h : ∀ time ds, POO.pull ops cfg (POO.init : POO L S) time ds = .error .noneDeref := by
    intro time ds
    simp [POO.pull, POO.init, hc]
  refine ⟨h time ds, fun x xs => ?_⟩
  simp [POO.run, POO.round, h]

/-- every prefix of a successful run is a successful run, with the corresponding prefix of the log -/
theorem POO_run_prefix (ops : LearnerOps L α R Pt ρ) (cfg : POOCfg R S ρ) (s s' : POO L S)
    (xs ys : List (RoundIn α R)) (log : List (Entry R))
    (h : POO.run ops cfg s (xs ++ ys) = .ok (s', log)) :
    ∃ s1 log1 log2, POO.run ops cfg s xs = .ok (s1, log1) ∧ POO.run ops cfg s1 ys = .ok (s', log2) ∧
      log = log1 ++ log2 :=
  run_append_ok_iff.mp h

/-- Between rounds, for an arbitrary oracle: `N = 2^a ≥ 2`, `n = m·N` (so `ceil(n/N) = m`
exactly), the three lists have the same length, and
* creation mode (`cond N n`): `phase < N`, `counter < m`, every learner has received `m`
  rewards, except the last one while it is being filled (`counter` rewards, `0 < counter`);
* round-robin mode (`¬ cond N n`): `phase = counter = 0`, `algo_counter = ac` is a valid index,
  the learners before `ac` have `m + 1` rewards, the others `m`. -/
theorem POO_invariant {ops : LearnerOps L α R Pt ρ} {cfg : POOCfg R S ρ} (hc : cfg.cond 2 2 = true)
    {s : POO L S} (hs : Reach ops cfg s) :
    ∃ a m, 1 ≤ a ∧ 1 ≤ m ∧ s.N = 2 ^ a ∧ s.n = m * s.N ∧ POO.ceilDiv s.n s.N = m ∧
      s.V.length = s.learners.length ∧ s.times.length = s.learners.length ∧
      (cfg.cond s.N s.n = true → s.phase < s.N ∧ s.counter < m ∧ (0 < s.counter → s.learners ≠ []) ∧
        ∀ (i : Nat) t, s.times[i]? = some t →
          t = if i + 1 = s.learners.length ∧ 0 < s.counter then s.counter else m) ∧
      (cfg.cond s.N s.n = false → s.phase = 0 ∧ s.counter = 0 ∧
        ∃ ac, s.algoCounter = some ac ∧ ac < s.learners.length ∧
          ∀ (i : Nat) t, s.times[i]? = some t → t = if i < ac then m + 1 else m) := by
  obtain ⟨a, m, hI⟩ := reach_inv hc hs
  have hN0 : 0 < s.N := by rw [hI.hN]; exact Nat.pow_pos (by omega)
  refine ⟨a, m, hI.ha, hI.hm, hI.hN, hI.hn, ?_, hI.hV, hI.hT, hI.create, hI.rr⟩
  rw [hI.hn]
  exact ceilDiv_mul m s.N hN0

/-- A round from any state satisfying the invariant `POO.Inv` (which holds initially when
`cond 2 2`, and is re-established by every `pull`/`receive` pair whatever the times and draws
given to `receive`): so the routing property also covers callers which do not thread the draws
left by `pull` into `receive`. -/
theorem POO_routing_inv {ops : LearnerOps L α R Pt ρ} {cfg : POOCfg R S ρ}
    {s s1 s2 : POO L S} (hI : Inv cfg s) {time time' i : Nat} {ds ds1 ds' ds2 : List (Draw α)}
    {pt : Pt} {r : R} (hp : POO.pull ops cfg s time ds = .ok (s1, ds1, i, pt))
    (hr : POO.receive ops cfg s1 time' r ds' = .ok (s2, ds2)) :
    PullEffect ops cfg s time ds s1 ds1 i pt ∧ RecvEffect ops cfg s1 time' r ds' s2 ds2 i ∧
    Inv cfg s2 ∧ (cfg.cond 2 2 = true → Inv cfg (POO.init : POO L S)) := by
  obtain ⟨a, m, hI⟩ := hI
  obtain ⟨hR, hidx, hpe⟩ := pull_ready hI hp
  obtain ⟨hI2, hre⟩ := receive_inv hR hr
  rw [hidx] at hre
  exact ⟨hpe, hre, hI2, inv_init cfg⟩

/-- In every round played from a reachable state: `pull` constructs at most one learner (appended
at the end, with the grid parameter `rhoOf N phase`, score `zero`, count `0`) and calls
`ops.pull` on exactly the learner of index `i`; the following `receive` calls `ops.receive` on
that same learner `i` (after its `pull`) and on no other; every other learner state, score and
count is unchanged (`PullEffect`, `RecvEffect`).  The times and draws given to `receive` are
arbitrary. -/
theorem POO_routing {ops : LearnerOps L α R Pt ρ} {cfg : POOCfg R S ρ} (hc : cfg.cond 2 2 = true)
    {s s1 s2 : POO L S} (hs : Reach ops cfg s) {time time' i : Nat} {ds ds1 ds' ds2 : List (Draw α)}
    {pt : Pt} {r : R} (hp : POO.pull ops cfg s time ds = .ok (s1, ds1, i, pt))
    (hr : POO.receive ops cfg s1 time' r ds' = .ok (s2, ds2)) :
    PullEffect ops cfg s time ds s1 ds1 i pt ∧ RecvEffect ops cfg s1 time' r ds' s2 ds2 i ∧
    Inv cfg s2 :=
  let ⟨hpe, hre, hI2, _⟩ := POO_routing_inv (reach_inv hc hs) hp hr
  ⟨hpe, hre, hI2⟩

/-- Frame and append-only, spelled out: after a round served by learner `i`, every old index
`j ≠ i` holds the same learner state, score and count as before, and no learner is removed. -/
theorem POO_routing_frame {ops : LearnerOps L α R Pt ρ} {cfg : POOCfg R S ρ} (hc : cfg.cond 2 2 = true)
    {s s1 s2 : POO L S} (hs : Reach ops cfg s) {time time' i : Nat} {ds ds1 ds' ds2 : List (Draw α)}
    {pt : Pt} {r : R} (hp : POO.pull ops cfg s time ds = .ok (s1, ds1, i, pt))
    (hr : POO.receive ops cfg s1 time' r ds' = .ok (s2, ds2)) :
    s.learners.length ≤ s2.learners.length ∧ s2.learners.length ≤ s.learners.length + 1 ∧
    i < s2.learners.length ∧
    ∀ j, j < s.learners.length → j ≠ i →
      s2.learners[j]? = s.learners[j]? ∧ s2.V[j]? = s.V[j]? ∧ s2.times[j]? = s.times[j]? := by
  obtain ⟨hpe, hre, -⟩ := POO_routing hc hs hp hr
  obtain ⟨a, m, hI⟩ := reach_inv hc hs
  obtain ⟨-, -, -, -, -, pre, l, l1, hcase, hpre, -, hl1⟩ := hpe
  obtain ⟨l', l2, v, t, -, -, -, -, hl2, hv2, ht2⟩ := hre
  have hi := (List.getElem?_eq_some_iff.mp hpre).1
  rw [hl2, hl1, hv2, ht2, List.length_set, List.length_set]
  -- the lists after `pull` extend the old ones, and `set i` leaves every `j ≠ i` alone
  have hext : pre.length ≤ s.learners.length + 1 ∧ ∀ j, j < s.learners.length →
      pre[j]? = s.learners[j]? ∧ s1.V[j]? = s.V[j]? ∧ s1.times[j]? = s.times[j]? := by
    rcases hcase with ⟨-, rfl, hV1, hT1, -⟩ | ⟨-, lnew, -, rfl, hV1, hT1⟩
    · rw [hV1, hT1]
      exact ⟨Nat.le_succ _, fun _ _ => ⟨rfl, rfl, rfl⟩⟩
    · rw [hV1, hT1]
      exact ⟨Nat.le_of_eq List.length_append, fun j hj => ⟨List.getElem?_append_left hj,
        List.getElem?_append_left (hI.hV ▸ hj), List.getElem?_append_left (hI.hT ▸ hj)⟩⟩
  have hle : s.learners.length ≤ pre.length := by
    rcases hcase with ⟨-, rfl, -⟩ | ⟨-, lnew, -, rfl, -⟩
    · exact Nat.le_refl _
    · rw [List.length_append]; exact Nat.le_add_right _ _
  refine ⟨hle, hext.1, hi, fun j hj hji => ?_⟩
  rw [List.getElem?_set_ne (Ne.symm hji), List.getElem?_set_ne (Ne.symm hji),
    List.getElem?_set_ne (Ne.symm hji), List.getElem?_set_ne (Ne.symm hji)]
  exact hext.2 j hj

/-- Along a run: every log entry has `received = served` (an existing learner), and the list
of learners only grows. -/
theorem POO_routing_log {ops : LearnerOps L α R Pt ρ} {cfg : POOCfg R S ρ} (hc : cfg.cond 2 2 = true)
    {s' : POO L S} {xs : List (RoundIn α R)} {log : List (Entry R)}
    (h : POO.run ops cfg POO.init xs = .ok (s', log)) :
    (∀ e ∈ log, e.received = e.served ∧ e.served < s'.learners.length) ∧
    log.length = xs.length := by
  refine ⟨run_induction (J := fun s1 log1 => ∀ e ∈ log1, e.received = e.served ∧ e.served < s1.learners.length)
    (fun s1 log1 x s2 e pt hI1 hJ hr e' he' => ?_) (inv_init cfg hc) nofun h, run_length h⟩
  obtain ⟨-, -, -, hlen, hi⟩ := round_lists hI1 hr
  rcases List.mem_append.mp he' with he' | he'
  · exact ⟨(hJ e' he').1, Nat.lt_of_lt_of_le (hJ e' he').2 (hlen ▸ Nat.le_add_right _ _)⟩
  · cases List.mem_singleton.mp he'
    exact ⟨(round_spec hI1 hr).2.1, hi⟩

/-- At every moment the three lists have the same length and `times[i]` is the number of log
entries whose receiver is `i` (no reward was ever addressed to a non-existing learner). -/
theorem POO_counts {ops : LearnerOps L α R Pt ρ} {cfg : POOCfg R S ρ} (hc : cfg.cond 2 2 = true)
    {s' : POO L S} {xs : List (RoundIn α R)} {log : List (Entry R)}
    (h : POO.run ops cfg POO.init xs = .ok (s', log)) :
    s'.V.length = s'.learners.length ∧ s'.times.length = s'.learners.length ∧
    (∀ i, i < s'.learners.length → s'.times[i]? = some (recvCount log i)) ∧
    (∀ i, s'.learners.length ≤ i → recvCount log i = 0) := by
  obtain ⟨a, m, hI'⟩ := run_inv (inv_init cfg hc) h
  have hcnt := run_counts (inv_init cfg hc) h
  simp only [POO.init, List.getElem?_nil, Option.getD_none, Nat.zero_add] at hcnt
  have hT := hI'.hT
  refine ⟨hI'.hV, hT, fun i hi => ?_, fun i hi => ?_⟩
  · have := hcnt i
    rw [List.getElem?_eq_getElem (by omega)] at this ⊢
    simpa using this
  · have := hcnt i
    rw [List.getElem?_eq_none (by omega)] at this
    simpa using this.symm

/-- The `k` handed to `upd` is the learner's true count: in every round from a reachable state
the score of the serving learner `i` becomes `upd V[i] times[i] r` (with `V[i] = zero`,
`times[i] = 0` for the learner constructed in this round), `times[i]` is incremented, and no
other score or count changes. -/
theorem POO_upd_count {ops : LearnerOps L α R Pt ρ} {cfg : POOCfg R S ρ} (hc : cfg.cond 2 2 = true)
    {s s2 : POO L S} (hs : Reach ops cfg s) {x : RoundIn α R} {e : Entry R} {pt : Pt}
    (h : POO.round ops cfg s x = .ok (s2, e, pt)) :
    s2.V[e.served]? = some (cfg.upd ((s.V[e.served]?).getD cfg.zero) ((s.times[e.served]?).getD 0) x.r) ∧
    (∀ j, (s2.times[j]?).getD 0 = (s.times[j]?).getD 0 + if j = e.served then 1 else 0) ∧
    (∀ j, j ≠ e.served → (s2.V[j]?).getD cfg.zero = (s.V[j]?).getD cfg.zero) := by
  obtain ⟨h1, h2, h3, -⟩ := round_lists (reach_inv hc hs) h
  exact ⟨h3, h1, h2⟩

/-- Over a field of characteristic zero with the running-mean update `(V·k + r)/(k+1)`: at every
moment, for every learner which has received at least one reward, the score is the arithmetic
mean of exactly the rewards delivered to it, and the count is their number. -/
theorem POO_scores [Field α] [CharZero α] {ops : LearnerOps L α α Pt ρ} {cfg : POOCfg α α ρ}
    (hc : cfg.cond 2 2 = true)
    (hupd : ∀ v k r, cfg.upd v k r = (v * (k : α) + r) / ((k : α) + 1)) (hz : cfg.zero = 0)
    {s' : POO L α} {xs : List (RoundIn α α)} {log : List (Entry α)}
    (h : POO.run ops cfg POO.init xs = .ok (s', log)) :
    ∀ i v t, s'.V[i]? = some v → s'.times[i]? = some t →
      t = (recvRewards log i).length ∧ (0 < t → v = (recvRewards log i).sum / (t : α)) := by
  intro i v t hv ht
  have hsc := run_scores hupd hz (inv_init cfg hc) h i
  have hcnt := run_counts (inv_init cfg hc) h i
  simp only [POO.init, List.getElem?_nil, Option.getD_none, hv, ht, Option.getD_some,
    Nat.cast_zero, mul_zero, zero_add] at hsc hcnt
  refine ⟨by rw [recvRewards_length]; exact hcnt, fun hpos => ?_⟩
  have hne : (t : α) ≠ 0 := Nat.cast_ne_zero.mpr (by omega)
  rw [← hsc, mul_div_assoc, div_self hne, mul_one]

/-- the same over a linearly ordered field -/
theorem POO_scores_ordered [Field α] [LinearOrder α] [IsStrictOrderedRing α]
    {ops : LearnerOps L α α Pt ρ} {cfg : POOCfg α α ρ} (hc : cfg.cond 2 2 = true)
    (hupd : ∀ v k r, cfg.upd v k r = (v * (k : α) + r) / ((k : α) + 1)) (hz : cfg.zero = 0)
    {s' : POO L α} {xs : List (RoundIn α α)} {log : List (Entry α)}
    (h : POO.run ops cfg POO.init xs = .ok (s', log)) :
    ∀ i v t, s'.V[i]? = some v → s'.times[i]? = some t →
      t = (recvRewards log i).length ∧ (0 < t → v = (recvRewards log i).sum / (t : α)) :=
  POO_scores hc hupd hz h

/-- If POO can start and the base learner never raises, no round ever raises (in particular
neither `noneDeref` nor `indexError`). -/
theorem POO_total {ops : LearnerOps L α R Pt ρ} {cfg : POOCfg R S ρ} (hc : cfg.cond 2 2 = true)
    (hops : OpsTotal ops) (xs : List (RoundIn α R)) :
    ∃ s' log, POO.run ops cfg (POO.init : POO L S) xs = .ok (s', log) :=
  run_total hops xs (inv_init cfg hc)

/-- … and from every reachable state each single call succeeds. -/
theorem POO_total_step {ops : LearnerOps L α R Pt ρ} {cfg : POOCfg R S ρ} (hc : cfg.cond 2 2 = true)
    (hops : OpsTotal ops) {s : POO L S} (hs : Reach ops cfg s) (time : Nat) (ds : List (Draw α)) :
    ∃ s1 ds1 i pt, POO.pull ops cfg s time ds = .ok (s1, ds1, i, pt) ∧
      ∀ time' r ds', ∃ s2 ds2, POO.receive ops cfg s1 time' r ds' = .ok (s2, ds2) := by
  obtain ⟨a, m, hI⟩ := reach_inv hc hs
  obtain ⟨s1, ds1, i, pt, hp⟩ := pull_total hI hops time ds
  obtain ⟨hR, -, -⟩ := pull_ready hI hp
  exact ⟨s1, ds1, i, pt, hp, fun time' r ds' => receive_total hR hops time' r ds'⟩

/-- `get_last_point` from a reachable state: before the first `pull` (`V = []`) it raises
`ValueError` (`np.argmax` of an empty list); otherwise it calls `ops.pull` (with time 0) on the
learner at the FIRST index of a maximal score — its next proposal — and touches nothing else. -/
theorem POO_lastPoint [LinearOrder S] {ops : LearnerOps L α R Pt ρ} {cfg : POOCfg R S ρ}
    (hc : cfg.cond 2 2 = true) {s : POO L S} (hs : Reach ops cfg s) :
    (s.V = [] → POO.lastPoint ops s = .error .valueError) ∧
    (s.V ≠ [] → ∃ i l, argmaxFirst s.V = some i ∧ IsFirstMax s.V i ∧ s.learners[i]? = some l ∧
      POO.lastPoint ops s =
        match ops.pull l 0 with
        | .error e => .error e
        | .ok (l', pt) => .ok ({ s with learners := s.learners.set i l' }, i, pt)) := by
  obtain ⟨a, m, hI⟩ := reach_inv hc hs
  constructor
  · intro h
    simp [POO.lastPoint, h, argmaxFirst_nil]
  · intro h
    obtain ⟨i, hi⟩ := argmaxFirst_isSome h
    have hmax := argmaxFirst_spec hi
    have hlt : i < s.learners.length := hI.hV ▸ argmaxFirst_lt_length hi
    refine ⟨i, s.learners[i], hi, hmax, List.getElem?_eq_getElem hlt, ?_⟩
    simp only [POO.lastPoint, hi, List.getElem?_eq_getElem hlt, bind, Except.bind, pure, Except.pure]
    cases ops.pull s.learners[i] 0 <;> rfl

/-- The parameters handed to `create` along a run are `rhoOf N i` for grid pairs `(N, i)` which
are pairwise distinct, with `N = 2^a ≥ 2` and `i < N` (`i = 1` for `N = 2`: the pair `(2, 0)` is
never used, and the first learner has `(2, 1)`); exactly one learner exists per pair.  (That
`create` is called with `rhoOf N phase` is part of `PullEffect` in `POO_routing`.) -/
theorem POO_grid_pairs {ops : LearnerOps L α R Pt ρ} {cfg : POOCfg R S ρ} (hc : cfg.cond 2 2 = true)
    {s' : POO L S} {xs : List (RoundIn α R)} {log : List (Entry R)}
    (h : POO.run ops cfg POO.init xs = .ok (s', log)) :
    s'.learners.length = (createdPairs log).length ∧ (createdPairs log).Nodup ∧
    (∀ p ∈ createdPairs log, (∃ a, 1 ≤ a ∧ p.1 = 2 ^ a) ∧ p.2 < p.1 ∧ (p.1 = 2 → p.2 = 1)) ∧
    (xs ≠ [] → (createdPairs log).head? = some (2, 1)) := by
  obtain ⟨hlen, hpw, hall⟩ := run_created (inv_init cfg hc) h
  refine ⟨by simpa [POO.init] using hlen, ?_, ?_, ?_⟩
  · exact hpw.imp (fun {p q} hlt heq => by rw [heq] at hlt; exact Nat.lt_irrefl _ hlt)
  · intro p hp
    obtain ⟨h1, -, h3, h4⟩ := hall p hp
    refine ⟨h3, h4, fun h2 => ?_⟩
    -- the constructor leaves `N = 2`, `phase = 1`: every key `N + phase` is at least `nextKey init = 3`
    rw [show nextKey (POO.init : POO L S) = 3 from rfl] at h1
    omega
  · intro hne
    cases xs with
    | nil => exact absurd rfl hne
    | cons x xs =>
      obtain ⟨s1, e, pt, log', hr, -, rfl⟩ := run_cons_ok_iff.mp h
      obtain ⟨-, -, -, hcr, -⟩ := round_spec (inv_init cfg hc) hr
      have : e.created = some (2, 1) := by rw [hcr]; simp [creates, POO.init, hc]
      simp [createdPairs, this]

/-- Over ℝ: for `0 < rhomax < 1` the grid values `rhomax^(2N/(2i+1))` of the learners
constructed along a run are pairwise distinct (across all doublings) and lie in `(0, rhomax)`. -/
theorem POO_grid_real {ops : LearnerOps L α R Pt ρ} {cfg : POOCfg R S ρ} (hc : cfg.cond 2 2 = true)
    {s' : POO L S} {xs : List (RoundIn α R)} {log : List (Entry R)}
    (h : POO.run ops cfg POO.init xs = .ok (s', log)) {rhomax : ℝ} (h0 : 0 < rhomax) (h1 : rhomax < 1) :
    ((createdPairs log).map (fun p => gridRho rhomax p.1 p.2)).Nodup ∧
    ∀ p ∈ createdPairs log, 0 < gridRho rhomax p.1 p.2 ∧ gridRho rhomax p.1 p.2 < rhomax := by
  obtain ⟨-, hnd, hall, -⟩ := POO_grid_pairs hc h
  constructor
  · refine (List.nodup_map_iff_inj_on hnd).mpr ?_
    intro p hp q hq heq
    obtain ⟨⟨a, -, ha⟩, -, -⟩ := hall p hp
    obtain ⟨⟨b, -, hb⟩, -, -⟩ := hall q hq
    rw [gridRho_eq_iff h0 h1, ha, hb] at heq
    obtain ⟨hab, hij⟩ := gridExp_inj_pow2 heq
    exact Prod.ext (by rw [ha, hb, hab]) hij
  · intro p hp
    exact ⟨gridRho_pos h0 _ _, (gridRho_lt_rhomax_iff h0 h1 _ _).mpr (hall p hp).2.1⟩

/-- the arithmetic behind it, for arbitrary grid pairs: powers of two `N`, `0 ≤ i < N` -/
theorem POO_grid_arith {rhomax : ℝ} (h0 : 0 < rhomax) (h1 : rhomax < 1) (a b i j : ℕ) :
    (gridRho rhomax (2 ^ a) i = gridRho rhomax (2 ^ b) j → a = b ∧ i = j) ∧
    (i < 2 ^ a → 1 < gridExp (2 ^ a) i ∧ 0 < gridRho rhomax (2 ^ a) i ∧ gridRho rhomax (2 ^ a) i < rhomax) :=
  ⟨fun h => gridExp_inj_pow2 ((gridRho_eq_iff h0 h1 ..).mp h),
   fun h => ⟨one_lt_gridExp_iff.mpr h, gridRho_pos h0 _ _, (gridRho_lt_rhomax_iff h0 h1 _ _).mpr h⟩⟩

/-! Non-vacuity: the recording learner; oracle true exactly at `(2,2)` and `(4,8)`; rewards
1, 2, 3, …; `upd = sum`. -/

open MT.Ex in
/-- the hypotheses of the theorems are satisfiable -/
example : pooCfg.cond 2 2 = true ∧ OpsTotal (recOps Unit Nat (Nat × Nat)) :=
  ⟨by decide, recOps_total ..⟩

open MT.Ex in
/-- 15 rounds: learner 0 is constructed with `(2,1)` and filled (`m = 1`); doubling to `N = 4`;
one round-robin pass (`n = 8`); a creation block with `m = 2` constructs four learners
`(4,0) … (4,3)`; doubling to `N = 8`; one round-robin pass over the five learners (`n = 24`).
Each learner recorded exactly the rewards of the rounds it served. -/
example : pooState 15 = some (8, 24, 0, 0, some 0) ∧
    pooLists 15 = some ([[1, 2, 11], [3, 4, 12], [5, 6, 13], [7, 8, 14], [9, 10, 15]],
                        [14, 19, 24, 29, 34], [3, 3, 3, 3, 3]) ∧
    pooLog 15 = some [(0, 0, 1), (0, 0, 2), (1, 1, 3), (1, 1, 4), (2, 2, 5), (2, 2, 6), (3, 3, 7),
                      (3, 3, 8), (4, 4, 9), (4, 4, 10), (0, 0, 11), (1, 1, 12), (2, 2, 13),
                      (3, 3, 14), (4, 4, 15)] ∧
    pooPairs 15 = some [(2, 1), (4, 0), (4, 1), (4, 2), (4, 3)] := by decide

open MT.Ex in
/-- in the middle of the creation block (learner 2 being filled: `counter = 1 < m = 2`) -/
example : pooState 5 = some (4, 8, 1, 1, some 0) ∧
    pooLists 5 = some ([[1, 2], [3, 4], [5]], [3, 7, 5], [2, 2, 1]) := by decide

open MT.Ex in
/-- `get_last_point`: `ValueError` before the first `pull`; afterwards the next proposal of the
learner with the highest score (index 4, whose proposal is its reward list) -/
example : pooLast 0 = some (.inl .valueError) ∧ pooLast 15 = some (.inr (4, [9, 10, 15])) := by decide

open MT.Ex in
/-- an oracle refusing `(2,2)`: the first round raises `noneDeref` (`POO_start_failure`) -/
example : pooBad 0 = none ∧ pooBad 1 = some .noneDeref := by decide

end PyXAB
