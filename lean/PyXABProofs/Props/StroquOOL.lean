/-
  StroquOOL (model `PyXABModel/Model/StroquOOL.lean`): its parts of the library properties
  C04 (credit, with the documented exception), C07 (recommendation), C03 (tree bookkeeping),
  plus the end behaviour and the bookkeeping of `chosen` (Python's `self.chosen`: the children of
  the expanded cells, among which the candidates are picked).

  Setting.  Scores `S` carry `[LE S] [DecidableLE S]` (what the model asks for); the
  recommendation theorems need `[LinearOrder S]` (over `Float`, `NaN` is outside this order
  assumption: `meanOf [] = NaN` in Python) and, for totality only, `cfg.negInf` a bottom element.
  Partitions are binary (`k.arity domain.length = 2`, i.e. `Tree.K P = 2`), draws well-formed
  (`SK.DrawsOK P ds := ∀ d ∈ ds, Tree.DrawOKLen P.kind (dimn P) d`).

  Definitions: `Spec/SkSpec.lean` (`Inv`, `PullFrame`, `Credit`, `Reach`, `runRounds`,
  `IsLastMax`, `candList`, …); helper lemmas: `Lemmas/SK_*.lean`.

  `Tree.WF` alone is NOT preserved by `pull` from arbitrary states: a leftover `maxNode` that is a
  leaf of another depth would be expanded with the wrong `newlayer` flag; `Inv` records that
  `maxNode` is always an expanded cell, which is what the Python code relies on
  (`pull_WF_needs_inv`).
-/
import PyXABProofs.Lemmas.SK_Run
import PyXABProofs.Props.C03
import PyXABProofs.Lemmas.SK_End
import PyXABProofs.Lemmas.SK_Example

set_option linter.unusedSectionVars false

namespace PyXAB
namespace SkProps
open Tree TBA StroquOOL SK

variable {α R S : Type}

section general
variable [Add α] [Sub α] [Mul α] [Div α] [OfNat α 2] [NatCast α]
variable [LE S] [DecidableLE S] [Inhabited S] [Inhabited R]

/-- (C04, exception) after the end `receive` ignores the reward. -/
theorem receive_ended (s : StroquOOL α R S) (r : R) (h : s.ended = true) : receive s r = s :=
  SK.receive_ended s r h

/-- (C04) before the end `receive s r` appends `r` to the reward list of exactly the cell
`s.curr` and increments its `visited`; nothing else changes (neither in the arena nor in the
other fields of the state). -/
theorem receive_credits_curr (s : StroquOOL α R S) (r : R) (h : s.ended = false) :
    receive s r = { s with P := (receive s r).P } ∧
    (receive s r).P.kind = s.P.kind ∧ (receive s r).P.layers = s.P.layers ∧
    (receive s r).P.depth = s.P.depth ∧
    ∀ j : Nat, (receive s r).P.nodes[j]? = (s.P.nodes[j]?).map (fun nd =>
      if j = s.curr then
        { nd with st := { nd.st with visited := nd.st.visited + 1, rewards := nd.st.rewards ++ [r] } }
      else nd) := by
  rw [receive_open s r h]
  refine ⟨rfl, rfl, rfl, rfl, fun j => ?_⟩
  show (s.P.modifySt s.curr _).nodes[j]? = _
  rw [Part.getElem?_modifySt]
  simp only [eq_comm]

/-- (C04) the cell credited by `receive` is the one the preceding `pull` returned. -/
theorem pull_returns_curr (cfg : SkCfg R S) {s s' : StroquOOL α R S} {t : Nat}
    {ds ds' : List (Draw α)} {v : Nat} (h : pull cfg s t ds = .ok (s', ds', v))
    (he : s'.ended = false) : s'.curr = v := by
  cases (pull_spec cfg h).1 with
  | eval _ b => exact b
  | fin _ _ _ F => rw [F.ended] at he; cases he

/-- (C04, the exception) `buildCandidates` stores the candidate list `candList cfg s` (one entry
per exponent `p ≤ pmax`), succeeds iff no entry is `none`, and empties the reward list of exactly
the `some id` entries: `visited` and everything else is untouched. -/
theorem buildCandidates_resets (cfg : SkCfg R S) {s s' : StroquOOL α R S}
    (h : buildCandidates cfg s = .ok s') :
    s' = { s with candidate := s'.candidate, P := s'.P } ∧
    s'.candidate = candList cfg s ∧ s'.candidate.length = cfg.pmax + 1 ∧
    (∀ c ∈ s'.candidate, c ≠ none) ∧
    (∀ id, some id ∈ s'.candidate → id ∈ s.chosen ∧ id < s.P.nodes.length) ∧
    s'.P.kind = s.P.kind ∧ s'.P.layers = s.P.layers ∧ s'.P.depth = s.P.depth ∧
    ∀ j : Nat, s'.P.nodes[j]? = (s.P.nodes[j]?).map (fun nd =>
      if some j ∈ s'.candidate then { nd with st := { nd.st with rewards := [] } } else nd) := by
  obtain ⟨h1, rfl⟩ := (buildCandidates_ok_iff cfg s s').1 h
  exact ⟨rfl, rfl, candList_length cfg s, h1, fun id hid => candList_mem cfg s hid, rfl, rfl, rfl,
    fun j => getElem?_clearP s.P (candList cfg s) j⟩

theorem buildCandidates_none (cfg : SkCfg R S) (s : StroquOOL α R S)
    (h : none ∈ candList cfg s) : buildCandidates cfg s = .error .noneDeref :=
  SK.buildCandidates_none cfg s h

/-- (C04) what one `pull` does to the statistics (`SK.PullFrame`): `visited` never changes,
`rewards` changes only by the reset of the candidates at the moment the candidate list is built,
new cells are unvisited. -/
theorem pull_stats_frame (cfg : SkCfg R S) {s s' : StroquOOL α R S} {t : Nat}
    {ds ds' : List (Draw α)} {v : Nat} (hI : Inv s) (hd : DrawsOK s.P ds)
    (h : pull cfg s t ds = .ok (s', ds', v)) : PullFrame s s' :=
  ((pull_spec cfg h).2 hI hd).frame

/-- (C04, run level) **the credit invariant holds in every reachable state** (any interleaving
of `pull`s with well-formed draws and `receive`s), for the ghost history `H` of the pairs
(`curr`, reward) received before the end and the ghost `resetAt` (length of `H` when the
candidates were built). -/
theorem reach_credit (cfg : SkCfg R S) (k : Kind) (domain : Box α)
    (hK : k.arity domain.length = 2) {s : StroquOOL α R S} {H : List (Nat × R)}
    {ra : Option Nat} (h : Reach cfg k domain s H ra) : Credit s H ra :=
  (reach_inv cfg k domain hK h).2.1

/-- (C04, run level) the documented loop `pull(t); receive(r)`: after any successful run the
credit invariant holds for the history of the pairs (returned id, reward) of the rounds before
the end. -/
theorem run_credit (cfg : SkCfg R S) (k : Kind) (domain : Box α)
    (hK : k.arity domain.length = 2) (inputs : List (Nat × R × List (Draw α)))
    (hin : InputsOK k domain.length inputs) {s : StroquOOL α R S} {H : List (Nat × R)}
    {ra : Option Nat} (h : run cfg k domain inputs = .ok (s, H, ra)) :
    Reach cfg k domain s H ra ∧ Inv s ∧ Credit s H ra := by
  have hR := (runRounds_reach cfg k domain hK inputs Reach.init hin nofun h).1
  obtain ⟨h1, h2, _⟩ := reach_inv cfg k domain hK hR
  exact ⟨hR, h1, h2⟩

/-- `Credit` unpacked: `visited` = number of recorded rounds in which the cell was returned. -/
theorem credit_visited {s : StroquOOL α R S} {H : List (Nat × R)} {ra : Option Nat}
    (C : Credit s H ra) {id : Nat} {nd : Node α (SkSt R S)} (h : s.P.nodes[id]? = some nd) :
    nd.st.visited = (H.filter (fun e => decide (e.1 = id))).length := by
  rw [C.visited id nd h, hist, List.length_map]

/-- `Credit` unpacked: `rewards` = the rewards of those rounds in order — all of them for a
non-candidate; for a candidate those received since the candidates were built. -/
theorem credit_rewards {s : StroquOOL α R S} {H : List (Nat × R)} {ra : Option Nat}
    (C : Credit s H ra) {id : Nat} {nd : Node α (SkSt R S)} (h : s.P.nodes[id]? = some nd) :
    (some id ∉ s.candidate → nd.st.rewards = hist H id) ∧
    (some id ∈ s.candidate → ∃ k, ra = some k ∧ k ≤ H.length ∧
      nd.st.rewards = hist (H.drop k) id) := by
  have hr := C.rewards id nd h
  constructor
  · intro hn; rw [hr, if_neg hn]
  · intro hm
    rw [if_pos hm] at hr
    cases hra : ra with
    | none => rw [C.ra_none hra] at hm; cases hm
    | some k => exact ⟨k, rfl, C.ra_le k hra, by rw [hr, hra]; rfl⟩

/-- (end behaviour) the `pull` that ends the run returns the recommendation: `lastPoint` of the new
state returns that same state and id, and the id is one of the candidates. -/
theorem pull_end_recommends (cfg : SkCfg R S) {s s' : StroquOOL α R S} {t : Nat}
    {ds ds' : List (Draw α)} {v : Nat} (h : pull cfg s t ds = .ok (s', ds', v))
    (h0 : s.ended = false) (he : s'.ended = true) :
    lastPoint cfg s' = .ok (s', v) ∧ some v ∈ s'.candidate := by
  cases (pull_spec cfg h).1 with
  | eval a _ => rw [a, h0] at he; cases he
  | fin _ _ _ F => exact ⟨F.reco, F.mem⟩

/-- `ended` is only ever set (by `finish`), never cleared. -/
theorem ended_mono (cfg : SkCfg R S) {s s' : StroquOOL α R S} {t : Nat}
    {ds ds' : List (Draw α)} {v : Nat} (h : pull cfg s t ds = .ok (s', ds', v))
    (h0 : s.ended = true) : s'.ended = true := by
  cases (pull_spec cfg h).1 with
  | eval a _ => rw [a, h0]
  | fin _ _ _ F => exact F.ended

/-- (end behaviour) the configurations `SK.AfterEnd` (ended, in a `SK.Stuck` configuration, with an
up-to-date recommendation `v`) are closed under `pull` at non-decreasing times and under
`receive`: every later `pull` returns `v` again and only records the time. -/
theorem afterEnd_pull (cfg : SkCfg R S) {s : StroquOOL α R S} {t t' v : Nat}
    (h : AfterEnd cfg s t v) (ht : t ≤ t') (ds : List (Draw α)) :
    pull cfg s t' ds = .ok ({ s with iteration := t' }, ds, v) ∧
    AfterEnd cfg { s with iteration := t' } t' v := by
  obtain ⟨h1, h2, h3⟩ := h
  exact ⟨stuck_stable cfg h1 h2 h3 ht ds, h1.mono ht, h2, lastPoint_fixed cfg h3 rfl rfl⟩

theorem afterEnd_receive (cfg : SkCfg R S) {s : StroquOOL α R S} {t v : Nat}
    (h : AfterEnd cfg s t v) (r : R) : receive s r = s ∧ AfterEnd cfg (receive s r) t v := by
  have e := SK.receive_ended s r h.2.1
  exact ⟨e, by rw [e]; exact h⟩

/-- (end behaviour) the `pull` which ends the run (entered at depth `≥ 1`; at depth 0 the end can only
be reached by calling `pull` with a time `> 2·hmax`, which the documented loop never does)
establishes `AfterEnd` for the id it returns. -/
theorem pull_end_afterEnd (cfg : SkCfg R S) {s s' : StroquOOL α R S} {t : Nat}
    {ds ds' : List (Draw α)} {v : Nat} (h : pull cfg s t ds = .ok (s', ds', v))
    (hd : s.currDepth ≠ 0) (h0 : s.ended = false) (he : s'.ended = true) :
    AfterEnd cfg s' t v := by
  refine ⟨?_, he, (pull_end_recommends cfg h h0 he).1⟩
  cases (pull_spec cfg h).1 with
  | eval a _ => rw [a, h0] at he; cases he
  | fin _ _ hs F => rw [F.eq]; exact hs hd

/-- (C03) `pull` keeps the state invariant `SK.Inv` — in particular `Tree.WF`: it only expands
leaves (the root at depth 0, `maxNode` later) with the right `newlayer` flag — and leaves the
remaining draws well-formed. -/
theorem pull_preserves_inv (cfg : SkCfg R S) {s s' : StroquOOL α R S} {t : Nat}
    {ds ds' : List (Draw α)} {v : Nat} (hI : Inv s) (hd : DrawsOK s.P ds)
    (h : pull cfg s t ds = .ok (s', ds', v)) : Inv s' ∧ DrawsOK s'.P ds' :=
  have G := (pull_spec cfg h).2 hI hd
  ⟨G.inv, G.dok⟩

theorem pull_WF (cfg : SkCfg R S) {s s' : StroquOOL α R S} {t : Nat}
    {ds ds' : List (Draw α)} {v : Nat} (hI : Inv s) (hd : DrawsOK s.P ds)
    (h : pull cfg s t ds = .ok (s', ds', v)) : WF s'.P :=
  (pull_preserves_inv cfg hI hd h).1.wf

theorem receive_preserves_inv {s : StroquOOL α R S} (r : R) (hI : Inv s) : Inv (receive s r) :=
  receive_inv r hI

theorem init_inv (cfg : SkCfg R S) (k : Kind) (domain : Box α) (hK : k.arity domain.length = 2) :
    Inv (init cfg k domain) :=
  SK.init_inv cfg k domain hK

/-- (C03) every state reachable from `init` by `pull` (well-formed draws) / `receive` satisfies
`Inv`; kind and dimension never change. -/
theorem reach_inv (cfg : SkCfg R S) (k : Kind) (domain : Box α)
    (hK : k.arity domain.length = 2) {s : StroquOOL α R S} {H : List (Nat × R)}
    {ra : Option Nat} (h : Reach cfg k domain s H ra) :
    Inv s ∧ s.P.kind = k ∧ dimn s.P = domain.length :=
  have h' := SK.reach_inv cfg k domain hK h
  ⟨h'.1, h'.2.2⟩

theorem reach_WF (cfg : SkCfg R S) (k : Kind) (domain : Box α)
    (hK : k.arity domain.length = 2) {s : StroquOOL α R S} {H : List (Nat × R)}
    {ra : Option Nat} (h : Reach cfg k domain s H ra) : WF s.P :=
  (reach_inv cfg k domain hK h).1.wf

/-- (C03) all clauses of the tree-bookkeeping property hold in every reachable state. -/
theorem reach_clauses (cfg : SkCfg R S) (k : Kind) (domain : Box α)
    (hK : k.arity domain.length = 2) {s : StroquOOL α R S} {H : List (Nat × R)}
    {ra : Option Nat} (h : Reach cfg k domain s H ra) : Clauses s.P :=
  clauses_of_WF (reach_WF cfg k domain hK h)

/-- `chosen` is the list of ALL non-root cells in creation order: valid ids, no duplicates,
never the root, each one a child of an expanded cell with exactly two children. -/
theorem chosen_spec {s : StroquOOL α R S} (hI : Inv s) :
    s.chosen = List.range' 1 (s.P.nodes.length - 1) ∧ s.chosen.Nodup ∧
    ∀ c, c ∈ s.chosen ↔ (1 ≤ c ∧ c < s.P.nodes.length) ∧
      ∃ (p : Nat) (pn : Node α (SkSt R S)) (cs : List Nat),
        s.P.nodes[p]? = some pn ∧ pn.children = some cs ∧ c ∈ cs ∧ cs.length = 2 := by
  refine ⟨hI.ch, by rw [hI.ch]; exact List.nodup_range', fun c => ?_⟩
  rw [hI.mem_chosen]
  constructor
  · rintro ⟨h1, h2⟩
    refine ⟨⟨h1, h2⟩, ?_⟩
    obtain ⟨p, pn, cs, _, _, a3, a4, a5, _⟩ :=
      hI.wf.parent c _ (by omega) (List.getElem?_eq_getElem h2)
    exact ⟨p, pn, cs, a3, a4, a5, by
      rw [(children_indices hI.wf a3 a4).1, hI.ar]⟩
  · rintro ⟨h, _⟩; exact h

/-- the ids added to `chosen` by a `pull` are exactly the cells it created (both children of the
expanded cell, in child order), at the moment they are created. -/
theorem pull_chosen_grows (cfg : SkCfg R S) {s s' : StroquOOL α R S} {t : Nat}
    {ds ds' : List (Draw α)} {v : Nat} (hI : Inv s) (hd : DrawsOK s.P ds)
    (h : pull cfg s t ds = .ok (s', ds', v)) :
    s.P.nodes.length ≤ s'.P.nodes.length ∧
    s'.chosen = s.chosen ++
      List.range' s.P.nodes.length (s'.P.nodes.length - s.P.nodes.length) := by
  have G := (pull_spec cfg h).2 hI hd
  refine ⟨G.frame.len, ?_⟩
  rw [G.inv.ch, hI.ch, range'_chosen_append hI.wf.length_pos, Nat.add_sub_cancel' G.frame.len]

/-- every id returned by `pull` is an element of `chosen` (a child of an expanded cell, never the
root) — before the end it is the cell to evaluate, at the end a candidate. -/
theorem pull_returns_chosen (cfg : SkCfg R S) {s s' : StroquOOL α R S} {t : Nat}
    {ds ds' : List (Draw α)} {v : Nat} (hI : Inv s) (hd : DrawsOK s.P ds)
    (h : pull cfg s t ds = .ok (s', ds', v)) :
    v ∈ s'.chosen ∧ 1 ≤ v ∧ v < s'.P.nodes.length := by
  have G := (pull_spec cfg h).2 hI hd
  exact ⟨G.mem, G.inv.mem_chosen.1 G.mem⟩

/-- in the documented loop every id of the history is in the final `chosen`. -/
theorem run_history_chosen (cfg : SkCfg R S) (k : Kind) (domain : Box α)
    (hK : k.arity domain.length = 2) (inputs : List (Nat × R × List (Draw α)))
    (hin : InputsOK k domain.length inputs) {s : StroquOOL α R S} {H : List (Nat × R)}
    {ra : Option Nat} (h : run cfg k domain inputs = .ok (s, H, ra)) :
    ∀ e ∈ H, e.1 ∈ s.chosen := by
  obtain ⟨hR, hp⟩ := runRounds_reach cfg k domain hK inputs Reach.init hin nofun h
  obtain ⟨hI, hC, _⟩ := SK.reach_inv cfg k domain hK hR
  exact fun e he => hI.mem_chosen.2 ⟨hp e he, hC.valid e he⟩

end general

section recommendation

/-- `compute_mean`: the mean is refreshed from the reward list iff the cell has been visited;
nothing else changes. -/
theorem compMean_spec [LE S] [DecidableLE S] (cfg : SkCfg R S) (st : SkSt R S) :
    compMean cfg st = { st with mean := if st.visited > 0 then cfg.meanOf st.rewards else st.mean } :=
  compMean_eq cfg st

variable [LinearOrder S]

/-- (C07) **`get_last_point`.**  If `lastPoint cfg s = .ok (s', v)` then `v` is a candidate;
`s'` differs from `s` only by the refreshed `mean` fields of the candidates (`compMean`:
`mean := cfg.meanOf rewards` for those with `visited > 0`); and `v` is the LAST candidate, in
list order, whose refreshed mean is maximal — in particular every candidate's refreshed mean is
`≤` that of `v`.  (Needs a total order: over `Float`, `NaN` means are outside this assumption.) -/
theorem lastPoint_spec (cfg : SkCfg R S) {s s' : StroquOOL α R S} {v : Nat}
    (h : lastPoint cfg s = .ok (s', v)) :
    some v ∈ s.candidate ∧
    s' = { s with P := s'.P } ∧
    s'.P.kind = s.P.kind ∧ s'.P.layers = s.P.layers ∧ s'.P.depth = s.P.depth ∧
    (∀ j : Nat, s'.P.nodes[j]? = (s.P.nodes[j]?).map (fun nd =>
      if some j ∈ s.candidate then { nd with st := compMean cfg nd.st } else nd)) ∧
    IsLastMax (meanAt cfg.negInf s'.P) s.candidate v ∧
    ∀ c, some c ∈ s.candidate → meanAt cfg.negInf s'.P c ≤ meanAt cfg.negInf s'.P v := by
  obtain ⟨_, hp, rfl⟩ := (lastPoint_ok_iff cfg s s' v).1 h
  rw [pickLast_congr (g := meanAt cfg.negInf (refreshP cfg s.P s.candidate)) _ _
    fun c hc => (meanAt_refreshP cfg s.P s.candidate hc).symm] at hp
  have hL := pickLast_isLastMax _ _ _ hp
  exact ⟨hL.mem, rfl, rfl, rfl, rfl, fun j => getElem?_refreshP cfg s.P s.candidate j, hL,
    fun c hc => hL.le hc⟩

omit [LinearOrder S] in
/-- with no candidates `get_last_point` raises (`max_node` is `None`). -/
theorem lastPoint_nil [LE S] [DecidableLE S] (cfg : SkCfg R S) (s : StroquOOL α R S)
    (h : s.candidate = []) : lastPoint cfg s = .error .noneDeref :=
  SK.lastPoint_nil cfg s h

omit [LinearOrder S] in
/-- a `None` candidate makes `get_last_point` raise. -/
theorem lastPoint_none [LE S] [DecidableLE S] (cfg : SkCfg R S) (s : StroquOOL α R S)
    (hv : ∀ c, some c ∈ s.candidate → c < s.P.nodes.length) (h : none ∈ s.candidate) :
    lastPoint cfg s = .error .noneDeref :=
  SK.lastPoint_none cfg s hv h

/-- (C07, totality) with `negInf` a bottom element, a non-empty list of valid candidates always
yields a recommendation. -/
theorem lastPoint_total (cfg : SkCfg R S) (hbot : ∀ x : S, cfg.negInf ≤ x)
    (s : StroquOOL α R S) (hne : s.candidate ≠ [])
    (hv : ∀ c ∈ s.candidate, ∃ id, c = some id ∧ id < s.P.nodes.length) :
    ∃ s' v, lastPoint cfg s = .ok (s', v) := by
  obtain ⟨c, hc⟩ := List.exists_mem_of_ne_nil _ hne
  obtain ⟨id, rfl, _⟩ := hv c hc
  obtain ⟨v, hv'⟩ := pickLast_isSome (cmean cfg s.P) s.candidate cfg.negInf hbot hc
  exact ⟨_, v, (lastPoint_ok_iff cfg s _ v).2 ⟨hv, hv', rfl⟩⟩

/-- (cross-validation stage) the candidate for the exponent `p` is, among the cells of `chosen`
with at least `2^p` evaluations, the LAST one (in creation order) whose stored mean is
maximal (existence: `candidate_some`). -/
theorem candidate_spec (cfg : SkCfg R S) (s : StroquOOL α R S) {p id : Nat}
    (h : candFor cfg s p = some id) :
    id ∈ s.chosen ∧ eligible s.P p id = true ∧
    IsLastMax (meanAt cfg.negInf s.P) (eligibles s p) id ∧
    ∀ c ∈ s.chosen, eligible s.P p c = true →
      meanAt cfg.negInf s.P c ≤ meanAt cfg.negInf s.P id := by
  rw [candFor_eq] at h
  have hL := pickLast_isLastMax _ _ _ h
  obtain ⟨h1, h2⟩ := mem_eligibles.1 hL.mem
  exact ⟨h1, h2, hL, fun c hc he => hL.le (mem_eligibles.2 ⟨hc, he⟩)⟩

/-- with `negInf` a bottom element a candidate exists as soon as some cell of `chosen` has `2^p`
evaluations (otherwise the entry is `None` and `buildCandidates` raises). -/
theorem candidate_some (cfg : SkCfg R S) (hbot : ∀ x : S, cfg.negInf ≤ x) (s : StroquOOL α R S)
    {p c : Nat} (hc : c ∈ s.chosen) (he : eligible s.P p c = true) :
    ∃ id, candFor cfg s p = some id := by
  rw [candFor_eq]
  exact pickLast_isSome _ _ _ hbot (mem_eligibles.2 ⟨hc, he⟩)

omit [LinearOrder S] in
/-- `get_last_point` is idempotent. -/
theorem lastPoint_idem [LE S] [DecidableLE S] (cfg : SkCfg R S) {s s' : StroquOOL α R S}
    {v : Nat} (h : lastPoint cfg s = .ok (s', v)) : lastPoint cfg s' = .ok (s', v) :=
  SK.lastPoint_idem cfg h

end recommendation

end SkProps
end PyXAB

/-! Non-vacuity: a concrete run reaching the cross-validation stage and the end
(`Lemmas/SK_Example.lean`: `hmax = 2`, `pmax = 1`, binary partition of `[0, 64]`, rounds
`1, 2, …, 18`) -/

namespace PyXAB
namespace SkProps
open Tree StroquOOL SK SK.Ex

theorem after_18 : (after 18).isSome = true := by decide +kernel

/-- the hypotheses of the run-level theorems hold for the example -/
example : Kind.arity .binary dom.length = 2 := rfl
example : InputsOK .binary dom.length inputs := by decide
example : (after 18).isSome = true := after_18

/-- hence its final state satisfies `Inv`, `Credit` and all tree clauses -/
example : ∃ s H ra, run cfg .binary dom inputs = .ok (s, H, ra) ∧ Inv s ∧ Credit s H ra ∧
    Clauses s.P := by
  cases h : run cfg .binary dom inputs with
  | error e =>
    have hsome := after_18
    rw [after, show inputs.take 18 = inputs from rfl, h] at hsome
    cases hsome
  | ok x =>
    obtain ⟨s, H, ra⟩ := x
    obtain ⟨hR, hI, hC⟩ := run_credit cfg .binary dom rfl inputs (by decide) h
    exact ⟨s, H, ra, rfl, hI, hC, clauses_of_WF hI.wf⟩

/-- exploration: ids returned in rounds 1–12, all recorded with their rewards -/
example : (after 12).map (·.2.1) = some [(1, 3), (1, 5), (2, 6), (2, 8), (3, 2), (3, 4), (4, 9),
    (4, 9), (5, 10), (6, 1), (7, 20), (8, 4)] := by decide +kernel
example : (after 12).map (fun x => (x.1.chosen, x.1.candidate, x.1.currDepth, x.2.2)) =
    some ([1, 2, 3, 4, 5, 6, 7, 8], [], 3, none) := by decide +kernel
/-- before the cross-validation stage cells 4 and 5 hold all their rewards -/
example : stats 12 4 = some (2, [9, 9], 9) ∧ stats 12 5 = some (1, [10], 10) := by decide +kernel

/-- the `pull` of round 13 builds the candidates (`p = 0`: cell 5, one evaluation, mean 10;
`p = 1`: cell 4, two evaluations, mean 9), returns the first one … -/
example : nextPull 12 = some (5, false, [some 5, some 4]) := by decide +kernel
/-- … and empties the candidates' reward lists, keeping `visited` (the documented exception) -/
example : statsNextPull 12 4 = some (2, [], 9) ∧ statsNextPull 12 5 = some (1, [], 10) ∧
    statsNextPull 12 3 = some (2, [2, 4], 3) := by decide +kernel
/-- the ghost `resetAt` records the 12 rounds played so far -/
example : (after 13).map (fun x => (x.1.candidate, x.2.2)) =
    some ([some 5, some 4], some 12) := by decide +kernel

/-- re-evaluation: rounds 13–14 go to cell 5, rounds 15–16 to cell 4 -/
example : (after 16).map (fun x => x.2.1.drop 12) = some [(5, 6), (5, 8), (4, 8), (4, 8)] := by
  decide +kernel
/-- a candidate's `rewards` are those received since the reset, `visited` counts all rounds -/
example : stats 16 4 = some (4, [8, 8], 9) ∧ stats 16 5 = some (3, [6, 8], 10) := by
  decide +kernel

/-- the `pull` of round 17 ends the run and returns the recommendation, cell 4 … -/
example : nextPull 16 = some (4, true, [some 5, some 4]) := by decide +kernel
/-- … whose refreshed mean 8 beats cell 5's 7; the reward of round 17 is ignored -/
example : stats 17 4 = some (4, [8, 8], 8) ∧ stats 17 5 = some (3, [6, 8], 7) := by decide +kernel
example : (after 17).map (fun x => (x.1.ended, x.2.1.length)) = some (true, 16) := by
  decide +kernel
example : recommend 17 = some 4 := by decide +kernel
/-- later `pull`s keep returning it -/
example : nextPull 17 = some (4, true, [some 5, some 4]) := by decide +kernel

/-- **Why `Inv`.**  `Tree.WF` alone is not preserved by `pull`: from the well-formed (but
unreachable) state `badS` — depth 2, a stale `maxNode = some 2` which is a LEAF of depth 1, no
cell of depth 2 evaluated — `pull` succeeds, expands cell 2 with `newlayer = True`, files its
children (depth 2) in a new list `node_list[3]`, and the tree is no longer well-formed. -/
theorem pull_WF_needs_inv :
    WF badS.P ∧ DrawsOK badS.P [⟨0, []⟩] ∧
    ∃ s' ds' v, pull cfg badS 1 [⟨0, []⟩] = .ok (s', ds', v) ∧ ¬ WF s'.P := by
  refine ⟨?_, ?_, ?_⟩
  · obtain ⟨P', h1, h2, _⟩ := ops_WF_from (init_WF .binary dom (st0 cfg)) (st0 cfg)
      [.mk 0 ⟨0, []⟩, .mk 1 ⟨0, []⟩] (by decide)
    have : badS.P = P' := by simp only [badS, badP, h1, getOk]
    exact this ▸ h2
  · unfold DrawsOK; decide
  · have hf : badNext.map (fun s => (s.P.layers[3]?, (s.P.nodes[5]?).map (·.depth))) =
        some (some [5, 6], some 2) := by decide +kernel
    unfold badNext at hf
    cases h : pull cfg badS 1 [⟨0, []⟩] with
    | error e => rw [h] at hf; cases hf
    | ok x =>
      obtain ⟨s', ds', v⟩ := x
      refine ⟨s', ds', v, rfl, fun W => ?_⟩
      rw [h] at hf
      simp only [Option.map_some, Option.some.injEq, Prod.mk.injEq] at hf
      obtain ⟨h1, h2⟩ := hf
      obtain ⟨nd, n1, n2⟩ := ((W.layers_mem 3 [5, 6] h1).2.2 5).1 (by decide)
      rw [n1] at h2
      simp only [Option.map_some, Option.some.injEq] at h2
      omega

end SkProps
end PyXAB
