/-
  *Optimism of the traversed path* — the key deterministic lemma of the regret analysis of HOO
  and HCT — for the models `PyXABModel/Model/TreeBandit.lean` of T-HOO, HCT and VHCT
  (VHCT = HCT with `cfg.variance = true`).

  "Fix a point `xstar` of the domain and a level `fstar`.  Call a state *optimistic* when every
  cell whose closed box contains `xstar` has U-value `≥ fstar` (in the regret analysis this is the
  high-probability event `U_{h,i}(t) ≥ f*` for the cells containing a maximiser; here it is a
  hypothesis on the state).  Then, in every state reached by the algorithm which is optimistic,
  (1) every cell containing `xstar` has B-value `≥ fstar`, and (2) every cell on the path which
  the next `pull` traverses, from the root to the pulled cell, has B-value `≥ fstar` and U-value
  `≥ fstar`: **the algorithm only ever pulls cells whose optimistic index is at least `fstar`**."

  The theorems hold for all runs (any number of rounds), every ordered field of coordinates,
  every linear order of scores, all numeric formulas (fields of `HOOCfg` / `HCTCfg`) and the five
  partition classes.

  `OPTH.HOORunFit` / `OPTH.HCTRunFit` (`Spec/OptHSpec.lean`) are the runs `HOORun` / `HCTRun` of C05
  whose draws also satisfy what NumPy guarantees (`DrawOK`: random split points lie in the interval
  being split; automatic for the deterministic classes, `*_det`).

  A remark on the root.  `updateBackwardTree` never writes the B-value of the root and the
  descent never reads it: C05's B-recursion is about non-root cells, and in every reachable state
  the root still has `B = cfg.inf` (`HOO_root_B`, `HCT_root_B`).  So (1) is stated for non-root
  cells, (2) says `U ≥ fstar` for every path cell and `B ≥ fstar` for every non-root path cell,
  and when `inf` is a top element `B ≥ fstar` holds at the root as well (stated for T-HOO:
  `HOO_optimism_top`; for HCT it follows likewise from `HCT_root_B` and `PathOptimistic.top`).
-/
import PyXABProofs.Lemmas.OPTH_Root

set_option linter.unusedSectionVars false
set_option linter.unusedVariables false

namespace PyXAB
namespace HOOOpt
open _root_.PyXAB.Tree TBA TT TBB OPTH

variable {α R S : Type} [Field α] [LinearOrder α] [IsStrictOrderedRing α]
variable [LinearOrder S] [Inhabited S] [Inhabited R]

/-- **Unvisited cells are optimistic for free.**  In a state satisfying the invariant of T-HOO,
if `cfg.inf` is a top element of the scores, then the state is optimistic as soon as the VISITED
cells containing `xstar` have `U ≥ fstar`: unvisited cells have `U = inf` (C05
`HOO_unvisited_top`). -/
theorem HOO_optimistic_of_visited {cfg : HOOCfg R S} (htop : ∀ x, x ≤ cfg.inf) {s : HOO α R S}
    (I : HOOInv cfg s) {xstar : List α} {fstar : S}
    (h : ∀ (v : Nat) (nd : Node α (TBSt R S)), s.P.nodes[v]? = some nd → 0 < nd.st.count →
      Box.Mem nd.box xstar → fstar ≤ nd.st.u) :
    Optimistic s.P xstar fstar :=
  optimistic_of_visited htop (fun v nd hnd hc => (I.unvisited v nd hnd hc).1) h

/-- **Optimism of the traversed path, T-HOO, from the invariants of the state** (no run).

In a state `s` satisfying the invariant `HOOInv` of C05 and the geometric invariant `TInv` (the
children boxes of every split cell tile its box, the root cell is the domain `root`), let `xstar`
be a point of `root` and let `s` be optimistic for `xstar`, `fstar`.  Then
(1) every non-root cell whose closed box contains `xstar` has `B ≥ fstar`, and
(2) whenever `pull` returns `(s', v)`, the path it stored is the greedy path of C05 from the root
to the leaf `v`, and every cell on it has `U ≥ fstar` and, below the root, `B ≥ fstar`. -/
theorem HOO_optimism_state {cfg : HOOCfg R S} {k : Kind} {root : Box α} {s : HOO α R S}
    (I : HOOInv cfg s) (hT : TInv k root s.P) {xstar : List α} (hx : Box.Mem root xstar)
    {fstar : S} (hO : Optimistic s.P xstar fstar) :
    BOptimistic s.P xstar fstar ∧
    ∀ s' v, HOO.pull s = .ok (s', v) →
      ∃ path, s'.path = some path ∧ GreedyPath s.P stopHOO path v ∧
        PathOptimistic s.P path fstar := by
  refine ⟨BOptimistic.of_optimistic I.wf I.brec hT hO, fun s' v hp => ?_⟩
  obtain ⟨_, _, path, e3, G⟩ := C05.HOO_pull_greedy hp
  exact ⟨path, e3, G, PathOptimistic.of_greedyPath I.wf I.brec hT hx hO G⟩

/-- **Optimism of the traversed path, T-HOO** (main theorem).

In plain words: run T-HOO (the model of `PyXAB/algos/HOO.py`) on the domain `root` with a
partition of class `k`, for ANY number of rounds `pull; receive`, with any rewards.  Let `xstar`
be a point of the domain and `fstar` a score, and suppose that in the state `s` reached, every
cell whose closed box contains `xstar` has U-value `≥ fstar` (`Optimistic`; for unvisited cells
this is automatic when `inf` is a top element, `HOO_optimistic_of_visited`).  Then:
(1) every non-root cell whose closed box contains `xstar` has B-value `≥ fstar`;
(2) the next `pull` succeeds, and for whatever it returns, `(s', v)`: the path it stored is the
    greedy path (root `0`, each step to the last B-maximal child, ending at the leaf `v`) and every
    cell on it has U-value `≥ fstar` and — except for the root, whose B-value is never written —
    B-value `≥ fstar`; in particular the pulled cell `v` is a leaf with `U = B ≥ fstar`.

Assumptions:
* `hbot`: `cfg.negInf` is a bottom element of the score order (as in C05);
* `hroot`, `hx`: the domain is a valid box (`lo ≤ hi` in every coordinate) and `xstar` lies in it
  (closed containment); `xstar` need not be a maximiser of anything;
* `hrun`: `s` is reachable from `init` by rounds `pull; receive`, one well-formed draw per
  `receive` (C05's `HOORun`), the draws being admissible (`HOORunFit`: the first draw of `init`
  fits the domain, the first draw of every `receive` fits the box of the pulled cell — `DrawOK`;
  nothing to check for Binary, DimensionBinary, Kary: `HOO_optimism_det`);
* `hO`: the state `s` is optimistic for `xstar`, `fstar`. -/
theorem HOO_optimism (cfg : HOOCfg R S) (hbot : ∀ x, cfg.negInf ≤ x) (k : Kind) (root : Box α)
    (hroot : Box.Valid root) (xstar : List α) (hx : Box.Mem root xstar) (fstar : S)
    {s : HOO α R S} (hrun : HOORunFit cfg k root s) (hO : Optimistic s.P xstar fstar) :
    BOptimistic s.P xstar fstar ∧
    (∃ s' v, HOO.pull s = .ok (s', v)) ∧
    ∀ s' v, HOO.pull s = .ok (s', v) →
      ∃ path, s'.path = some path ∧ GreedyPath s.P stopHOO path v ∧
        PathOptimistic s.P path fstar ∧
        ∃ nd, s.P.nodes[v]? = some nd ∧ nd.children = none ∧ nd.st.b = nd.st.u ∧
          fstar ≤ nd.st.u := by
  have I := C05.HOO_run_inv hbot hrun.toRun
  have hT := hrun.tinv hbot hroot
  obtain ⟨h1, h2⟩ := HOO_optimism_state I hT hx hO
  refine ⟨h1, C05.HOO_pull_ok I, fun s' v hp => ?_⟩
  obtain ⟨path, e1, G, hP⟩ := h2 s' v hp
  refine ⟨path, e1, G, hP, ?_⟩
  obtain ⟨nd, hnd, hu, _⟩ := hP v (List.mem_of_getLast? G.last)
  obtain ⟨nd', hnd', hleaf⟩ := G.stop
  obtain rfl := getElem?_inj hnd hnd'
  exact ⟨nd, hnd, hleaf, (I.brec v (pos_of_leaf I.root_split hnd hleaf) nd hnd).1 hleaf, hu⟩

/-- **The root of T-HOO keeps its initial B-value `inf`** in every reachable state (the code
never writes it). -/
theorem HOO_root_B {α : Type} [Add α] [Sub α] [Mul α] [Div α] [OfNat α 2] [NatCast α]
    {cfg : HOOCfg R S} (hbot : ∀ x, cfg.negInf ≤ x) {k : Kind} {root : Box α} {s : HOO α R S}
    (h : HOORun cfg k root s) : ∃ r, s.P.nodes[0]? = some r ∧ r.st.b = cfg.inf :=
  HOORun.rootB hbot h

/-- **Optimism of the traversed path, T-HOO, `inf` a top element**: under the assumptions of
`HOO_optimism`, if moreover `cfg.inf` is a top element of the scores, then EVERY cell of the path
stored by the next `pull` — the root included — has `B ≥ fstar` and `U ≥ fstar`. -/
theorem HOO_optimism_top (cfg : HOOCfg R S) (hbot : ∀ x, cfg.negInf ≤ x)
    (htop : ∀ x, x ≤ cfg.inf) (k : Kind) (root : Box α) (hroot : Box.Valid root)
    (xstar : List α) (hx : Box.Mem root xstar) (fstar : S) {s : HOO α R S}
    (hrun : HOORunFit cfg k root s) (hO : Optimistic s.P xstar fstar)
    {s' : HOO α R S} {v : Nat} (hp : HOO.pull s = .ok (s', v)) :
    ∃ path, s'.path = some path ∧ path.head? = some 0 ∧ path.getLast? = some v ∧
      ∀ p ∈ path, ∃ nd, s.P.nodes[p]? = some nd ∧ fstar ≤ nd.st.b ∧ fstar ≤ nd.st.u := by
  obtain ⟨_, _, h3⟩ := HOO_optimism cfg hbot k root hroot xstar hx fstar hrun hO
  obtain ⟨path, e1, G, hP, _⟩ := h3 s' v hp
  exact ⟨path, e1, G.head, G.last, PathOptimistic.top htop (HOORun.rootB hbot hrun.toRun) hP⟩

/-- **Optimism for the deterministic partition classes** (Binary, DimensionBinary, Kary): every
C05 run `HOORun` on a valid domain qualifies, no hypothesis on the draws beyond their
well-formedness. -/
theorem HOO_optimism_det (cfg : HOOCfg R S) (hbot : ∀ x, cfg.negInf ≤ x) (k : Kind)
    (hk : Kind.Deterministic k) (root : Box α) (hroot : Box.Valid root) (xstar : List α)
    (hx : Box.Mem root xstar) (fstar : S) {s : HOO α R S} (hrun : HOORun cfg k root s)
    (hO : Optimistic s.P xstar fstar) :
    BOptimistic s.P xstar fstar ∧
    (∃ s' v, HOO.pull s = .ok (s', v)) ∧
    ∀ s' v, HOO.pull s = .ok (s', v) →
      ∃ path, s'.path = some path ∧ GreedyPath s.P stopHOO path v ∧
        PathOptimistic s.P path fstar ∧
        ∃ nd, s.P.nodes[v]? = some nd ∧ nd.children = none ∧ nd.st.b = nd.st.u ∧
          fstar ≤ nd.st.u :=
  HOO_optimism cfg hbot k root hroot xstar hx fstar (HOORunFit.of_det hbot hk hroot hrun) hO

/-- **Optimism, phrased with the documented loop** `HOO.run` of `Spec/TBRun.lean` (construction,
then one `pull; receive` per input): after any run which returned, with well-formed inputs
(`InputsOK`) and good draws (`TT.HOO.GoodDraws` of C01), the conclusions of `HOO_optimism` hold
for the final state.  Since every prefix of a run is a run, this covers every `pull` of every
run. -/
theorem HOO_optimism_run (cfg : HOOCfg R S) (hbot : ∀ x, cfg.negInf ≤ x) (k : Kind)
    (root : Box α) (hroot : Box.Valid root) (xstar : List α) (hx : Box.Mem root xstar)
    (fstar : S) {ds0 : List (Draw α)} {inputs : List (R × List (Draw α))}
    (hds0 : ∀ d ∈ ds0, DrawOKLen k root.length d) (hf0 : HeadFits k root root ds0)
    (hin : InputsOK k root.length inputs)
    (hG : ∀ s0 ds', HOO.init cfg k root ds0 = .ok (s0, ds') →
      TT.HOO.GoodDraws cfg k root s0 inputs)
    {s : HOO α R S} {H : List (Nat × R)} (hrun : HOO.run cfg k root ds0 inputs = .ok (s, H))
    (hO : Optimistic s.P xstar fstar) :
    BOptimistic s.P xstar fstar ∧
    (∃ s' v, HOO.pull s = .ok (s', v)) ∧
    ∀ s' v, HOO.pull s = .ok (s', v) →
      ∃ path, s'.path = some path ∧ GreedyPath s.P stopHOO path v ∧
        PathOptimistic s.P path fstar ∧
        ∃ nd, s.P.nodes[v]? = some nd ∧ nd.children = none ∧ nd.st.b = nd.st.u ∧
          fstar ≤ nd.st.u :=
  HOO_optimism cfg hbot k root hroot xstar hx fstar
    (HOORunFit.of_run hbot hroot hds0 hf0 hin hG hrun) hO

/-- Unvisited cells are optimistic for free (C05 `HCT_unvisited_top`). -/
theorem HCT_optimistic_of_visited {cfg : HCTCfg R S} (htop : ∀ x, x ≤ cfg.inf) {s : HCT α R S}
    (I : HCTInv cfg s) {xstar : List α} {fstar : S}
    (h : ∀ (v : Nat) (nd : Node α (TBSt R S)), s.P.nodes[v]? = some nd → 0 < nd.st.count →
      Box.Mem nd.box xstar → fstar ≤ nd.st.u) :
    Optimistic s.P xstar fstar :=
  optimistic_of_visited htop I.unvisited h

/-- **Optimism of the traversed path, HCT / VHCT, from the invariants of the state** (no run).

In a state `s` satisfying `HCTInv` (C05) and `TInv`, optimistic for a point `xstar` of the domain
and `fstar`:  (1) every non-root cell containing `xstar` has `B ≥ fstar`;  (2) whenever `pull`
returns `(s', v)` — `s'` differs from `s` in thresholds and the stored path only
(`SameButTau`) — the stored path is the greedy path of C05 for the stop rule "leaf, or pulled
fewer times than its threshold", and every cell on it has `U ≥ fstar` and, below the root,
`B ≥ fstar` (values read in `s`; they are the same in `s'`). -/
theorem HCT_optimism_state {cfg : HCTCfg R S} {k : Kind} {root : Box α} {s : HCT α R S}
    (I : HCTInv cfg s) (hT : TInv k root s.P) {xstar : List α} (hx : Box.Mem root xstar)
    {fstar : S} (hO : Optimistic s.P xstar fstar) :
    BOptimistic s.P xstar fstar ∧
    ∀ s' v, HCT.pull cfg s = .ok (s', v) →
      SameButTau s.P s'.P ∧
      ∃ path, s'.path = some path ∧ GreedyPath s'.P (stopHCT cfg s') path v ∧
        PathOptimistic s.P path fstar := by
  refine ⟨BOptimistic.of_optimistic I.wf I.brec hT hO, fun s' v hp => ?_⟩
  have hpl := C05.HCT_pull_greedy I hp
  have I' := (C05.HCT_pull_ready I hp).inv
  obtain ⟨path, e3, G⟩ := hpl.path
  -- `pull` changes thresholds only: neither optimism nor the values read below are affected
  have hP := PathOptimistic.of_greedyPath I'.wf I'.brec (hT.of_prel hpl.same.prel) hx
    (setR_all hpl.same.prel (fun _ _ _ q => q) hO) G
  refine ⟨hpl.same, path, e3, G, fun p hp => ?_⟩
  obtain ⟨nd', hnd', hu, hb⟩ := hP p hp
  obtain ⟨nd, t, a1, rfl⟩ := setR_inv hpl.same.prel hnd'
  exact ⟨nd, a1, hu, hb⟩

/-- **The root of HCT / VHCT keeps its initial B-value `inf`** in every reachable state. -/
theorem HCT_root_B {α : Type} [Add α] [Sub α] [Mul α] [Div α] [OfNat α 2] [NatCast α]
    {cfg : HCTCfg R S} (hbot : ∀ x, cfg.negInf ≤ x) (htop : ∀ x, x ≤ cfg.inf) {k : Kind}
    {root : Box α} {s : HCT α R S} {ts : Nat → Nat} (h : HCTRun cfg k root s ts) :
    ∃ r, s.P.nodes[0]? = some r ∧ r.st.b = cfg.inf :=
  HCTRun.rootB hbot htop h

/-- **Optimism of the traversed path, HCT / VHCT** (main theorem).

In plain words: run HCT or VHCT (the model of `PyXAB/algos/HCT.py`, `VHCT.py`; `cfg.variance`
selects VHCT) on the domain `root` with a partition of class `k`, for ANY number of rounds
`pull; receive`, with any rewards.  Let `xstar` be a point of the domain and `fstar` a score, and
suppose that in the state `s` reached every cell whose closed box contains `xstar` has U-value
`≥ fstar` (`Optimistic`; automatic for unvisited cells, `HCT_optimistic_of_visited`).  Then:
(1) every non-root cell whose closed box contains `xstar` has B-value `≥ fstar`;
(2) the next `pull` succeeds, and for whatever it returns, `(s', v)`: it changed thresholds and
    the stored path only, the stored path is the greedy path from the root `0` to the pulled
    cell `v` — which may be an inner cell: the descent stops at the first cell that is a leaf or
    has been pulled fewer times than its threshold — and EVERY cell on it, the root and the
    pulled cell included, has B-value `≥ fstar` and U-value `≥ fstar`.

Assumptions: `hbot`, `htop`: `cfg.negInf` / `cfg.inf` are a bottom / top element of the scores (as
in C05); `hroot`, `hx`: the domain is a valid box containing `xstar`; `hrun`: `s` is reachable by
rounds `pull; receive` with one well-formed, admissible draw per `receive` (`HCTRunFit`; for the
deterministic classes every C05 run qualifies, `HCT_optimism_det`); `hO`: `s` is optimistic. -/
theorem HCT_optimism (cfg : HCTCfg R S) (hbot : ∀ x, cfg.negInf ≤ x) (htop : ∀ x, x ≤ cfg.inf)
    (k : Kind) (root : Box α) (hroot : Box.Valid root) (xstar : List α)
    (hx : Box.Mem root xstar) (fstar : S) {s : HCT α R S} (hrun : HCTRunFit cfg k root s)
    (hO : Optimistic s.P xstar fstar) :
    BOptimistic s.P xstar fstar ∧
    (∃ s' v, HCT.pull cfg s = .ok (s', v)) ∧
    ∀ s' v, HCT.pull cfg s = .ok (s', v) →
      SameButTau s.P s'.P ∧
      ∃ path, s'.path = some path ∧ GreedyPath s'.P (stopHCT cfg s') path v ∧
        (∀ p ∈ path, ∃ nd, s.P.nodes[p]? = some nd ∧ fstar ≤ nd.st.b ∧ fstar ≤ nd.st.u) ∧
        ∃ nd, s.P.nodes[v]? = some nd ∧ fstar ≤ nd.st.b ∧ fstar ≤ nd.st.u := by
  have I := hrun.inv hbot htop
  have hT := hrun.tinv hbot htop hroot
  obtain ⟨ts, hr⟩ := hrun.toRun
  obtain ⟨h1, h2⟩ := HCT_optimism_state I hT hx hO
  refine ⟨h1, C05.HCT_pull_ok I, fun s' v hp => ?_⟩
  obtain ⟨hsame, path, e1, G, hP⟩ := h2 s' v hp
  have hall := PathOptimistic.top htop (HCTRun.rootB hbot htop hr) hP
  exact ⟨hsame, path, e1, G, hall, hall v (List.mem_of_getLast? G.last)⟩

/-- **Optimism for the deterministic partition classes** (Binary, DimensionBinary, Kary): every
C05 run `HCTRun` on a valid domain qualifies. -/
theorem HCT_optimism_det (cfg : HCTCfg R S) (hbot : ∀ x, cfg.negInf ≤ x)
    (htop : ∀ x, x ≤ cfg.inf) (k : Kind) (hk : Kind.Deterministic k) (root : Box α)
    (hroot : Box.Valid root) (xstar : List α) (hx : Box.Mem root xstar) (fstar : S)
    {s : HCT α R S} {ts : Nat → Nat} (hrun : HCTRun cfg k root s ts)
    (hO : Optimistic s.P xstar fstar) :
    BOptimistic s.P xstar fstar ∧
    (∃ s' v, HCT.pull cfg s = .ok (s', v)) ∧
    ∀ s' v, HCT.pull cfg s = .ok (s', v) →
      SameButTau s.P s'.P ∧
      ∃ path, s'.path = some path ∧ GreedyPath s'.P (stopHCT cfg s') path v ∧
        (∀ p ∈ path, ∃ nd, s.P.nodes[p]? = some nd ∧ fstar ≤ nd.st.b ∧ fstar ≤ nd.st.u) ∧
        ∃ nd, s.P.nodes[v]? = some nd ∧ fstar ≤ nd.st.b ∧ fstar ≤ nd.st.u :=
  HCT_optimism cfg hbot htop k root hroot xstar hx fstar
    (HCTRunFit.of_det hbot htop hk hroot hrun) hO

/-- **Optimism, phrased with the documented loop** `HCT.run` of `Spec/TBRun.lean`. -/
theorem HCT_optimism_run (cfg : HCTCfg R S) (hbot : ∀ x, cfg.negInf ≤ x)
    (htop : ∀ x, x ≤ cfg.inf) (k : Kind) (root : Box α) (hroot : Box.Valid root)
    (xstar : List α) (hx : Box.Mem root xstar) (fstar : S) {ds0 : List (Draw α)}
    {inputs : List (R × List (Draw α))} (hds0 : ∀ d ∈ ds0, DrawOKLen k root.length d)
    (hf0 : HeadFits k root root ds0) (hin : InputsOK k root.length inputs)
    (hG : ∀ s0 ds', HCT.init cfg k root ds0 = .ok (s0, ds') →
      TT.HCT.GoodDraws cfg k root s0 inputs)
    {s : HCT α R S} {H : List (Nat × R)} (hrun : HCT.run cfg k root ds0 inputs = .ok (s, H))
    (hO : Optimistic s.P xstar fstar) :
    BOptimistic s.P xstar fstar ∧
    (∃ s' v, HCT.pull cfg s = .ok (s', v)) ∧
    ∀ s' v, HCT.pull cfg s = .ok (s', v) →
      SameButTau s.P s'.P ∧
      ∃ path, s'.path = some path ∧ GreedyPath s'.P (stopHCT cfg s') path v ∧
        (∀ p ∈ path, ∃ nd, s.P.nodes[p]? = some nd ∧ fstar ≤ nd.st.b ∧ fstar ≤ nd.st.u) ∧
        ∃ nd, s.P.nodes[v]? = some nd ∧ fstar ≤ nd.st.b ∧ fstar ≤ nd.st.u :=
  HCT_optimism cfg hbot htop k root hroot xstar hx fstar
    (HCTRunFit.of_run hbot htop hroot hds0 hf0 hin hG hrun) hO

end HOOOpt

/-! Non-vacuity.

`α = ℚ`, rewards `Nat`, scores `Fin 16` (a linear order with bottom `0 = negInf` and top
`15 = inf`), the configurations `cfgH` (T-HOO) and `cfgC var` (HCT / VHCT) of
`Lemmas/TBB_Example.lean` (they do not depend on `α`), the binary partition of `[0,1]`,
`xstar = 1/3`.  States are obtained by evaluating the models with the kernel.

T-HOO, three rounds with rewards `3, 5, 2`:  the tree has 9 cells, the cells containing `1/3`
are `0 = [0,1]`, `1 = [0,1/2]`, `6 = [1/4,1/2]`, `7 = [1/4,3/8]` with U-values `8, 8, 9, 15`, so the
state is optimistic for `fstar = 8` (and for no larger level) — `qS3_optimistic`.  All hypotheses
of `HOO_optimism` are proved (`qS3_fit`, `root01_valid`, `xstarQ_mem`, `cfgH_bot`), the theorem is
instantiated (`qP3_pathOptimistic`), and its conclusion is confirmed by evaluation: the fourth
`pull` stores the path `0 → 2 → 4` whose cells have `(U, B) = (8, 15), (11, 11), (15, 15)`, all `≥ 8`;
note that the cells `2 = [1/2,1]` and `4 = [3/4,1]` do NOT contain `xstar`.

HCT and VHCT, four rounds: `cR4_pathOptimistic` instantiates `HCT_optimism` in the same way
(`fstar = 8`), for both values of the flag. -/
namespace ExOptH
open _root_.PyXAB.Tree TBB TBB.Ex OPTH HOOOpt TT

/-- `[0,1]` -/
def root01 : Box ℚ := [⟨0, 1⟩]
def xstarQ : List ℚ := [1 / 3]
def dq : Draw ℚ := ⟨0, []⟩

instance : Inhabited (HOO ℚ Nat (Fin 16)) := ⟨⟨default, 0, none⟩⟩
instance : Inhabited (HCT ℚ Nat (Fin 16)) := ⟨⟨default, 0, [], none⟩⟩

theorem root01_valid : Box.Valid root01 := Box.valid_cons zero_le_one Box.valid_nil

theorem xstarQ_mem : Box.Mem root01 xstarQ := by
  unfold Box.Mem root01 xstarQ
  refine List.Forall₂.cons ⟨?_, ?_⟩ List.Forall₂.nil
  · show (0 : ℚ) ≤ 1 / 3; norm_num
  · show (1 / 3 : ℚ) ≤ 1; norm_num

def memB : Box ℚ → List ℚ → Bool
  | [], [] => true
  | iv :: b, c :: x => decide (iv.lo ≤ c) && decide (c ≤ iv.hi) && memB b x
  | _, _ => false

theorem memB_of_mem {b : Box ℚ} {x : List ℚ} (h : Box.Mem b x) : memB b x = true := by
  replace h : List.Forall₂ Iv.Mem b x := h
  induction h with
  | nil => rfl
  | cons h1 _ ih =>
    simp only [memB, Bool.and_eq_true, decide_eq_true_eq]
    exact ⟨⟨h1.1, h1.2⟩, ih⟩

def optCheck (P : Part ℚ (TBSt Nat (Fin 16))) (x : List ℚ) (f : Fin 16) : Bool :=
  P.nodes.all (fun nd => !(memB nd.box x) || decide (f ≤ nd.st.u))

theorem optimistic_of_check {P : Part ℚ (TBSt Nat (Fin 16))} {x : List ℚ} {f : Fin 16}
    (h : optCheck P x f = true) : Optimistic P x f := by
  intro v nd hnd hm
  have := List.all_eq_true.1 h nd (List.mem_of_getElem? hnd)
  simpa [memB_of_mem hm] using this

def qS0 := (getOk (HOO.init cfgH .binary root01 [dq])).1
def qP0 := getOk (HOO.pull qS0)
def qS1 := (getOk (HOO.receive cfgH qP0.1 3 [dq])).1
def qP1 := getOk (HOO.pull qS1)
def qS2 := (getOk (HOO.receive cfgH qP1.1 5 [dq])).1
def qP2 := getOk (HOO.pull qS2)
def qS3 := (getOk (HOO.receive cfgH qP2.1 2 [dq])).1
def qP3 := getOk (HOO.pull qS3)

/-- One evaluation of the whole run: the state after three rounds passes the check for
`fstar = 8`, the fourth `pull` stores the path `0 → 2 → 4`, every step returned and the draws
offered to `receive` were well-formed. -/
theorem qRun_ok :
    optCheck qS3.P xstarQ 8 ∧ (qP3.1.path = some [0, 2, 4] ∧ qP3.2 = 4) ∧
    (HOO.init cfgH .binary root01 [dq]).isOk ∧ (HOO.pull qS0).isOk ∧
    DrawOKLen qP0.1.P.kind (dimn qP0.1.P) dq ∧ (HOO.receive cfgH qP0.1 3 [dq]).isOk ∧
    (HOO.pull qS1).isOk ∧
    DrawOKLen qP1.1.P.kind (dimn qP1.1.P) dq ∧ (HOO.receive cfgH qP1.1 5 [dq]).isOk ∧
    (HOO.pull qS2).isOk ∧
    DrawOKLen qP2.1.P.kind (dimn qP2.1.P) dq ∧ (HOO.receive cfgH qP2.1 2 [dq]).isOk ∧
    (HOO.pull qS3).isOk := by decide +kernel

theorem qP3_eq : HOO.pull qS3 = .ok (qP3.1, qP3.2) :=
  getOk_spec2 qRun_ok.2.2.2.2.2.2.2.2.2.2.2.2

theorem qS3_run : HOORun cfgH .binary root01 qS3 := by
  obtain ⟨_, _, i0, p0, d0, r1, p1, d1, r2, p2, d2, r3, _⟩ := qRun_ok
  have r0 : HOORun cfgH .binary root01 qS0 := .init (ds := [dq]) (by decide) (getOk_spec2 i0)
  have r1 : HOORun cfgH .binary root01 qS1 :=
    .round (d := dq) (ds := []) r0 (getOk_spec2 p0) d0 (getOk_spec2 r1)
  have r2 : HOORun cfgH .binary root01 qS2 :=
    .round (d := dq) (ds := []) r1 (getOk_spec2 p1) d1 (getOk_spec2 r2)
  exact .round (d := dq) (ds := []) r2 (getOk_spec2 p2) d2 (getOk_spec2 r3)

theorem qS3_fit : HOORunFit cfgH .binary root01 qS3 :=
  HOORunFit.of_det cfgH_bot (k := .binary) trivial root01_valid qS3_run

/-- the tree after three rounds: per cell `(box, count, U, B, children)` -/
theorem qS3_view : qS3.P.nodes.map
      (fun nd => (nd.box, nd.st.count, nd.st.u.val, nd.st.b.val, nd.children)) =
    [([⟨0, 1⟩], 3, 8, 15, some [1, 2]), ([⟨0, 1 / 2⟩], 2, 8, 8, some [5, 6]),
     ([⟨1 / 2, 1⟩], 1, 11, 11, some [3, 4]), ([⟨1 / 2, 3 / 4⟩], 0, 15, 15, none),
     ([⟨3 / 4, 1⟩], 0, 15, 15, none), ([⟨0, 1 / 4⟩], 0, 15, 15, none),
     ([⟨1 / 4, 1 / 2⟩], 1, 9, 9, some [7, 8]), ([⟨1 / 4, 3 / 8⟩], 0, 15, 15, none),
     ([⟨3 / 8, 1 / 2⟩], 0, 15, 15, none)] := by decide +kernel

theorem qS3_optimistic : Optimistic qS3.P xstarQ (8 : Fin 16) :=
  optimistic_of_check qRun_ok.1

/-- `Optimistic` fails for `fstar = 9` (the root `[0,1]` contains `1/3` and has `U = 8`): the
hypothesis is not vacuous in the other direction either -/
theorem qS3_not_optimistic : ¬ Optimistic qS3.P xstarQ (9 : Fin 16) := by
  intro h
  obtain ⟨nd, hnd, hb, hu⟩ := exists_of_any (o := qS3.P.nodes[0]?)
    (p := fun nd => nd.box = root01 ∧ nd.st.u = 8) (by decide +kernel)
  have := h 0 nd hnd (hb ▸ xstarQ_mem)
  rw [hu] at this
  exact absurd this (by decide)

/-- **`HOO_optimism` instantiated**, every hypothesis discharged, at the `pull` which the kernel
evaluates: the stored path is `0 → 2 → 4`. -/
theorem qP3_pathOptimistic : PathOptimistic qS3.P [0, 2, 4] (8 : Fin 16) := by
  obtain ⟨path, e1, _, hP, _⟩ := (HOO_optimism cfgH cfgH_bot .binary root01 root01_valid xstarQ
    xstarQ_mem 8 qS3_fit qS3_optimistic).2.2 _ _ qP3_eq
  exact Option.some.inj (e1.symm.trans qRun_ok.2.1.1) ▸ hP

/-- `inf = 15` is a top element, so `HOO_optimism_top` applies as well -/
theorem cfgH_top : ∀ x, x ≤ cfgH.inf := fun x => Fin.le_last x

example : ∃ path, qP3.1.path = some path ∧ path.head? = some 0 ∧ path.getLast? = some qP3.2 ∧
    ∀ p ∈ path, ∃ nd, qS3.P.nodes[p]? = some nd ∧ (8 : Fin 16) ≤ nd.st.b ∧ 8 ≤ nd.st.u :=
  HOO_optimism_top cfgH cfgH_bot cfgH_top .binary root01 root01_valid xstarQ xstarQ_mem 8 qS3_fit
    qS3_optimistic qP3_eq

/-- `HOO_optimistic_of_visited`: it is enough to look at the three visited cells containing
`1/3` -/
example : Optimistic qS3.P xstarQ (8 : Fin 16) :=
  HOO_optimistic_of_visited cfgH_top (C05.HOO_run_inv cfgH_bot qS3_run)
    (fun v nd hnd _ hm => qS3_optimistic v nd hnd hm)

def cQ0 (var : Bool) := (getOk (HCT.init (cfgC var) .binary root01 [dq])).1
def cR0 (var : Bool) := getOk (HCT.pull (cfgC var) (cQ0 var))
def cQ1 (var : Bool) := (getOk (HCT.receive (cfgC var) (cR0 var).1 3 [dq])).1
def cR1 (var : Bool) := getOk (HCT.pull (cfgC var) (cQ1 var))
def cQ2 (var : Bool) := (getOk (HCT.receive (cfgC var) (cR1 var).1 5 [dq])).1
def cR2 (var : Bool) := getOk (HCT.pull (cfgC var) (cQ2 var))
def cQ3 (var : Bool) := (getOk (HCT.receive (cfgC var) (cR2 var).1 2 [dq])).1
def cR3 (var : Bool) := getOk (HCT.pull (cfgC var) (cQ3 var))
def cQ4 (var : Bool) := (getOk (HCT.receive (cfgC var) (cR3 var).1 2 [dq])).1
def cR4 (var : Bool) := getOk (HCT.pull (cfgC var) (cQ4 var))

/-- One evaluation of the whole run, for HCT and VHCT: the state after four rounds passes the
check for `fstar = 8`, the fifth `pull` stores the path `0 → 2 → 4`, every step returned and the
draws offered to `receive` were well-formed. -/
theorem cRun_ok (var : Bool) :
    optCheck (cQ4 var).P xstarQ 8 ∧ ((cR4 var).1.path = some [0, 2, 4] ∧ (cR4 var).2 = 4) ∧
    (HCT.init (cfgC var) .binary root01 [dq]).isOk ∧ (HCT.pull (cfgC var) (cQ0 var)).isOk ∧
    DrawOKLen (cR0 var).1.P.kind (dimn (cR0 var).1.P) dq ∧
    (HCT.receive (cfgC var) (cR0 var).1 3 [dq]).isOk ∧ (HCT.pull (cfgC var) (cQ1 var)).isOk ∧
    DrawOKLen (cR1 var).1.P.kind (dimn (cR1 var).1.P) dq ∧
    (HCT.receive (cfgC var) (cR1 var).1 5 [dq]).isOk ∧ (HCT.pull (cfgC var) (cQ2 var)).isOk ∧
    DrawOKLen (cR2 var).1.P.kind (dimn (cR2 var).1.P) dq ∧
    (HCT.receive (cfgC var) (cR2 var).1 2 [dq]).isOk ∧ (HCT.pull (cfgC var) (cQ3 var)).isOk ∧
    DrawOKLen (cR3 var).1.P.kind (dimn (cR3 var).1.P) dq ∧
    (HCT.receive (cfgC var) (cR3 var).1 2 [dq]).isOk ∧ (HCT.pull (cfgC var) (cQ4 var)).isOk := by
  cases var <;> decide +kernel

theorem cQ4_fit (var : Bool) : HCTRunFit (cfgC var) .binary root01 (cQ4 var) := by
  obtain ⟨_, _, i0, p0, d0, r1, p1, d1, r2, p2, d2, r3, p3, d3, r4, _⟩ := cRun_ok var
  have hf : ∀ (P : Part ℚ (TBSt Nat (Fin 16))) (v : Nat),
      SplitFits .binary root01 P v [dq] :=
    fun P v => splitFits_of_det (k := .binary) trivial (by decide)
  have r0 : HCTRunFit (cfgC var) .binary root01 (cQ0 var) :=
    .init (ds := [dq]) (by decide) (headFits_of_det (k := .binary) trivial (by decide))
      (getOk_spec2 i0)
  have r1 : HCTRunFit (cfgC var) .binary root01 (cQ1 var) :=
    .round (d := dq) (ds := []) r0 (getOk_spec2 p0) d0 (hf _ _) (getOk_spec2 r1)
  have r2 : HCTRunFit (cfgC var) .binary root01 (cQ2 var) :=
    .round (d := dq) (ds := []) r1 (getOk_spec2 p1) d1 (hf _ _) (getOk_spec2 r2)
  have r3 : HCTRunFit (cfgC var) .binary root01 (cQ3 var) :=
    .round (d := dq) (ds := []) r2 (getOk_spec2 p2) d2 (hf _ _) (getOk_spec2 r3)
  exact .round (d := dq) (ds := []) r3 (getOk_spec2 p3) d3 (hf _ _) (getOk_spec2 r4)

/-- HCT after four rounds: per cell `(box, count, U, B, children)`; the cells containing `1/3`
are `0, 1, 6` with `U = 15, 12, 8` -/
theorem cQ4_view : (cQ4 false).P.nodes.map
      (fun nd => (nd.box, nd.st.count, nd.st.u.val, nd.st.b.val, nd.children)) =
    [([⟨0, 1⟩], 0, 15, 15, some [1, 2]), ([⟨0, 1 / 2⟩], 1, 12, 8, some [5, 6]),
     ([⟨1 / 2, 1⟩], 1, 10, 10, some [3, 4]), ([⟨1 / 2, 3 / 4⟩], 0, 15, 15, none),
     ([⟨3 / 4, 1⟩], 0, 15, 15, none), ([⟨0, 1 / 4⟩], 1, 8, 8, none),
     ([⟨1 / 4, 1 / 2⟩], 1, 8, 8, none)] := by decide +kernel

/-- **`HCT_optimism` instantiated** (HCT and VHCT), every hypothesis discharged, at the fifth
`pull`, evaluated: the stored path is `0 → 2 → 4`; for HCT its cells have
`(U, B) = (15, 15), (10, 10), (15, 15)`, all `≥ 8`, and `2 = [1/2,1]`, `4 = [3/4,1]` do not contain
`xstar`. -/
theorem cR4_pathOptimistic (var : Bool) : ∀ p ∈ [0, 2, 4],
    ∃ nd, (cQ4 var).P.nodes[p]? = some nd ∧ (8 : Fin 16) ≤ nd.st.b ∧ 8 ≤ nd.st.u := by
  obtain ⟨_, path, e1, _, hP, _⟩ := (HCT_optimism (cfgC var) (cfgC_bot var) (cfgC_top var) .binary
    root01 root01_valid xstarQ xstarQ_mem 8 (cQ4_fit var)
    (optimistic_of_check (cRun_ok var).1)).2.2 _ _
    (getOk_spec2 (cRun_ok var).2.2.2.2.2.2.2.2.2.2.2.2.2.2.2)
  exact Option.some.inj (e1.symm.trans (cRun_ok var).2.1.1) ▸ hP

/-- `RandomBinaryPartition` of `[0,1]` with the split point `1/3` drawn by `init`: the draw is
well-formed and admissible (`0 ≤ 1/3 ≤ 1`), so the initial state is a `HOORunFit` state and the
theorems apply to it (the tree has the cells `[0,1]`, `[0,1/3]`, `[1/3,1]`, all unvisited:
optimistic for every `fstar`) -/
example : ∃ s : HOO ℚ Nat (Fin 16), HOORunFit cfgH .randBinary root01 s ∧
    ∀ fstar, BOptimistic s.P xstarQ fstar := by
  have hds : ∀ d ∈ [(⟨0, [1 / 3]⟩ : Draw ℚ)], DrawOKLen .randBinary root01.length d :=
    fun d hd => List.mem_singleton.1 hd ▸ ⟨by decide, by decide⟩
  obtain ⟨s, hs⟩ := C05.HOO_init_ok cfgH .randBinary root01 ⟨0, [1 / 3]⟩ []
    (hds _ (List.mem_singleton_self _))
  have hfit : HOORunFit cfgH .randBinary root01 s := by
    refine HOORunFit.init hds (fun _ _ => ⟨by decide, 1 / 3, rfl, ?_, ?_⟩) hs
    · show (0 : ℚ) ≤ 1 / 3; norm_num
    · show (1 / 3 : ℚ) ≤ 1; norm_num
  refine ⟨s, hfit, fun fstar => ?_⟩
  refine (HOO_optimism cfgH cfgH_bot .randBinary root01 root01_valid xstarQ xstarQ_mem fstar hfit
    (HOO_optimistic_of_visited cfgH_top (C05.HOO_init_inv hds hs) ?_)).1
  intro v nd hnd hc _
  -- after `init` every cell is unvisited
  obtain ⟨P1, he, rfl⟩ := HOO.init_eq_ok.1 hs
  rw [((init_expand hds he).2.2 v nd hnd).1] at hc
  exact absurd hc (Nat.lt_irrefl 0)

end ExOptH
end PyXAB
