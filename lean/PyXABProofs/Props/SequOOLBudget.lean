/-
  The budget of SequOOL (Bartlett, Gabillon, Valko 2019).

  "Given a budget `n`, SequOOL sets `h_max = floor(n / H_n)`, `H_n = 1 + 1/2 + … + 1/n`, and opens
  at most `floor(h_max / h)` cells at each depth `h = 1 … h_max` (plus the root).  The total
  number of openings stays within the budget: `sum_{h=1}^{h_max} floor(h_max / h) ≤ n`."

  Setting: `Props/C12.lean` (the schedule per depth: `C12.schedule`, `C12.depth_bounds`,
  `C12.run_schedule`) and `Spec/SeqSpec.lean`.  `harmonic : ℕ → ℚ` is Mathlib's harmonic number;
  the model takes `hmax` as a parameter, the theorems below instantiate it with
  `⌊n / harmonic n⌋₊` (what the code computes).
  Vocabulary (`Lemmas/SQB_Count.lean`): `Budget.openedCount P` is the number of cells of depth
  `≥ 1` of the tree which have a child list (their opening has at least started; this is the
  count of `C12.schedule`, summed over the depths — `openedCount_spec`, `opened_by_depth`);
  `s.chosen` is the list of the handed-out (= evaluated) search cells (`C12.chosen_nodup`,
  `C12.rewards_once`, `C12.history`).
-/
import PyXABProofs.Props.C12
import PyXABProofs.Lemmas.SQB_Arith
import PyXABProofs.Lemmas.SQB_Count

set_option linter.unusedSectionVars false
set_option linter.unusedVariables false

namespace PyXAB
namespace SQ
namespace Budget
open _root_.PyXAB.Tree Finset

variable {α S : Type} [Add α] [Sub α] [Mul α] [Div α] [OfNat α 2] [NatCast α]
variable [LinearOrder S] [Inhabited S] {negInf : S}

/-- **The schedule against the harmonic number**: for every `hmax`, the scheduled numbers of
openings `⌊hmax / h⌋` (natural-number division), summed over the depths `h = 1 … hmax`, are at
most `hmax · H_hmax`, where `H` is the harmonic number. -/
theorem schedule_sum_le_harmonic (hmax : ℕ) :
    ((∑ h ∈ Icc 1 hmax, hmax / h : ℕ) : ℚ) ≤ hmax * harmonic hmax :=
  sum_div_le_mul_harmonic hmax

/-- With a budget `n ≥ 1`, the depth bound `hmax = ⌊n / H_n⌋` is at most `n`. -/
theorem hmax_le_budget {n hmax : ℕ} (hn : 1 ≤ n) (hh : hmax = ⌊(n : ℚ) / harmonic n⌋₊) :
    hmax ≤ n :=
  le_of_le_div_harmonic hn (floor_le_div hn hh)

/-- The harmonic numbers are monotone; in particular `H_hmax ≤ H_n` for `hmax = ⌊n / H_n⌋`. -/
theorem harmonic_hmax_le {n hmax : ℕ} (hn : 1 ≤ n) (hh : hmax = ⌊(n : ℚ) / harmonic n⌋₊) :
    harmonic hmax ≤ harmonic n :=
  harmonic_mono (hmax_le_budget hn hh)

/-- The schedule stays within the budget, in `ℚ`: `∑ ⌊hmax / h⌋ ≤ hmax · H_hmax ≤
(n / H_n) · H_n = n`. -/
theorem schedule_sum_le_budget_rat {n hmax : ℕ} (hn : 1 ≤ n)
    (hh : hmax = ⌊(n : ℚ) / harmonic n⌋₊) :
    ((∑ h ∈ Icc 1 hmax, hmax / h : ℕ) : ℚ) ≤ hmax * harmonic hmax ∧
      (hmax : ℚ) * harmonic hmax ≤ n :=
  ⟨sum_div_le_mul_harmonic hmax, mul_harmonic_le hn (floor_le_div hn hh)⟩

/-- **The schedule stays within the budget**: if `n ≥ 1` and `hmax = ⌊n / H_n⌋` (floor in `ℚ`),
then the scheduled numbers of openings `⌊hmax / h⌋`, summed over the depths `h = 1 … hmax`, are
at most `n`. -/
theorem schedule_sum_le_budget {n hmax : ℕ} (hn : 1 ≤ n)
    (hh : hmax = ⌊(n : ℚ) / harmonic n⌋₊) :
    ∑ h ∈ Icc 1 hmax, hmax / h ≤ n :=
  sum_div_le_of_le hn (floor_le_div hn hh)

/-- `openedCount P` is the number of cells of the tree which have depth `≥ 1` and a child
list. -/
theorem openedCount_spec {σ : Type} (P : Part α σ) :
    openedCount P = ((List.range P.nodes.length).filter (fun i =>
      match P.nodes[i]? with
      | some nd => decide (1 ≤ nd.depth) && nd.children.isSome
      | none => false)).length := by
  unfold openedCount
  rw [List.countP_eq_length_filter]
  congr 1
  apply List.filter_congr
  intro i _
  unfold isDeep isExp
  cases P.nodes[i]? <;> rfl

/-- In every reachable state the opened cells of depth `≥ 1` are exactly those counted by the
schedule at the depths `1 … hmax` (nothing deeper is opened). -/
theorem opened_by_depth {s : SequOOL α S} (I : Inv negInf s) :
    openedCount s.P = ∑ h ∈ Icc 1 s.hmax, expCount s.P h :=
  openedCount_eq_sum I.wf s.hmax (fun i nd hi hc => (I.depth_bounds hi).2 hc)

/-- **Total number of openings**: in every reachable state, the number of opened cells of depth
`≥ 1` (even partially opened), over the whole tree, is at most the sum of the schedule
`⌊hmax / h⌋` over `h = 1 … hmax`. -/
theorem opened_le_schedule {s : SequOOL α S} (I : Inv negInf s) :
    openedCount s.P ≤ ∑ h ∈ Icc 1 s.hmax, s.hmax / h := by
  rw [opened_by_depth I]
  apply Finset.sum_le_sum
  intro h hh
  exact C12.schedule I (Finset.mem_Icc.1 hh).1

/-- **Within the budget**: in every reachable state of SequOOL run with
`hmax = ⌊n / H_n⌋`, `n ≥ 1`, at most `n` cells of depth `≥ 1` have been opened. -/
theorem opened_le_budget {s : SequOOL α S} (I : Inv negInf s) {n : ℕ} (hn : 1 ≤ n)
    (hh : s.hmax = ⌊(n : ℚ) / harmonic n⌋₊) :
    openedCount s.P ≤ n :=
  (opened_le_schedule I).trans (schedule_sum_le_budget hn hh)

/-- **Total number of openings over any run of the documented loop** (any number of rounds, any
partition class of arity `≥ 1`, any rewards, any well-formed draws): the opened cells of depth
`≥ 1` are those of the depths `1 … hmax`, and there are at most `∑_{h=1}^{hmax} ⌊hmax / h⌋` of
them. -/
theorem run_opened_le_schedule (hbot : ∀ x : S, negInf ≤ x) (k : Kind) (domain : Box α)
    (hmax : Nat) (hK : 1 ≤ k.arity domain.length) (inputs : List (S × List (Draw α)))
    (hin : InputsOK k domain.length inputs) {s' : SequOOL α S} {H : List (Nat × S)}
    (hrun : run negInf k domain hmax inputs = .ok (s', H)) :
    openedCount s'.P = ∑ h ∈ Icc 1 hmax, expCount s'.P h ∧
    openedCount s'.P ≤ ∑ h ∈ Icc 1 hmax, hmax / h := by
  obtain ⟨I, _, _, h5⟩ := ListAux.of_eq_ok₂ (C12.run_inv hbot k domain hmax hK inputs hin) hrun
  rw [← h5]
  exact ⟨opened_by_depth I, opened_le_schedule I⟩

/-- **SequOOL stays within its budget**: over any run of the documented loop with
`hmax = ⌊n / H_n⌋` for a budget `n ≥ 1` (this is the `h_max` the code computes), at most `n`
cells of depth `≥ 1` are opened — however long the loop is run. -/
theorem run_opened_le_budget (hbot : ∀ x : S, negInf ≤ x) (k : Kind) (domain : Box α)
    (n : Nat) (hn : 1 ≤ n) (hK : 1 ≤ k.arity domain.length)
    (inputs : List (S × List (Draw α))) (hin : InputsOK k domain.length inputs)
    {s' : SequOOL α S} {H : List (Nat × S)}
    (hrun : run negInf k domain ⌊(n : ℚ) / harmonic n⌋₊ inputs = .ok (s', H)) :
    openedCount s'.P ≤ n :=
  (run_opened_le_schedule hbot k domain _ hK inputs hin hrun).2.trans
    (schedule_sum_le_budget hn rfl)

/-- The evaluated search cells are the handed-out ones: the number of non-root cells of the
tree with a non-empty reward list is the length of `chosen`. -/
theorem evaluated_eq_chosen {s : SequOOL α S} (I : Inv negInf s) :
    ((List.range s.P.nodes.length).filter (fun i => i != 0 &&
      match s.P.nodes[i]? with
      | some nd => !nd.st.rewards.isEmpty
      | none => false)).length = s.chosen.length := by
  rw [← List.toFinset_card_of_nodup (List.nodup_range.filter _)]
  have : ((List.range s.P.nodes.length).filter (fun i => i != 0 &&
      match s.P.nodes[i]? with
      | some nd => !nd.st.rewards.isEmpty
      | none => false)).toFinset = Finset.Icc 1 s.chosen.length := by
    ext i
    rw [List.mem_toFinset, List.mem_filter, List.mem_range, Finset.mem_Icc]
    have hlen := I.len
    constructor
    · rintro ⟨hlt, hp⟩
      rw [List.getElem?_eq_getElem hlt] at hp
      simp only [Bool.and_eq_true, bne_iff_ne, ne_eq, Bool.not_eq_true',
        List.isEmpty_eq_false_iff] at hp
      refine ⟨by omega, ?_⟩
      by_contra hgt
      exact hp.2 ((I.rew i _ (List.getElem?_eq_getElem hlt)).2 (by omega))
    · rintro ⟨h1, h2⟩
      have hlt : i < s.P.nodes.length := by omega
      refine ⟨hlt, ?_⟩
      rw [List.getElem?_eq_getElem hlt]
      have hr := (I.rew i _ (List.getElem?_eq_getElem hlt)).1 h1 h2
      have hne : (s.P.nodes[i]).st.rewards ≠ [] := by
        intro h; rw [h] at hr; simp at hr
      simp only [Bool.and_eq_true, bne_iff_ne, ne_eq, Bool.not_eq_true',
        List.isEmpty_eq_false_iff]
      exact ⟨by omega, hne⟩
  rw [this, Nat.card_Icc]
  omega

/-- **Evaluations against openings**: every evaluated cell is one of the `K` children of an
opened cell (the root or a cell of depth `≥ 1`), and no cell is evaluated twice; hence the
number of evaluated search cells is at most `K · (1 + number of opened cells of depth ≥ 1)`. -/
theorem evaluated_le {s : SequOOL α S} (I : Inv negInf s) :
    s.chosen.length ≤ K s.P * (1 + openedCount s.P) := by
  have h1 := nodes_le_expTotal I.wf
  have h2 := expTotal_le I.wf
  have h3 := I.len
  have h4 : K s.P * expTotal s.P ≤ K s.P * (1 + openedCount s.P) := Nat.mul_le_mul_left _ h2
  omega

/-- **Evaluations over any run of the documented loop**: the rounds of the history which hand
out a search cell (not the root) are as many as the evaluated search cells `chosen`, and there
are at most `K · (1 + number of opened cells of depth ≥ 1)`, hence at most
`K · (1 + ∑_{h=1}^{hmax} ⌊hmax / h⌋)` of them, where `K` is the arity of the partition. -/
theorem run_evaluated_le (hbot : ∀ x : S, negInf ≤ x) (k : Kind) (domain : Box α)
    (hmax : Nat) (hK : 1 ≤ k.arity domain.length) (inputs : List (S × List (Draw α)))
    (hin : InputsOK k domain.length inputs) {s' : SequOOL α S} {H : List (Nat × S)}
    (hrun : run negInf k domain hmax inputs = .ok (s', H)) :
    (H.filter (fun e => e.1 != 0)).length = s'.chosen.length ∧
    s'.chosen.length ≤ k.arity domain.length * (1 + openedCount s'.P) ∧
    s'.chosen.length ≤ k.arity domain.length * (1 + ∑ h ∈ Icc 1 hmax, hmax / h) := by
  have I0 : Inv negInf (SequOOL.init k domain hmax : SequOOL α S) :=
    C12.init_Inv k domain hmax hK
  obtain ⟨I, hist⟩ := ListAux.of_eq_ok₂ (runRounds_inv hbot inputs _ 1 I0 hin) hrun
  have hop := opened_le_schedule I
  rw [hist.1] at hop
  have hev := evaluated_le I
  rw [K_eq_of hist.2.1 hist.2.2.1] at hev
  refine ⟨?_, hev, hev.trans (Nat.mul_le_mul_left _ (Nat.add_le_add_left hop 1))⟩
  rw [hist.search_cells, List.filter_map, List.length_append, List.length_map]
  exact (Nat.zero_add _).symm

/-- **Evaluations within the budget**: over any run with `hmax = ⌊n / H_n⌋`, `n ≥ 1`, at most
`K · (1 + n)` search cells are evaluated, where `K` is the arity of the partition. -/
theorem run_evaluated_le_budget (hbot : ∀ x : S, negInf ≤ x) (k : Kind) (domain : Box α)
    (n : Nat) (hn : 1 ≤ n) (hK : 1 ≤ k.arity domain.length)
    (inputs : List (S × List (Draw α))) (hin : InputsOK k domain.length inputs)
    {s' : SequOOL α S} {H : List (Nat × S)}
    (hrun : run negInf k domain ⌊(n : ℚ) / harmonic n⌋₊ inputs = .ok (s', H)) :
    s'.chosen.length ≤ k.arity domain.length * (1 + n) :=
  (run_evaluated_le hbot k domain _ hK inputs hin hrun).2.2.trans
    (Nat.mul_le_mul_left _ (Nat.add_le_add_left (schedule_sum_le_budget hn rfl) 1))

section examples

/-- `H_10 = 7381/2520`, `⌊10 / H_10⌋ = 3` -/
example : harmonic 10 = 7381 / 2520 := harmonic_10

example : ⌊(10 : ℚ) / harmonic 10⌋₊ = 3 := floor_10

/-- the schedule for `n = 10`: `3/1 + 3/2 + 3/3 = 5 ≤ 10` -/
example : ∑ h ∈ Icc 1 3, 3 / h = 5 := by decide

example : ∑ h ∈ Icc 1 3, 3 / h ≤ 10 :=
  schedule_sum_le_budget (n := 10) (by norm_num) (by exact_mod_cast floor_10.symm)

/-- `n = 100`: `5 < H_100 ≤ 100/19`, hence `⌊100 / H_100⌋ = 19` -/
theorem harmonic_100_bounds : (5 : ℚ) < harmonic 100 ∧ harmonic 100 ≤ 100 / 19 := by
  decide +kernel

theorem floor_100 : ⌊(100 : ℚ) / harmonic 100⌋₊ = 19 :=
  floor_div_harmonic_eq (by norm_num) (lt_of_eq_of_lt (by norm_num) harmonic_100_bounds.1)
    (harmonic_100_bounds.2.trans_eq (by norm_num))

/-- the schedule for `n = 100` (`hmax = 19`): 60 openings, within the budget -/
example : ∑ h ∈ Icc 1 19, 19 / h = 60 := by decide

example : ∑ h ∈ Icc 1 19, 19 / h ≤ 100 :=
  schedule_sum_le_budget (n := 100) (by norm_num) (by exact_mod_cast floor_100.symm)

/-- the bound is not vacuous the other way either: a larger `hmax` would overspend (`hmax = 30`
schedules 111 openings for the budget 100) -/
example : ¬ ∑ h ∈ Icc 1 30, 30 / h ≤ 100 := by decide

/-- the concrete run of `C12` (binary partition, `hmax = 3 = ⌊10 / H_10⌋`, twelve rounds): the
cells 1, 2 (depth 1), 6 (depth 2) and 8 (depth 3) are opened: 4 cells `≤ 3/1 + 3/2 + 3/3 = 5 ≤
10`; ten cells are evaluated, `10 ≤ 2 · (1 + 4)` -/
example : C12.run12.map (fun p => (openedCount p.1.P, p.1.chosen.length)) = some (4, 10) := by
  decide +kernel

/-- the theorems apply to this run (rewards in `Nat`, `-inf := 0`) -/
example : ∃ s' H, run (0 : Nat) .binary C12.dom2 ⌊(10 : ℚ) / harmonic 10⌋₊ C12.inputsN =
    .ok (s', H) ∧ openedCount s'.P ≤ 10 ∧ s'.chosen.length ≤ 2 * (1 + 10) := by
  obtain ⟨s', H, h1, _⟩ := C12.run_inv (negInf := (0 : Nat)) Nat.zero_le .binary C12.dom2
    ⌊(10 : ℚ) / harmonic 10⌋₊ (by decide) C12.inputsN (by decide)
  exact ⟨s', H, h1,
    run_opened_le_budget (negInf := (0 : Nat)) Nat.zero_le .binary C12.dom2 10 (by norm_num)
      (by decide) C12.inputsN (by decide) h1,
    run_evaluated_le_budget (negInf := (0 : Nat)) Nat.zero_le .binary C12.dom2 10 (by norm_num)
      (by decide) C12.inputsN (by decide) h1⟩

end examples

end Budget
end SQ
end PyXAB
