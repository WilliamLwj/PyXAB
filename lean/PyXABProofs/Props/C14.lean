/-
  Property group C14: "Runs are reproducible, instances are isolated, user inputs are not
  mutated."

  * Reproducibility.  The models are pure functions of (state, inputs, recorded random draws):
    `pull`, `receive`, `init` are Lean functions, so two runs on the same inputs and the same
    draws return *equal* results.  This holds by construction and needs no theorem (`rfl`).
  * Isolation.  Proved generically for ANY two state machines: in the product machine driven by
    an arbitrary interleaving of tagged operations, every component behaves exactly as if it
    ran alone on the sub-sequence of its own operations (success case, converse, failing case).
    Instantiated for two T-HOO instances (different reward / score types allowed).
  * Inputs are not mutated.  The `domain : Box α` argument is an immutable value; its
    model-level trace is the box of the root node: `Part.init` stores it there and no
    operation ever changes the box of an existing node (`BoxesKept`), hence the root box of
    every later state is still `domain`.

  Vocabulary: `Spec/RelSpec.lean`; helper lemmas: `Lemmas/RL_*.lean`.
-/
import PyXABProofs.Lemmas.RL_Runs

namespace PyXAB.C14
open Rel RL ListAux
set_option linter.unusedSectionVars false

section isolation
variable {σ₁ σ₂ ι₁ ι₂ ο₁ ο₂ ε : Type}
variable (step₁ : σ₁ → ι₁ → Except ε (σ₁ × ο₁)) (step₂ : σ₂ → ι₂ → Except ε (σ₂ × ο₂))

theorem stepPair_inl (s₁ : σ₁) (s₂ : σ₂) (i : ι₁) :
    stepPair step₁ step₂ (s₁, s₂) (.inl i) = mapRes (·, s₂) .inl (step₁ s₁ i) := by
  rw [stepPair]; rcases step₁ s₁ i with _ | ⟨_, _⟩ <;> rfl

theorem stepPair_inr (s₁ : σ₁) (s₂ : σ₂) (i : ι₂) :
    stepPair step₁ step₂ (s₁, s₂) (.inr i) = mapRes (s₁, ·) .inr (step₂ s₂ i) := by
  rw [stepPair]; rcases step₂ s₂ i with _ | ⟨_, _⟩ <;> rfl

/-- If the interleaved run succeeds, then `proj_i (runPair l) = run_i (l|_i)`: each component of
the final state and each sub-sequence of the outputs is exactly what that instance produces
when run alone on the sub-sequence of its own operations. -/
theorem isolation_ok (l : List (ι₁ ⊕ ι₂)) (s₁ : σ₁) (s₂ : σ₂) (t₁ : σ₁) (t₂ : σ₂)
    (os : List (ο₁ ⊕ ο₂)) (h : runM (stepPair step₁ step₂) (s₁, s₂) l = .ok ((t₁, t₂), os)) :
    runM step₁ s₁ (lefts l) = .ok (t₁, lefts os) ∧ runM step₂ s₂ (rights l) = .ok (t₂, rights os) := by
  induction l generalizing s₁ s₂ os with
  | nil => cases h; exact ⟨rfl, rfl⟩
  | cons x l ih =>
    obtain ⟨u, o', os', h1, h2, rfl⟩ := runM_cons_eq_ok h
    cases x with
    | inl i =>
      rw [stepPair_inl] at h1
      obtain ⟨u₁, o, e1, rfl, rfl⟩ := mapRes_eq_ok h1
      obtain ⟨a, b⟩ := ih _ _ _ h2
      exact ⟨by rw [show lefts (.inl i :: l) = i :: lefts l from rfl, runM_cons_ok e1, a]; rfl, b⟩
    | inr i =>
      rw [stepPair_inr] at h1
      obtain ⟨u₂, o, e1, rfl, rfl⟩ := mapRes_eq_ok h1
      obtain ⟨a, b⟩ := ih _ _ _ h2
      exact ⟨a, by rw [show rights (.inr i :: l) = i :: rights l from rfl, runM_cons_ok e1, b]; rfl⟩

/-- Conversely, if both solo runs succeed then every interleaving succeeds, with these final
states and these outputs. -/
theorem isolation_of_solo (l : List (ι₁ ⊕ ι₂)) (s₁ : σ₁) (s₂ : σ₂) (t₁ : σ₁) (t₂ : σ₂)
    (o₁ : List ο₁) (o₂ : List ο₂) (h₁ : runM step₁ s₁ (lefts l) = .ok (t₁, o₁))
    (h₂ : runM step₂ s₂ (rights l) = .ok (t₂, o₂)) :
    ∃ os, runM (stepPair step₁ step₂) (s₁, s₂) l = .ok ((t₁, t₂), os) ∧
      lefts os = o₁ ∧ rights os = o₂ := by
  induction l generalizing s₁ s₂ o₁ o₂ with
  | nil => cases h₁; cases h₂; exact ⟨[], rfl, rfl, rfl⟩
  | cons x l ih =>
    cases x with
    | inl i =>
      obtain ⟨u₁, o, os1, e, h3, rfl⟩ := runM_cons_eq_ok (i := i) h₁
      obtain ⟨os, a, rfl, rfl⟩ := ih _ _ _ _ h3 h₂
      refine ⟨.inl o :: os, ?_, rfl, rfl⟩
      rw [runM_cons_ok (s1 := (u₁, s₂)) (o := .inl o) (by rw [stepPair_inl, e]; rfl), a]; rfl
    | inr i =>
      obtain ⟨u₂, o, os2, e, h3, rfl⟩ := runM_cons_eq_ok (i := i) h₂
      obtain ⟨os, a, rfl, rfl⟩ := ih _ _ _ _ h₁ h3
      refine ⟨.inr o :: os, ?_, rfl, rfl⟩
      rw [runM_cons_ok (s1 := (s₁, u₂)) (o := .inr o) (by rw [stepPair_inr, e]; rfl), a]; rfl

/-- Failing case: the interleaved run stops at a first failing operation `x`; up to there both
instances behaved as in their solo runs, the failure is the failure of the instance that owns
`x` in the state its solo run has reached, and that instance's solo run on its whole
sub-sequence fails with the same exception. -/
theorem isolation_error (l : List (ι₁ ⊕ ι₂)) (s₁ : σ₁) (s₂ : σ₂) (e : ε)
    (h : runM (stepPair step₁ step₂) (s₁, s₂) l = .error e) :
    ∃ pre x post t₁ t₂ os, l = pre ++ x :: post ∧
      runM (stepPair step₁ step₂) (s₁, s₂) pre = .ok ((t₁, t₂), os) ∧
      runM step₁ s₁ (lefts pre) = .ok (t₁, lefts os) ∧
      runM step₂ s₂ (rights pre) = .ok (t₂, rights os) ∧
      (match x with
       | .inl i => step₁ t₁ i = .error e ∧ runM step₁ s₁ (lefts l) = .error e
       | .inr i => step₂ t₂ i = .error e ∧ runM step₂ s₂ (rights l) = .error e) := by
  obtain ⟨pre, x, post, ⟨t₁, t₂⟩, os, rfl, b, c⟩ := runM_error_split _ l h
  obtain ⟨b1, b2⟩ := isolation_ok step₁ step₂ pre s₁ s₂ t₁ t₂ os b
  refine ⟨pre, x, post, t₁, t₂, os, rfl, b, b1, b2, ?_⟩
  cases x with
  | inl i =>
    rw [stepPair_inl] at c
    have c1 := mapRes_eq_error c
    exact ⟨c1, by rw [lefts, List.filterMap_append]; exact runM_prefix_error b1 c1 _⟩
  | inr i =>
    rw [stepPair_inr] at c
    have c1 := mapRes_eq_error c
    exact ⟨c1, by rw [rights, List.filterMap_append]; exact runM_prefix_error b2 c1 _⟩

theorem isolation_error_solo (l : List (ι₁ ⊕ ι₂)) (s₁ : σ₁) (s₂ : σ₂) (e : ε)
    (h : runM (stepPair step₁ step₂) (s₁, s₂) l = .error e) :
    runM step₁ s₁ (lefts l) = .error e ∨ runM step₂ s₂ (rights l) = .error e := by
  obtain ⟨pre, x, post, t₁, t₂, os, _, _, _, _, hx⟩ := isolation_error step₁ step₂ l s₁ s₂ e h
  cases x with
  | inl i => exact Or.inl hx.2
  | inr i => exact Or.inr hx.2

end isolation

section hoo
variable {α α' R R' S S' : Type}
variable [Add α] [Sub α] [Mul α] [Div α] [OfNat α 2] [NatCast α]
variable [Add α'] [Sub α'] [Mul α'] [Div α'] [OfNat α' 2] [NatCast α']
variable [LE S] [DecidableLE S] [Max S] [Min S] [Inhabited S] [Inhabited R]
variable [LE S'] [DecidableLE S'] [Max S'] [Min S'] [Inhabited S'] [Inhabited R']

/-- Two T-HOO instances (possibly with different configurations, domains, reward and score
types) driven by any interleaving of `pull` / `receive_reward` calls: each one ends in the
state, and has returned the cells, of its own solo run. -/
theorem HOO_instances_isolated (cfg : HOOCfg R S) (cfg' : HOOCfg R' S') (s : HOO α R S)
    (s' : HOO α' R' S') (ops : List (TBOp α R ⊕ TBOp α' R')) (t : HOO α R S) (t' : HOO α' R' S')
    (os : List (Option Nat ⊕ Option Nat))
    (h : runM (stepPair (hooOp cfg) (hooOp cfg')) (s, s') ops = .ok ((t, t'), os)) :
    runM (hooOp cfg) s (lefts ops) = .ok (t, lefts os) ∧
      runM (hooOp cfg') s' (rights ops) = .ok (t', rights os) :=
  isolation_ok _ _ ops s s' t t' os h

end hoo

/-! ### a concrete interleaving (evaluated by the kernel) -/

def exCfg : HOOCfg Nat Nat where
  inf := 1000
  negInf := 0
  mean0 := 0
  meanOf := fun rs n => rs.sum / n
  uOf := fun m c d => m + 10 / c + (4 - d)
  expandOK := fun d => decide (d ≤ 2)

def exCfg' : HOOCfg Nat Nat := { exCfg with uOf := fun m c _ => m + 20 / c }

def exD : Draw Nat := ⟨0, []⟩

/-- initial state on the domain `[0, hi]` -/
def exInit (cfg : HOOCfg Nat Nat) (hi : Nat) : HOO Nat Nat Nat :=
  match HOO.init cfg .binary [⟨0, hi⟩] [exD] with
  | .ok (s, _) => s
  | .error _ => ⟨Part.init .binary [⟨0, hi⟩] (HOO.st0 cfg), 0, none⟩

def exOps : List (TBOp Nat Nat ⊕ TBOp Nat Nat) :=
  [.inl .pull, .inr .pull, .inr (.receive 2 [exD]), .inl (.receive 7 [exD]), .inl .pull,
   .inl (.receive 1 [exD]), .inr .pull, .inl .pull, .inr (.receive 9 [exD]), .inr .pull]

/-- the interleaved run succeeds: the hypothesis of `HOO_instances_isolated` is satisfiable -/
example : (outs (runM (stepPair (hooOp exCfg) (hooOp exCfg')) (exInit exCfg 16, exInit exCfg' 64)
    exOps)).toOption.map List.length = some 10 := by decide +kernel

/-- and (evaluated independently of the theorem) the outputs of instance 1 inside the interleaving
are those of its solo run -/
example : (outs (runM (stepPair (hooOp exCfg) (hooOp exCfg')) (exInit exCfg 16, exInit exCfg' 64)
      exOps)).toOption.map lefts =
    (outs (runM (hooOp exCfg) (exInit exCfg 16) (lefts exOps))).toOption := by decide +kernel

def exBad : List (TBOp Nat Nat ⊕ TBOp Nat Nat) :=
  [.inl .pull, .inr (.receive 2 [exD]), .inl .pull]

/-- a failing interleaving: instance 2 calls `receive_reward` before any `pull`; its solo run fails
with the same exception -/
example : (match runM (stepPair (hooOp exCfg) (hooOp exCfg')) (exInit exCfg 16, exInit exCfg' 64) exBad with
      | .error e => some e | .ok _ => none) = some .noneDeref ∧
    (match runM (hooOp exCfg') (exInit exCfg' 64) (rights exBad) with
      | .error e => some e | .ok _ => none) = some .noneDeref := by
  decide +kernel

section domain
variable {α σ : Type}

/-- `Partition.__init__` stores `domain` as the root box. -/
theorem init_rootBox (k : Kind) (domain : Box α) (s0 : σ) :
    rootBox (Part.init k domain s0) = some domain := rfl

/-- boxes of existing cells are kept ⇒ the root box is kept -/
theorem rootBox_of_boxesKept {P P' : Part α σ} (h : BoxesKept P P') {b : Box α}
    (hb : rootBox P = some b) : rootBox P' = some b := by
  unfold Rel.rootBox at hb ⊢
  cases h0 : P.nodes[0]? with
  | none => rw [h0] at hb; cases hb
  | some nd =>
    obtain ⟨nd', a, c⟩ := h 0 nd h0
    rw [h0] at hb
    rw [a, ← hb, Option.map_some, Option.map_some, c]

variable [Add α] [Sub α] [Mul α] [Div α] [OfNat α 2] [NatCast α]

/-- the partition operations never change the box of an existing cell -/
theorem partition_ops_keep_boxes (P P' : Part α σ) (s0 : σ) (ds ds' : List (Draw α)) :
    (∀ p nl d, P.makeChildren s0 p nl d = .ok P' → BoxesKept P P') ∧
      (∀ p, P.expand s0 p ds = .ok (P', ds') → BoxesKept P P') ∧
      (P.deepen s0 ds = .ok (P', ds') → BoxesKept P P') ∧
      (∀ i (f : σ → σ), BoxesKept P (P.modifySt i f)) :=
  ⟨fun p nl d h => boxesKept_keptByOps.makeChildren s0 P P' p nl d h,
   fun _ h => Part.lift_expand (boxesKept_keptByOps.makeChildren s0) h,
   fun h => Part.lift_deepen (boxesKept_keptByOps.makeChildren s0) boxesKept_keptByOps.refl
     boxesKept_keptByOps.trans h,
   fun i f => boxesKept_keptByOps.modifySt P i f⟩

variable {R S : Type} [LE S] [DecidableLE S] [Max S] [Min S] [Inhabited S] [Inhabited R]

/-- T-HOO: after `__init__` the root box is `domain` … -/
theorem HOO_init_rootBox (cfg : HOOCfg R S) (k : Kind) (domain : Box α) {ds ds' : List (Draw α)}
    {s : HOO α R S} (h : HOO.init cfg k domain ds = .ok (s, ds')) : rootBox s.P = some domain := by
  obtain ⟨P1, he, rfl⟩ := HOO.init_eq_ok.1 h
  exact rootBox_of_boxesKept (Part.lift_expand (boxesKept_keptByOps.makeChildren _) he) rfl

/-- … no sequence of `pull` / `receive_reward` calls (in any order) changes the box of any
existing cell … -/
theorem HOO_ops_keep_boxes (cfg : HOOCfg R S) (ops : List (TBOp α R)) (s s1 : HOO α R S)
    (os : List (Option Nat)) (h : runM (hooOp cfg) s ops = .ok (s1, os)) : BoxesKept s.P s1.P :=
  runM_inv (fun t => BoxesKept s.P t.P)
    (fun _ _ _ _ ht h1 => boxesKept_keptByOps.trans _ _ _ ht (boxesKept_keptByOps.hooOp cfg h1)) ops
    (boxesKept_keptByOps.refl _) h

/-- … hence the root box of every state of a run is still the user's `domain`. -/
theorem HOO_run_rootBox (cfg : HOOCfg R S) (k : Kind) (domain : Box α) (ds0 : List (Draw α))
    (inputs : List (R × List (Draw α))) {s : HOO α R S} {H : List (Nat × R)}
    (h : HOO.run cfg k domain ds0 inputs = .ok (s, H)) : rootBox s.P = some domain := by
  unfold HOO.run at h
  rcases h0 : HOO.init cfg k domain ds0 with _ | ⟨s0, ds'⟩ <;> rw [h0] at h
  · cases h
  · exact rootBox_of_boxesKept (boxesKept_keptByOps.hoo_runRounds cfg inputs h)
      (HOO_init_rootBox cfg k domain h0)

theorem HOO_ops_rootBox (cfg : HOOCfg R S) (k : Kind) (domain : Box α) {ds ds' : List (Draw α)}
    {s0 : HOO α R S} (h0 : HOO.init cfg k domain ds = .ok (s0, ds')) (ops : List (TBOp α R))
    (s1 : HOO α R S) (os : List (Option Nat)) (h : runM (hooOp cfg) s0 ops = .ok (s1, os)) :
    rootBox s1.P = some domain :=
  rootBox_of_boxesKept (HOO_ops_keep_boxes cfg ops s0 s1 os h) (HOO_init_rootBox cfg k domain h0)

end domain

end PyXAB.C14
