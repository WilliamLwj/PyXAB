/-
  Property C11 — `Zooming`: arms stay in their cells and the cells cover the domain.

  "At all times every active arm lies inside the cell it is responsible for and the cells of
  the active arms cover the whole domain, so no region ever loses its arm when a cell is
  refined.  Each pull returns an active arm maximising mean + 2*sqrt(8*phase/(2+pulls)); the
  arm's mean and pull count are those of its own reward history, and its cell is refined exactly
  when its confidence radius sqrt(8*phase/(2+pulls)) has dropped to nu*rho^depth, the children
  not containing the arm receiving new arms at their centres."

  Setting.  The model `Zooming.init/pull/receive` of `PyXABModel/Model/Zooming.lean` runs on the
  arena `Part` of C03 with the geometry of C02.  Coordinates live in an arbitrary linearly
  ordered field `α`; every numeric formula of the Python code (`indexOf`, `upd`, `refine`) is a
  field of the configuration record `cfg`, scores `S` are linearly ordered.  The draws consumed
  by `make_children` are universally quantified and assumed to satisfy `Tree.DrawOKLen` and the
  NumPy guarantees `DrawOK` for the box being split (`RecvDrawsOK`: only IF a cell is refined).

  Definitions: `Spec/ZoomSpec.lean` (`Cover`, `leafBoxes`, `Grown`, `idx`, `phaseAfter`,
  `refineCond`, `credited`, `refined`, `RecvDrawsOK`, `NegInfLe`, `Run`, `GoodRun`, `Stats`,
  `PhaseInv`, `assignOld`); lemmas: `Lemmas/ZM_*.lean` (concrete data of the examples:
  `Lemmas/ZM_Example.lean`).
-/
import PyXABProofs.Lemmas.ZM_Run
import PyXABProofs.Lemmas.ZM_Pull
import PyXABProofs.Lemmas.ZM_Stats
import PyXABProofs.Lemmas.ZM_Example

set_option linter.unusedSectionVars false

namespace PyXAB.C11
open Zooming ZM _root_.PyXAB.Tree

section tree
variable {α σ : Type} [Field α] [LinearOrder α] [IsStrictOrderedRing α]

/-- In a tree grown from a `Valid` root box by `make_children` on leaves with well-formed
`DrawOK` draws, the tree invariant holds and the boxes of the leaves tile the root box. -/
theorem leaves_tile_root {k : Kind} {root : Box α} {s0 : σ} {P : Part α σ}
    (hroot : Box.Valid root) (hG : Grown k root s0 P) :
    WF P ∧ P.kind = k ∧ Tiles (leafBoxes P) root := by
  induction hG with
  | init => exact ⟨init_WF' k root s0, rfl, Tiles.self hroot⟩
  | mk _ hp hleaf hdl hd hm ih =>
    obtain ⟨W, hk, hT⟩ := ih
    obtain ⟨P'', m, W', S⟩ := makeChildren_WF_step W s0 hp hleaf rfl hdl
    obtain rfl : P'' = _ := Except.ok.inj (m.symm.trans hm)
    exact ⟨W', S.kind_eq.trans hk, (tiles_step hT hp hleaf hd hm).1⟩

end tree

section cover
variable {α R S : Type} [LinearOrder α]

/-- **(1a)** every arm's `cell` is a valid id of a leaf of depth ≥ 1, the closed box of the cell
contains the arm's point, and the point has the dimension of the domain. -/
theorem cover_arm_in_cell {root : Box α} {s : Zooming α S} (hC : Cover root s) {a : Arm α S}
    (ha : a ∈ s.arms) :
    ∃ nd, s.P.nodes[a.cell]? = some nd ∧ nd.children = none ∧ 1 ≤ nd.depth ∧
      Box.Mem nd.box a.pt ∧ Box.Mem (cellBox s.P a.cell) a.pt ∧
      a.pt.length = root.length ∧ dimn s.P = root.length := by
  obtain ⟨nd, ⟨h1, h2⟩, h3, h4⟩ := hC.arm_leaf a ha
  obtain ⟨r, hr, hrb⟩ := hC.root_box
  have hdim : dimn s.P = root.length := by simp only [dimn, hr, hrb]
  refine ⟨nd, h1, h2, h3, h4, (cellBox_eq h1).symm ▸ h4, ?_, hdim⟩
  rw [Box.Mem.length_eq h4, hC.wf.boxlen _ _ h1, hdim]

/-- **(1b)** `arm ↦ cell` is a bijection between the positions of `arms` and the leaves of the
arena: every arm's cell is a leaf, every leaf is the cell of exactly one position, and two
positions with the same cell are equal. -/
theorem cover_bijection {root : Box α} {s : Zooming α S} (hC : Cover root s) :
    (∀ a ∈ s.arms, ∃ nd, LeafAt s.P a.cell nd) ∧
    (∀ c nd, LeafAt s.P c nd → ∃! j : Nat, ∃ a : Arm α S, s.arms[j]? = some a ∧ a.cell = c) ∧
    (∀ (i j : Nat) (a b : Arm α S), s.arms[i]? = some a → s.arms[j]? = some b →
      a.cell = b.cell → i = j) ∧
    (s.arms.map (·.cell)).Perm (leafIds s.P) := by
  refine ⟨fun a ha => ?_, fun c nd hl => ?_, fun i j a b ha hb h => hC.cell_inj ha hb h,
    hC.cells_perm⟩
  · obtain ⟨nd, h, _⟩ := hC.arm_leaf a ha; exact ⟨nd, h⟩
  · obtain ⟨a, ha, hac⟩ := hC.leaf_arm c nd hl
    obtain ⟨j, hj⟩ := List.mem_iff_getElem?.1 ha
    refine ⟨j, ⟨a, hj, hac⟩, ?_⟩
    rintro j' ⟨b, hb, hbc⟩
    exact hC.cell_inj hb hj (hbc.trans hac.symm)

/-- **(1c)** the cells of the active arms are a tiling of the domain: sub-cells of the domain,
covering it, with pairwise disjoint interiors. -/
theorem cover_cells_tile {root : Box α} {s : Zooming α S} (hC : Cover root s) :
    Tiles (s.arms.map (fun a => cellBox s.P a.cell)) root :=
  hC.arm_cells_tile

/-- **(1c)** in particular no point of the domain is without an arm. -/
theorem cover_domain {root : Box α} {s : Zooming α S} (hC : Cover root s) :
    ∀ x, Box.Mem root x → ∃ a ∈ s.arms, Box.Mem (cellBox s.P a.cell) x := by
  intro x hx
  obtain ⟨c, hc, hcx⟩ := (hC.arm_cells_tile.2.1 x).1 hx
  obtain ⟨a, ha, rfl⟩ := List.mem_map.1 hc
  exact ⟨a, ha, hcx⟩

end cover

section cover
variable {α R S : Type} [Field α] [LinearOrder α] [IsStrictOrderedRing α]

/-- **init_Cover**: `Zooming.__init__` succeeds given one well-formed draw for the root cell
(it consumes exactly that draw), establishes the invariant, and places one fresh arm at the
centre of each of the `K` depth-1 cells. -/
theorem init_Cover (cfg : ZoomCfg R S) (k : Kind) (domain : Box α) (d : Draw α)
    (ds : List (Draw α)) (hv : Box.Valid domain) (hdl : DrawOKLen k domain.length d)
    (hd : DrawOK k domain d) :
    ∃ s, Zooming.init cfg k domain (d :: ds) = .ok (s, ds) ∧ Cover domain s ∧ s.P.kind = k ∧
      dimn s.P = domain.length ∧
      s.arms = (List.range' 1 (k.arity domain.length)).map (newArm cfg s.P) ∧
      s.phase = 1 ∧ s.nextEnd = 2 ∧ s.time = 0 ∧ s.best = none :=
  init_cover cfg k domain d ds hv hdl hd

variable [LinearOrder S]

/-- **pull** from a `Cover` state never raises (there is always at least one arm), returns a
position `i` of `arms` and the point of that arm, changes only `best`, and keeps `Cover`. -/
theorem pull_Cover (cfg : ZoomCfg R S) {root : Box α} {s : Zooming α S} (hC : Cover root s)
    (hbot : NegInfLe cfg s) :
    s.arms ≠ [] ∧ ∃ i a, s.arms[i]? = some a ∧
      pull cfg s = .ok ({ s with best := some i }, i, a.pt) ∧
      Cover root { s with best := some i } := by
  refine ⟨hC.arms_ne_nil, ?_⟩
  obtain ⟨i, a, h1, h2, _⟩ := pull_spec cfg s hC.arms_ne_nil hbot
  exact ⟨i, a, h1, h2, hC.with_best _⟩

/-- **receive_Cover**: after a `pull` (`best = some i`) `receive` never raises and keeps the
invariant (and the kind and dimension of the partition). -/
theorem receive_Cover (cfg : ZoomCfg R S) {root : Box α} {s : Zooming α S} (hC : Cover root s)
    {i : Nat} {a : Arm α S} (hb : s.best = some i) (ha : s.arms[i]? = some a) (r : R)
    {ds : List (Draw α)} (hds : RecvDrawsOK cfg s ds) :
    ∃ s' ds', receive cfg s r ds = .ok (s', ds') ∧ Cover root s' ∧ s'.P.kind = s.P.kind ∧
      dimn s'.P = dimn s.P :=
  receive_total cfg hC hb ha r hds

/-- One full round from a `Cover` state succeeds and re-establishes `Cover`. -/
theorem round_Cover (cfg : ZoomCfg R S) {root : Box α} {s : Zooming α S} (hC : Cover root s)
    (hbot : NegInfLe cfg s) (r : R) {ds : List (Draw α)}
    (hds : ∀ b, RecvDrawsOK cfg { s with best := b } ds) :
    ∃ s1 i pt s' ds', pull cfg s = .ok (s1, i, pt) ∧ receive cfg s1 r ds = .ok (s', ds') ∧
      Cover root s' := by
  obtain ⟨_, i, a, h1, h2, h3⟩ := pull_Cover cfg hC hbot
  obtain ⟨s', ds', e, hC', _⟩ := receive_Cover cfg h3 rfl h1 r (hds (some i))
  exact ⟨_, i, a.pt, s', ds', h2, e, hC'⟩

/-- **run_Cover**: the invariant holds after `init` and after every round of a run whose draws
satisfy the NumPy guarantees. -/
theorem run_Cover {cfg : ZoomCfg R S} {k : Kind} {domain : Box α} (hv : Box.Valid domain)
    {s : Zooming α S} {H : List (Nat × R)} (hG : GoodRun cfg k domain s H) :
    Cover domain s ∧ s.P.kind = k ∧ dimn s.P = domain.length :=
  ⟨(goodRun_cover hv hG).1, (goodRun_cover hv hG).2.2⟩

end cover

section pull
variable {α R S : Type} [LinearOrder S]

/-- **pull_argmax**: with at least one arm and `negInf` below every index, `pull` returns
position `i` with `index j ≤ index i` for all positions `j`, and `i` is the LAST such position
(tie rule `>=`): every later position has a strictly smaller index.  Only `best` changes. -/
theorem pull_argmax (cfg : ZoomCfg R S) (s : Zooming α S) (hne : s.arms ≠ [])
    (hbot : NegInfLe cfg s) :
    ∃ i a, s.arms[i]? = some a ∧ pull cfg s = .ok ({ s with best := some i }, i, a.pt) ∧
      (∀ (j : Nat) (b : Arm α S), s.arms[j]? = some b →
        idx cfg s.phase b ≤ idx cfg s.phase a) ∧
      (∀ (j : Nat) (b : Arm α S), i < j → s.arms[j]? = some b →
        idx cfg s.phase b < idx cfg s.phase a) := by
  obtain ⟨i, a, h1, h2, h3, h4⟩ := pull_spec cfg s hne hbot
  exact ⟨i, a, h1, h2, fun j b hb => h3 b (List.mem_of_getElem? hb), h4⟩

/-- a bottom element `negInf` is below every index -/
theorem negInfLe_of_bot (cfg : ZoomCfg R S) (s : Zooming α S) (h : ∀ x, cfg.negInf ≤ x) :
    NegInfLe cfg s := fun _ _ => h _

end pull

section stats
variable {α R S : Type} [Field α] [LinearOrder α] [IsStrictOrderedRing α] [LinearOrder S]

/-- Positions of `arms` are stable over one round (`pull` returning position `i`, then
`receive r`).  `receive` only appends arms: every old position `j` keeps its arm (same point; the same arm
altogether if `j ≠ i`), the pulled arm gets `pulls + 1` and the updated mean, and the appended
arms are fresh (`pulls = 0`, `avg = cfg.zero`). -/
theorem arms_stable {cfg : ZoomCfg R S} {s s1 s2 : Zooming α S} {i : Nat} {pt : List α} {r : R}
    {ds ds' : List (Draw α)} (hp : pull cfg s = .ok (s1, i, pt))
    (hr : receive cfg s1 r ds = .ok (s2, ds')) :
    s.arms.length ≤ s2.arms.length ∧
    (∃ a a' : Arm α S, s.arms[i]? = some a ∧ s2.arms[i]? = some a' ∧ a'.pt = a.pt ∧ pt = a.pt ∧
      a'.pulls = a.pulls + 1 ∧ a'.avg = cfg.upd a.avg a.pulls r) ∧
    (∀ j : Nat, j ≠ i → j < s.arms.length → s2.arms[j]? = s.arms[j]?) ∧
    (∀ (j : Nat) (b : Arm α S), s.arms.length ≤ j → s2.arms[j]? = some b →
      b.pulls = 0 ∧ b.avg = cfg.zero) := by
  obtain ⟨a, a', ha, hpt, hpl, hav, hlen, ha', hold, hnew, _⟩ := roundRel_arms (round_inv hp hr)
  obtain ⟨_, a0, ha0, rfl⟩ := pull_inv hp
  obtain rfl : a0 = a := Option.some.inj (ha0.symm.trans ha)
  exact ⟨hlen, ⟨a0, a', ha, ha', hpt, rfl, hpl, hav⟩, hold, hnew⟩

/-- **stats_exact**: along any run with ghost history `H` (position pulled, reward; oldest
first): `time` = number of rounds, every pulled position is a position of `arms`, the pull
count of the arm at position `j` = number of rounds in which `j` was pulled, the pull counts sum
to the number of rounds, and a never-pulled arm has mean `cfg.zero`. -/
theorem stats_exact {cfg : ZoomCfg R S} {k : Kind} {domain : Box α} {s : Zooming α S}
    {H : List (Nat × R)} (hR : Run cfg k domain s H) :
    s.time = H.length ∧ (∀ e ∈ H, e.1 < s.arms.length) ∧
    (∀ j a, s.arms[j]? = some a → a.pulls = (rewardsOf H j).length) ∧
    (s.arms.map (·.pulls)).sum = H.length ∧
    (∀ a ∈ s.arms, a.pulls = 0 → a.avg = cfg.zero) := by
  have h := run_stats hR
  exact ⟨h.time, h.valid, h.pulls, h.total, h.zero⟩

/-- **mean_exact**: with scores = rewards in an ordered field and the running-mean update
`upd avg n r = (avg*n + r)/(n+1)`, the mean of every pulled arm is the arithmetic mean of its
own rewards. -/
theorem mean_exact {S : Type} [Field S] [LinearOrder S] [IsStrictOrderedRing S]
    {cfg : ZoomCfg S S} {k : Kind} {domain : Box α} {s : Zooming α S} {H : List (Nat × S)}
    (hupd : ∀ (avg : S) (n : Nat) (r : S), cfg.upd avg n r = (avg * (n : S) + r) / ((n : S) + 1))
    (hR : Run cfg k domain s H) :
    ∀ j a, s.arms[j]? = some a → 0 < a.pulls →
      a.avg = (rewardsOf H j).sum / (a.pulls : S) ∧ a.pulls = (rewardsOf H j).length := by
  have key := run_induction (cfg := cfg) (k := k) (domain := domain)
    (motive := fun s H => Stats cfg s H ∧ ∀ j a, s.arms[j]? = some a → 0 < a.pulls →
      a.avg = (rewardsOf H j).sum / (a.pulls : S))
    (fun s h => ⟨stats_init cfg s h, fun j a ha hp =>
      absurd hp ((h.2.2.2.2 a (List.mem_of_getElem? ha)).1 ▸ Nat.lt_irrefl 0)⟩)
    (fun s H i r s' ih h => ?_) hR
  · exact fun j a ha hp => ⟨key.2 j a ha hp, key.1.pulls j a ha⟩
  obtain ⟨hS, hM⟩ := ih
  refine ⟨stats_step cfg hS h, fun j b hb hb0 => ?_⟩
  obtain ⟨a, a', ha, hp, hav, hcases⟩ := roundRel_cases h
  rw [rewardsOf_snoc, List.sum_append]
  rcases hcases j b hb with ⟨rfl, rfl⟩ | ⟨hji, hb'⟩ | ⟨_, _, h0, _⟩
  · -- the running mean: `(avg * n + r) / (n + 1)` with `avg * n` the sum so far
    rw [hav, hp, hupd, if_pos rfl, List.sum_singleton, Nat.cast_add, Nat.cast_one]
    congr 2
    by_cases h0 : a.pulls = 0
    · have hl := hS.pulls j a ha
      rw [h0] at hl
      rw [h0, List.eq_nil_of_length_eq_zero hl.symm, Nat.cast_zero, mul_zero, List.sum_nil]
    · rw [hM j a ha (Nat.pos_of_ne_zero h0), div_mul_cancel₀ _ (Nat.cast_ne_zero.2 h0)]
  · rw [hM j b hb' hb0, if_neg (Ne.symm hji), List.sum_nil, add_zero]
  · exact absurd hb0 (h0 ▸ Nat.lt_irrefl 0)

end stats

section refine
variable {α R S : Type} [Field α] [LinearOrder α] [IsStrictOrderedRing α]

/-- **refine_iff**.  In `receive` from a `Cover` state (pulled arm `a` at position `i`, its
cell `nd`), the tree grows iff `cfg.refine phase' pulls' depth`, with `phase'` the phase AFTER
this round's phase update and `pulls'` the count after crediting.
* not refined: the result is the credited state, no draw is consumed;
* refined: one draw is consumed, exactly the arm's cell is split (`Step`: every other old node
  is unchanged, the `K` new leaves `n .. n+K-1` are its children), the arm moves to the FIRST
  child `c` whose closed box contains its point, every other child carries exactly one fresh arm
  (`pulls = 0`, `avg = cfg.zero`, point = centre of the child), appended in child order, and
  no other arm changes (`refined`). -/
theorem refine_iff (cfg : ZoomCfg R S) {root : Box α} {s s' : Zooming α S} (hC : Cover root s)
    {i : Nat} {a : Arm α S} {nd : Node α Unit} (hb : s.best = some i)
    (ha : s.arms[i]? = some a) (hn : s.P.nodes[a.cell]? = some nd) {r : R}
    {ds ds' : List (Draw α)} (hds : RecvDrawsOK cfg s ds)
    (hr : receive cfg s r ds = .ok (s', ds')) :
    (s.P.nodes.length < s'.P.nodes.length ↔
      cfg.refine (phaseAfter s) (a.pulls + 1) nd.depth = true) ∧
    (cfg.refine (phaseAfter s) (a.pulls + 1) nd.depth = false →
      s' = credited cfg s i a r ∧ ds' = ds) ∧
    (cfg.refine (phaseAfter s) (a.pulls + 1) nd.depth = true →
      ∃ d c fresh, ds = d :: ds' ∧
        s.P.makeChildren () a.cell (decide (nd.depth ≥ s.P.depth)) d = .ok s'.P ∧
        Step s.P s'.P () a.cell nd ∧
        c ∈ List.range' s.P.nodes.length (K s.P) ∧ Box.Mem (cellBox s'.P c) a.pt ∧
        (∀ x ∈ List.range' s.P.nodes.length (K s.P), x < c →
          ¬ Box.Mem (cellBox s'.P x) a.pt) ∧
        s' = refined cfg s i a r s'.P c fresh ∧
        fresh.map (·.cell) = (List.range' s.P.nodes.length (K s.P)).filter (· ≠ c) ∧
        ∀ f ∈ fresh, f.pulls = 0 ∧ f.avg = cfg.zero ∧
          f.pt = Box.cpoint (cellBox s'.P f.cell)) := by
  obtain ⟨nd', hn', _, h⟩ := receive_cases cfg hC hb ha r hds
  obtain rfl := getElem?_inj hn'.1 hn
  rcases h with ⟨hc, e, _⟩ |
    ⟨hc, d, ds'', P2, l₁, c, l₂, cn, rfl, hm, _, St, hsplit, hcn, hcm, hfirst, e, _⟩
  · obtain ⟨rfl, rfl⟩ := Prod.mk.inj (Except.ok.inj (e.symm.trans hr))
    rw [show cfg.refine (phaseAfter s) (a.pulls + 1) nd'.depth = false from hc]
    exact ⟨⟨fun h => absurd h (Nat.lt_irrefl _), nofun⟩, fun _ => ⟨rfl, rfl⟩, nofun⟩
  · obtain ⟨rfl, rfl⟩ := Prod.mk.inj (Except.ok.inj (e.symm.trans hr))
    rw [show cfg.refine (phaseAfter s) (a.pulls + 1) nd'.depth = true from hc]
    have hcr : c ∈ List.range' s.P.nodes.length (K s.P) :=
      hsplit ▸ List.mem_append_right _ List.mem_cons_self
    have hlen : s.P.nodes.length < P2.nodes.length := by
      have := List.mem_range'_1.1 hcr
      exact St.len ▸ Nat.lt_of_le_of_lt this.1 this.2
    simp only [refined_P]
    refine ⟨⟨fun _ => trivial, fun _ => hlen⟩, nofun, fun _ => ⟨d, c, _, rfl, hm, St, hcr,
      cellBox_eq hcn ▸ hcm, fun x hx hlt => ?_, rfl, ?_, fun f hf => ?_⟩⟩
    · -- the children before `c` are those smaller than `c`
      obtain ⟨xn, x1, _⟩ := newCell St hx
      rw [cellBox_eq x1]
      exact hfirst x (lt_mem_left (hsplit ▸ List.pairwise_lt_range') (hsplit ▸ hx) hlt) xn x1
    · rw [hsplit, filter_ne_middle (hsplit ▸ List.nodup_range'), List.map_map]
      exact List.map_id _
    · obtain ⟨x, _, rfl⟩ := List.mem_map.1 hf
      refine ⟨rfl, rfl, ?_⟩
      simp only [newArm, cellBox]
      cases P2.nodes[x]? <;> rfl

end refine

section phase
variable {α R S : Type} [Field α] [LinearOrder α] [IsStrictOrderedRing α] [LinearOrder S]

/-- **phase_schedule**: along any run, `time` counts the rounds, phases are numbered from 1,
`nextEnd = 2^(phase+1) - 2` and the current phase is the one containing the clock. -/
theorem phase_schedule {cfg : ZoomCfg R S} {k : Kind} {domain : Box α} {s : Zooming α S}
    {H : List (Nat × R)} (hR : Run cfg k domain s H) :
    s.time = H.length ∧ 1 ≤ s.phase ∧ s.nextEnd = 2 ^ (s.phase + 1) - 2 ∧
      2 ^ s.phase - 2 ≤ s.time ∧ s.time < s.nextEnd := by
  have h := run_phase hR
  exact ⟨(run_stats hR).time, h.pos, h.nextEnd, h.lo, h.hi⟩

/-- `nextEnd` is the sum `Σ_{j=1..phase} 2^j`. -/
theorem nextEnd_sum {cfg : ZoomCfg R S} {k : Kind} {domain : Box α} {s : Zooming α S}
    {H : List (Nat × R)} (hR : Run cfg k domain s H) :
    s.nextEnd = ((List.range' 1 s.phase).map (2 ^ ·)).sum := by
  rw [sum_two_pow]; exact (run_phase hR).nextEnd

/-- **phase_advance**: one more round `pull; receive` after a run: the clock advances by one;
the phase increases (by one, `nextEnd` growing by `2^(phase+1)`) exactly when the new clock value
reaches `nextEnd`, and is unchanged otherwise. -/
theorem phase_advance {cfg : ZoomCfg R S} {k : Kind} {domain : Box α} {s s1 s2 : Zooming α S}
    {H : List (Nat × R)} (hR : Run cfg k domain s H) {i : Nat} {pt : List α} {r : R}
    {ds ds' : List (Draw α)} (hp : pull cfg s = .ok (s1, i, pt))
    (hr : receive cfg s1 r ds = .ok (s2, ds')) :
    s2.time = s.time + 1 ∧
    (s2.phase = s.phase + 1 ↔ s.time + 1 = s.nextEnd) ∧
    (s.time + 1 = s.nextEnd → s2.phase = s.phase + 1 ∧
      s2.nextEnd = s.nextEnd + 2 ^ (s.phase + 1)) ∧
    (s.time + 1 ≠ s.nextEnd → s2.phase = s.phase ∧ s2.nextEnd = s.nextEnd) := by
  obtain ⟨e1, e2, e3⟩ := roundRel_clock (round_inv hp hr)
  have hge := fun h : s.time + 1 = s.nextEnd => phaseAfter_of_ge (Nat.le_of_eq h.symm)
  have hlt := fun h : s.time + 1 ≠ s.nextEnd =>
    phaseAfter_of_lt (Nat.lt_of_le_of_ne (run_phase hR).hi h)
  rw [e2, e3]
  refine ⟨e1, ⟨fun h => ?_, fun h => (hge h).1⟩, hge, hlt⟩
  by_contra hne
  rw [(hlt hne).1] at h
  exact absurd h (Nat.ne_of_lt (Nat.lt_succ_self _))

end phase

section counterexample

/-- Why `assign` gives the arm to the FIRST containing child only.  The arm at `1/2` lies on the
common boundary of the two children: BOTH contain it.  Under the rule `assignOld` (every
containing child takes the arm in turn) the last containing child (2) ends up with the arm and NO
fresh arm is created, so child 1 ends without an arm; `assign` hands the arm to the first
containing child (1) and creates a fresh arm for child 2. -/
theorem assignOld_counterexample :
    (cxP.nodes[0]?.bind (·.children)) = some [1, 2] ∧
    cxP.isLeaf 1 = true ∧ cxP.isLeaf 2 = true ∧
    contains (cellBox cxP 1) [1 / 2] = true ∧ contains (cellBox cxP 2) [1 / 2] = true ∧
    (assignOld exCfg cxP [1 / 2] [1, 2] none []).1 = some 2 ∧
    ((assignOld exCfg cxP [1 / 2] [1, 2] none []).2.map (·.cell)) = [] ∧
    (assign exCfg cxP [1 / 2] [1, 2] false none []).1 = some 1 ∧
    ((assign exCfg cxP [1 / 2] [1, 2] false none []).2.map (·.cell)) = [2] := by
  decide +kernel

/-- Consequently, with the rule `assignOld` the arm list after the refinement (the moved arm
followed by the fresh arms) has no arm for the leaf `1`: clause (1b) of `Cover` fails. -/
theorem assignOld_loses_cell :
    let res := assignOld exCfg cxP [1 / 2] [1, 2] none []
    let arms' : List (Arm ℚ ℚ) :=
      [{ pt := [1 / 2], cell := res.1.getD 0, pulls := 1, avg := 0 }] ++ res.2
    cxP.isLeaf 1 = true ∧ ∀ a ∈ arms', a.cell ≠ 1 := by
  decide +kernel

end counterexample

section examples

/-- the hypotheses of `init_Cover`, `pull_Cover`, `receive_Cover`, `refine_iff` are satisfiable
and the invariant holds on a state reached through a refinement -/
example : Cover dom01 st3 := (run_Cover dom01_valid good3).1
example : Run exCfg .binary dom01 st3 [(1, 1), (0, 1), (1, 1)] :=
  (goodRun_cover dom01_valid good3).2.1

/-- Round 3 refines cell `2 = [1/2,1]` (3 → 5 nodes).  Its arm sits at `3/4`, the common
boundary of the children `3 = [1/2,3/4]` and `4 = [3/4,1]`: it moves to the first one and
child 4 gets a fresh arm at `7/8`. -/
example : st2.P.nodes.length = 3 ∧ st3.P.nodes.length = 5 ∧
    st3.arms.map (·.cell) = [1, 3, 4] ∧ st3.arms.map (·.pt) = [[1 / 4], [3 / 4], [7 / 8]] ∧
    st3.arms.map (·.pulls) = [1, 2, 0] ∧ st3.arms.map (·.avg) = [1, 1, 0] ∧
    contains (cellBox st3.P 3) [3 / 4] = true ∧ contains (cellBox st3.P 4) [3 / 4] = true ∧
    st3.phase = 2 ∧ st3.nextEnd = 6 ∧ st3.time = 3 := by
  decide +kernel

/-- the hypotheses of `receive_Cover` / `refine_iff` are jointly satisfiable in the refining
branch: round 3 of the run (pulled arm at position 1, cell 2 of depth 1, `pulls' = 2`). -/
example : ∃ (a : Arm ℚ ℚ) (nd : Node ℚ Unit), Cover dom01 (pl st2).1 ∧
    (pl st2).1.best = some 1 ∧ (pl st2).1.arms[1]? = some a ∧
    (pl st2).1.P.nodes[a.cell]? = some nd ∧ RecvDrawsOK exCfg (pl st2).1 [d0] ∧
    exCfg.refine (phaseAfter (pl st2).1) (a.pulls + 1) nd.depth = true := by
  have h : (pl st2).1.best = some 1 ∧
      ((pl st2).1.arms[1]?.map fun a => (a.cell, a.pulls)) = some (2, 1) ∧
      ((pl st2).1.P.nodes[2]?.map (·.depth)) = some 1 := by decide +kernel
  obtain ⟨hb, h1, h2⟩ := h
  obtain ⟨a, ha, e⟩ := Option.map_eq_some_iff.1 h1
  obtain ⟨nd, hn, hd⟩ := Option.map_eq_some_iff.1 h2
  obtain ⟨ec, ep⟩ := Prod.mk.inj e
  refine ⟨a, nd, cover_pulled2, hb, ha, ec ▸ hn, drawsOK_pulled2, ?_⟩
  show decide (nd.depth + 1 ≤ a.pulls + 1) = true
  rw [ep, hd]; rfl

/-- `mean_exact` applies to this run -/
example : ∀ j a, st3.arms[j]? = some a → 0 < a.pulls →
    a.avg = (rewardsOf [(1, (1 : ℚ)), (0, 1), (1, 1)] j).sum / (a.pulls : ℚ) ∧
      a.pulls = (rewardsOf [(1, (1 : ℚ)), (0, 1), (1, 1)] j).length :=
  mean_exact (cfg := exCfg) (fun _ _ _ => rfl) (goodRun_cover dom01_valid good3).2.1

/-- a `Grown` tree (hypothesis of `leaves_tile_root`) -/
example : Grown .binary dom01 () cxP := by
  refine Grown.mk (P := Part.init .binary dom01 ()) (p := 0) (d := d0) Grown.init rfl rfl
    (by decide) Nat.zero_lt_one ?_
  exact eq_ok_getOk (by decide +kernel)

end examples

end PyXAB.C11
