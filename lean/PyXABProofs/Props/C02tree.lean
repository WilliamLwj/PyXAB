/-
  C02, tree level: "consequently, the leaves of any tree grown from a domain always tile that domain".
  The statement is proved in the Zooming development (`Lemmas/ZM_Tree.lean`, `Props/C11.lean`);
  it is restated here, under C02's name, so that the C02 check audits it.
-/
import PyXABProofs.Props.C11
namespace PyXAB.C02
open PyXAB PyXAB.Tree PyXAB.ZM
variable {α σ : Type} [Field α] [LinearOrder α] [IsStrictOrderedRing α]

/-- one expansion of a leaf with an admissible draw keeps "the leaf boxes tile the root box", and the new
children tile the expanded cell -/
theorem leaves_tile_step {root : Box α} {P P' : Part α σ} {s0 : σ} {p : Nat} {nd : Node α σ}
    {nl : Bool} {d : Draw α} (hT : Tiles (leafBoxes P) root)
    (hp : P.nodes[p]? = some nd) (hleaf : nd.children = none)
    (hd : DrawOK P.kind nd.box d) (h : P.makeChildren s0 p nl d = .ok P') :
    Tiles (leafBoxes P') root ∧ Tiles (childBoxes P.kind nd.box d) nd.box :=
  tiles_step hT hp hleaf hd h

/-- for every order of expansions: in a tree grown from a valid domain by `make_children` on leaves with draws
NumPy can produce (end points included), the leaves tile the domain -/
theorem leaves_tile_domain {k : Kind} {root : Box α} {s0 : σ} {P : Part α σ}
    (hroot : Box.Valid root) (hG : Grown k root s0 P) :
    WF P ∧ P.kind = k ∧ Tiles (leafBoxes P) root :=
  PyXAB.C11.leaves_tile_root hroot hG

end PyXAB.C02
