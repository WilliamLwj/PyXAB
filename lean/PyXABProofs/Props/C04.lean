/-
  Property C04 — "Every reward is credited exactly once to the cell(s) that produced the point"
  (T-HOO, HCT, VHCT).

  For a successful run `run cfg k domain ds0 inputs = .ok (s, H)` of the documented ask/tell
  loop (`Spec/TBRun.lean`; by `loop_total` of C06 every run with well-formed draws is
  successful) with history `H = [(v₁, r₁), …, (vₙ, rₙ)]` of (pulled cell id, reward):

  * HCT / VHCT (`HCT.C04`): the reward list of cell `i` is the list of the `rₖ` with `vₖ = i`
    (in order); `count = len(rewards)`; visited cells store `mean = meanOf rewards count` and,
    for VHCT, `var = varOf rewards`; the counts of all cells sum to `n`.
  * T-HOO (`HOO.C04`): the reward list of cell `i` is the list of the `rₖ` such that `i` is an
    ancestor-or-self of `vₖ` in the final tree (`isAnc`, which agrees with the relation `Anc`
    generated by the `parent` pointers: `isAnc_spec`; parent pointers never change:
    `parents_stable`); `count = len(rewards)`; `mean = meanOf rewards count` for visited cells;
    the root's count is `n`.
  * every pulled id is a valid id of the final tree, and the rewards of `H` are those of the
    inputs, in order.  (The model's `pull` returns the id of the pulled cell; the point handed
    to the user is the centre of that cell's box.)
-/
import PyXABProofs.Lemmas.TBA_Effect

set_option linter.unusedSectionVars false

namespace PyXAB
open Tree TBA

namespace HCT
open TBA.HCT
variable {α R S : Type} [Add α] [Sub α] [Mul α] [Div α] [OfNat α 2] [NatCast α]
variable [LE S] [DecidableLE S] [Max S] [Min S] [Inhabited S] [Inhabited R]

/-- **C04 for HCT and VHCT.** -/
theorem C04 (cfg : HCTCfg R S) (k : Kind) (domain : Box α) (ds0 : List (Draw α))
    (inputs : List (R × List (Draw α))) (h0 : DrawsOK k domain.length ds0)
    (hin : InputsOK k domain.length inputs) {s : HCT α R S} {H : List (Nat × R)}
    (hrun : run cfg k domain ds0 inputs = .ok (s, H)) :
    Credited cfg s H ∧ H.map (·.2) = inputs.map (·.1) := by
  obtain ⟨hI, hH, hl⟩ := ListAux.of_eq_ok₂ (run_induct cfg k domain (hist_step cfg)
    (fun s0 hst => ⟨nofun, fun i nd hi => by rw [(hst i nd hi).1]; rfl⟩) h0 hin) hrun
  refine ⟨?_, hl⟩
  exact {
    pulled_valid := hH.1
    rewards := fun i hi => Part.stOf_of_nodes
      (Q := fun i st => st.rewards = (H.filter (fun e => decide (e.1 = i))).map (·.2)) hH.2 hi
    count := fun i hi => Part.stOf_of_nodes (Q := fun _ st => st.count = st.rewards.length)
      (fun i nd h => (hI.pinv.good i nd h).1) hi
    mean := fun i hi => Part.stOf_of_nodes
      (Q := fun _ st => st.count > 0 → st.mean = cfg.meanOf st.rewards st.count)
      (fun i nd h hc => (hI.pinv.good i nd h).2 (Nat.ne_of_gt hc)) hi
    var := fun hv i hi => Part.stOf_of_nodes
      (Q := fun _ st => st.count > 0 → st.var = cfg.varOf st.rewards)
      (fun i nd h hc => hI.var hv i nd h (Nat.ne_of_gt hc)) hi
    total := sumCounts_eq hH.1 (fun i nd hi => by
      rw [(hI.pinv.good i nd hi).1, hH.2 i nd hi, List.length_map]) }

/-- The cell pulled in round `k` holds the reward of round `k` (so its reward list is not
empty): the hypotheses of `C04` are not vacuous for any run of at least one round. -/
theorem pulled_nonempty (cfg : HCTCfg R S) {s : HCT α R S} {H : List (Nat × R)}
    (hC : Credited cfg s H) {v : Nat} {r : R} (hm : (v, r) ∈ H) :
    v < s.P.nodes.length ∧ r ∈ (s.P.stOf v).rewards := by
  refine ⟨hC.pulled_valid _ hm, ?_⟩
  rw [hC.rewards v (hC.pulled_valid _ hm), List.mem_map]
  exact ⟨(v, r), List.mem_filter.2 ⟨hm, by simp⟩, rfl⟩

end HCT

namespace HOO
open TBA.HOO
variable {α R S : Type} [Add α] [Sub α] [Mul α] [Div α] [OfNat α 2] [NatCast α]
variable [LE S] [DecidableLE S] [Max S] [Min S] [Inhabited S] [Inhabited R]

/-- `isAnc` is the reflexive-transitive closure of the `parent` pointers. -/
theorem isAnc_spec (cfg : HOOCfg R S) {s : HOO α R S} (hI : Inv cfg s) (i j : Nat) :
    isAnc s.P i j = true ↔ Anc s.P i j :=
  isAnc_iff hI.wf i j

/-- **C04 for T-HOO.** -/
theorem C04 (cfg : HOOCfg R S) (k : Kind) (domain : Box α) (ds0 : List (Draw α))
    (inputs : List (R × List (Draw α))) (h0 : DrawsOK k domain.length ds0)
    (hin : InputsOK k domain.length inputs) {s : HOO α R S} {H : List (Nat × R)}
    (hrun : run cfg k domain ds0 inputs = .ok (s, H)) :
    Credited cfg s H ∧ H.map (·.2) = inputs.map (·.1) := by
  obtain ⟨hI, hH, hl⟩ := ListAux.of_eq_ok₂ (run_induct cfg k domain (hist_step cfg)
    (fun s0 hst => ⟨nofun, fun i nd hi => by rw [(hst i nd hi).1]; rfl⟩) h0 hin) hrun
  refine ⟨?_, hl⟩
  exact {
    pulled_valid := hH.1
    rewards := fun i hi => Part.stOf_of_nodes
      (Q := fun i st => st.rewards = (H.filter (fun e => isAnc s.P i e.1)).map (·.2)) hH.2 hi
    count := fun i hi => Part.stOf_of_nodes (Q := fun _ st => st.count = st.rewards.length)
      (fun i nd h => (hI.good i nd h).1) hi
    mean := fun i hi => Part.stOf_of_nodes
      (Q := fun _ st => st.count > 0 → st.mean = cfg.meanOf st.rewards st.count)
      (fun i nd h hc => (hI.good i nd h).2 (Nat.ne_of_gt hc)) hi
    root_total := by
      have h0 := hI.wf.length_pos
      have hr := List.getElem?_eq_getElem h0
      rw [Part.stOf_eq hr, (hI.good 0 _ hr).1, hH.2 0 _ hr, List.length_map]
      congr 1
      rw [List.filter_eq_self]
      intro e he
      exact (isAnc_iff hI.wf 0 e.1).2 (anc_root_of_valid hI.wf e.1 (hH.1 e he)) }

/-- Parent pointers never change during the loop (so "ancestor in the final tree" is also
"ancestor at the time of the pull"). -/
theorem parents_stable (cfg : HOOCfg R S) {s : HOO α R S} (hI : Inv cfg s)
    (inputs : List (R × List (Draw α))) (hin : InputsOK s.P.kind (dimn s.P) inputs)
    {s' : HOO α R S} {H : List (Nat × R)} (hrun : runRounds cfg s inputs = .ok (s', H)) :
    ∀ (i : Nat) (nd : Node α (TBSt R S)), s.P.nodes[i]? = some nd →
      ∃ nd', s'.P.nodes[i]? = some nd' ∧ nd'.parent = nd.parent ∧ nd'.depth = nd.depth := by
  exact (ListAux.of_eq_ok₂ (runRounds_induct cfg
    (J := fun t _ => ∀ (i : Nat) (nd : Node α (TBSt R S)), s.P.nodes[i]? = some nd →
      ∃ nd', t.P.nodes[i]? = some nd' ∧ nd'.parent = nd.parent ∧ nd'.depth = nd.depth)
    (fun t t' _ _ _ _ _ _ hJ _ _ _ E i nd hi => by
      obtain ⟨x, x1, x2, x3⟩ := hJ i nd hi
      obtain ⟨y, y1, y2, _, y4, _⟩ := E.old i x x1
      exact ⟨y, y1, y4.trans x2, y2.trans x3⟩)
    (H0 := []) hI (fun i nd hi => ⟨nd, hi, rfl, rfl⟩) hin) hrun).2.1

/-- Every cell on the way from the root to the cell pulled in round `k` holds the reward of
round `k`. -/
theorem ancestors_nonempty (cfg : HOOCfg R S) {s : HOO α R S} {H : List (Nat × R)}
    (hC : Credited cfg s H) {i v : Nat} {r : R} (hm : (v, r) ∈ H)
    (hi : i < s.P.nodes.length) (ha : isAnc s.P i v = true) : r ∈ (s.P.stOf i).rewards := by
  rw [hC.rewards i hi, List.mem_map]
  exact ⟨(v, r), List.mem_filter.2 ⟨hm, ha⟩, rfl⟩

end HOO

/-! ## Non-vacuity: concrete three-round runs (α := Nat, R := Nat, S := Nat) -/

namespace C04Ex

/-- the interval `[0, 8]` -/
def exDom : Box Nat := [⟨0, 8⟩]
def exDraw : Draw Nat := ⟨0, []⟩
def exInputs : List (Nat × List (Draw Nat)) := [(3, [exDraw]), (5, [exDraw]), (2, [exDraw])]

def exHOO : HOOCfg Nat Nat :=
  { inf := 1000, negInf := 0, mean0 := 0, meanOf := fun rs n => rs.sum / n,
    uOf := fun m c d => m + 10 / c + 8 / 2 ^ d, expandOK := fun d => decide (d ≤ 2) }

def exHCT (variance : Bool) : HCTCfg Nat Nat :=
  { variance := variance, inf := 1000, negInf := 0, zero := 0, var0 := 1,
    meanOf := fun rs n => rs.sum / n, varOf := fun rs => rs.length,
    dtHalf := fun t => 100 / t, dtOne := fun t => 100 / t,
    tauH := fun _ h => h, tauNode := fun _ h v => h + v - 1,
    uOf := fun _ d m c _ => m + 10 / c + 8 / 2 ^ d,
    countGE := fun c t => decide (c ≥ t) }

/-- Summary of a run: the history, the arena size, and the reward list of every cell. -/
def summary {St : Type} (P : St → Part Nat (TBSt Nat Nat)) :
    Except Err (St × List (Nat × Nat)) → Option (List (Nat × Nat) × List (List Nat))
  | .ok (s, H) => some (H, (P s).nodes.map (fun nd => nd.st.rewards))
  | .error _ => none

example : DrawsOK .binary exDom.length [exDraw] ∧ InputsOK .binary exDom.length exInputs := by
  decide

/-- T-HOO: the three rewards reach the root, and each pulled cell and its ancestors. -/
example : summary (·.P) (HOO.run exHOO .binary exDom [exDraw] exInputs) =
    some ([(2, 3), (1, 5), (6, 2)], [[3, 5, 2], [5, 2], [3], [], [], [], [2], [], []]) := by
  decide +kernel

/-- HCT: each reward is credited to the pulled cell only. -/
example : summary (·.P) (HCT.run (exHCT false) .binary exDom [exDraw] exInputs) =
    some ([(2, 3), (1, 5), (6, 2)], [[], [5], [3], [], [], [], [2]]) := by
  decide +kernel

/-- VHCT. -/
example : summary (·.P) (HCT.run (exHCT true) .binary exDom [exDraw] exInputs) =
    some ([(2, 3), (1, 5), (6, 2)], [[], [5], [3], [], [], [], [2]]) := by
  decide +kernel

end C04Ex

end PyXAB
