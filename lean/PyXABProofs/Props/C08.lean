/-
  Property C08 — the layer-sweep optimisers SOO, DOO, StoSOO.

  "SOO and DOO evaluate each cell at most once and StoSOO at most k times; they expand only
  leaves that have been evaluated (StoSOO: k times), never evaluate a cell deeper than the depth
  cap (SOO, StoSOO), and a leaf is expanded only while no unevaluated leaf precedes it in the
  sweep.  The expanded leaf is the best of its depth (SOO: highest reward, and at least the
  reward of any shallower leaf expanded in the same sweep; StoSOO: highest b, likewise monotone
  over the sweep; DOO: highest reward + delta(depth) over all leaves, one expansion per pull),
  and the cell handed out is an unevaluated leaf (SOO, DOO: the first in top-down order) or, for
  StoSOO, a max-b leaf of its depth evaluated fewer than k times."

  Setting.  `PyXABModel/Model/Sweep.lean` models `SOO`, `DOO`, `StoSOO` on the arena `Part` of
  C03; the numeric formulas are parameters (`negInf`, `DOOCfg`, `StoCfg`), so everything below
  holds for all of them; scores live in an arbitrary linear order `S`.  Hypotheses: `negInf` is
  a bottom element, `cfg.inf` a top element (only where stated), random draws are well-formed
  (`Tree.DrawOKLen`), at least one per `pull` for the totality theorems.

  `Spec/SweepSpec.lean` defines: the instrumented loops `pullT` (they also return the expansion
  events `Ev = (layer h, expanded id, its score, the partition BEFORE the expansion)`; `pull_erasure`
  says that forgetting the events gives the model's `pull`), the invariants `Inv` / `Ready`, the
  per-event facts `EvOK`, the growth relation `Ext`, `IsLastMax` ("the last element of maximal
  score of a list"), `firstUnvisited` ("first unevaluated leaf in top-down order"), the documented
  loop `round` / `runRounds` / `run` with its history `H` of (handed-out cell, reward).
-/
import PyXABProofs.Lemmas.SW_SOORun
import PyXABProofs.Lemmas.SW_DOORun
import PyXABProofs.Lemmas.SW_StoHist
import Mathlib.Data.Int.Order.Basic
import Mathlib.Order.WithBot
import Mathlib.Order.Fin.Basic

set_option linter.unusedSectionVars false

namespace PyXAB
open Tree TBA SW

namespace SOO
variable {α S : Type} [Add α] [Sub α] [Mul α] [Div α] [OfNat α 2] [NatCast α]
variable [LinearOrder S] [Inhabited S]

/-- **Erasure**: the instrumented `pullT` computes `pull` (plus the expansion events). -/
theorem pull_erasure (negInf : S) (s : SOO α S) (time : Nat) (ds : List (Draw α)) :
    pull negInf s time ds = (pullT negInf s time ds).map (fun x => (x.1, x.2.1, x.2.2.1)) :=
  pull_eq negInf s time ds

/-- so every successful `pull` has a list of expansion events, and conversely -/
theorem pull_ok_iff_pullT (negInf : S) (s : SOO α S) (time : Nat) (ds : List (Draw α))
    (s' : SOO α S) (ds' : List (Draw α)) (v : Nat) :
    pull negInf s time ds = .ok (s', ds', v) ↔
      ∃ trs, pullT negInf s time ds = .ok (s', ds', v, trs) :=
  pull_ok_iff negInf s time ds s' ds' v

theorem init_Inv (negInf : S) (k : Kind) (domain : Box α) (hmax : Nat) :
    Inv negInf (init negInf k domain hmax) :=
  (init_inv negInf k domain hmax).1

/-- **Totality of `pull`**: below the depth cap, with one well-formed draw, `pull` returns: the
explicit fuel of the two loops is never exhausted, no index error, and the tree gets at most
one level deeper. -/
theorem pull_total (negInf : S) (hbot : ∀ x, negInf ≤ x) {s : SOO α S} (time : Nat)
    {ds : List (Draw α)} (hI : Inv negInf s) (hcap : s.P.depth < s.hmax)
    (hlen : 1 ≤ ds.length) (hds : ∀ d ∈ ds, DrawOKLen s.P.kind (dimn s.P) d) :
    ∃ s' ds' v, pull negInf s time ds = .ok (s', ds', v) ∧ Inv negInf s' ∧
      s'.P.depth ≤ s.P.depth + 1 := by
  obtain ⟨s', ds', v, trs, e, hd⟩ := pullT_total negInf hbot time hI hcap hlen hds
  exact ⟨s', ds', v, (pull_ok_iff_pullT negInf s time ds s' ds' v).2 ⟨trs, e⟩,
    (pullT_spec negInf hbot hI hds e).2.1, hd⟩

/-- `receive` after a `pull` (more generally, whenever a cell has been handed out) returns, and
keeps the invariant. -/
theorem receive_total (negInf : S) {s : SOO α S} (hI : Inv negInf s) {v : Nat}
    (hc : s.curr = some v) (r : S) :
    ∃ s', receive s r = .ok s' ∧ Inv negInf s' := by
  have h := hI.pinv.receive hI.curr hc r
  exact ⟨_, receive_eq hc r, h.1, h.2⟩

/-- **The documented loop is total** as long as the number of rounds does not exceed the depth
cap: `init`, then `T ≤ hmax` rounds `pull; receive`, never fails. -/
theorem loop_total (negInf : S) (hbot : ∀ x, negInf ≤ x) (k : Kind) (domain : Box α) (hmax : Nat)
    (inputs : List (Input α S)) (hin : InputsOK k domain.length inputs)
    (hT : inputs.length ≤ hmax) :
    ∃ s H, run negInf k domain hmax inputs = .ok (s, H) ∧ Inv negInf s ∧
      H.map (·.2) = inputs.map (·.2.2) ∧ s.P.depth ≤ inputs.length := by
  obtain ⟨hI, hk, hd, h0, hm, _⟩ := init_inv negInf k domain hmax
  obtain ⟨s, H, e, a2, a3, hdep⟩ := runRounds_total negInf hbot inputs _ hI
    (by rw [hk, hd]; exact hin) (by rw [h0, hm]; omega)
  exact ⟨s, H, e, a2, a3, by rw [h0] at hdep; omega⟩

/-- The cell `v` returned by `pull`: `s'.P` is a tree `Pb` (an extension of `s.P` in which no
payload of an old cell changed and new cells carry the initial payload) with `v` marked;
`v` is the FIRST unevaluated leaf of `Pb` in top-down order (`Pb` and `s'.P` have the same
layers and the same leaves: they differ in the flag of `v` only); it is a leaf of `s'.P` of depth
`≤ hmax`, now marked; it was not evaluated before (in `s.P`, if it existed there), and its
stored reward is still `negInf`. -/
theorem pull_handed_out (negInf : S) (hbot : ∀ x, negInf ≤ x) {s s' : SOO α S} {time : Nat}
    {ds ds' : List (Draw α)} {v : Nat} (hI : Inv negInf s)
    (hds : ∀ d ∈ ds, DrawOKLen s.P.kind (dimn s.P) d)
    (hrun : pull negInf s time ds = .ok (s', ds', v)) :
    ∃ Pb, s'.P = mark Pb v ∧ s'.P.layers = Pb.layers ∧ Ext (· = ·) (st0 negInf) s.P Pb ∧
      firstUnvisited Pb = some v ∧
      (∃ pre post, Pb.layers.flatten = pre ++ v :: post ∧
        ∀ w ∈ pre, unvisitedLeaf Pb w = false) ∧
      (∃ nd, Pb.nodes[v]? = some nd ∧ nd.children = none ∧ nd.st.visited = false ∧
        nd.st.reward = negInf ∧ nd.depth ≤ s.hmax ∧
        s'.P.nodes[v]? = some { nd with st := { nd.st with visited := true } }) ∧
      (∀ nd, s.P.nodes[v]? = some nd → nd.st.visited = false) := by
  obtain ⟨trs, hT⟩ := (pull_ok_iff_pullT negInf s time ds s' ds' v).1 hrun
  obtain ⟨⟨Pb, hp⟩, _⟩ := pullT_spec negInf hbot hI hds hT
  obtain ⟨nd, n1, n2, n3, n4⟩ := hp.node
  obtain ⟨a, b, c, d, e⟩ := handed_out (fun _ _ h => by rw [h]) hp.ext hp.pinv hp.first n1 n3
  rw [hp.marked]
  exact ⟨Pb, rfl, a, hp.ext, hp.first, b, ⟨nd, n1, n2, n3, c, n4, d⟩, e⟩

/-- Every expansion event of a `pull` (`trs` = one list of events per sweep): the facts `EvOK`
hold in the tree `ev.before` just before the expansion — the target is an evaluated leaf of
layer `ev.h ≤ min depth hmax`, the LAST leaf of maximal stored reward of that layer, and every
leaf of the layers `≤ ev.h` has been evaluated; along one sweep the layers strictly increase
and the scores do not decrease; each expansion consumes one draw. -/
theorem pull_expansions (negInf : S) (hbot : ∀ x, negInf ≤ x) {s s' : SOO α S} {time : Nat}
    {ds ds' : List (Draw α)} {v : Nat} {trs : List (List (Ev α (SwSt S) S))}
    (hI : Inv negInf s) (hds : ∀ d ∈ ds, DrawOKLen s.P.kind (dimn s.P) d)
    (hrun : pullT negInf s time ds = .ok (s', ds', v, trs)) :
    (∀ tr ∈ trs, TraceMono tr ∧
      ∀ ev ∈ tr, EvOK negInf s.hmax ev ∧ Ext (· = ·) (st0 negInf) s.P ev.before) ∧
    trs.flatten.length ≤ ds.length ∧ ds' = ds.drop trs.flatten.length := by
  obtain ⟨⟨Pb, hp⟩, _⟩ := pullT_spec negInf hbot hI hds hrun
  exact ⟨hp.evs, hp.len, hp.drop⟩

/-- `receive_reward(r)` stores `r` in the handed-out cell and changes nothing else. -/
theorem receive_frame {s s' : SOO α S} {r : S} (hrun : receive s r = .ok s') :
    ∃ c, s.curr = some c ∧ s'.P = s.P.modifySt c (fun st => { st with reward := r }) ∧
      s'.iteration = s.iteration ∧ s'.hmax = s.hmax ∧ s'.curr = s.curr ∧
      s'.P.layers = s.P.layers ∧ s'.P.depth = s.P.depth ∧ s'.P.kind = s.P.kind ∧
      (∀ i, i ≠ c → s'.P.nodes[i]? = s.P.nodes[i]?) ∧
      (∀ nd, s.P.nodes[c]? = some nd →
        s'.P.nodes[c]? = some { nd with st := { nd.st with reward := r } }) := by
  unfold receive at hrun
  cases hc : s.curr with
  | none => rw [hc] at hrun; cases hrun
  | some c =>
    rw [hc] at hrun
    cases hrun
    exact ⟨c, rfl, rfl, rfl, rfl, rfl, rfl, rfl, rfl, setReward_frame s.P c r⟩

/-- From any invariant state whose evaluated cells are described by the history `H0`: after
further rounds the evaluated cells are exactly the cells of the history, each cell is handed out
at most once, and the stored reward of an evaluated cell is the reward it received. -/
theorem eval_once_from (negInf : S) (hbot : ∀ x, negInf ≤ x) (inputs : List (Input α S))
    {s s' : SOO α S} {H0 H : List (Nat × S)} (hI : Inv negInf s) (hH : HistOK s.P H0)
    (hds : ∀ x ∈ inputs, ∀ d ∈ x.2.1, DrawOKLen s.P.kind (dimn s.P) d)
    (hrun : runRounds negInf s inputs = .ok (s', H)) :
    ((H0 ++ H).map (·.1)).Nodup ∧ HistOK s'.P (H0 ++ H) ∧ Inv negInf s' := by
  obtain ⟨a1, a2, _⟩ := runRounds_hist negInf hbot inputs s H0 s' H hI hds hH hrun
  exact ⟨a1.nodup, a1, a2⟩

/-- In particular over a whole run from `init`. -/
theorem eval_once (negInf : S) (hbot : ∀ x, negInf ≤ x) (k : Kind) (domain : Box α) (hmax : Nat)
    (inputs : List (Input α S)) {s : SOO α S} {H : List (Nat × S)}
    (hds : ∀ x ∈ inputs, ∀ d ∈ x.2.1, DrawOKLen k domain.length d)
    (hrun : run negInf k domain hmax inputs = .ok (s, H)) :
    (H.map (·.1)).Nodup ∧ HistOK s.P H ∧ Inv negInf s := by
  obtain ⟨hI, hk, hd, _, _, hH⟩ := init_inv negInf k domain hmax
  exact eval_once_from negInf hbot inputs hI hH (by rw [hk, hd]; exact hds) hrun

end SOO

namespace DOO
variable {α S : Type} [Add α] [Sub α] [Mul α] [Div α] [OfNat α 2] [NatCast α]
variable [LinearOrder S] [Inhabited S]

/-- **Erasure**: the instrumented `pullT` computes `pull` (plus the expansion events). -/
theorem pull_erasure (cfg : DOOCfg α S) (s : DOO α S) (time : Nat) (ds : List (Draw α)) :
    pull cfg s time ds = (pullT cfg s time ds).map (fun x => (x.1, x.2.1, x.2.2.1)) :=
  pull_eq cfg s time ds

theorem pull_ok_iff_pullT (cfg : DOOCfg α S) (s : DOO α S) (time : Nat) (ds : List (Draw α))
    (s' : DOO α S) (ds' : List (Draw α)) (v : Nat) :
    pull cfg s time ds = .ok (s', ds', v) ↔ ∃ tr, pullT cfg s time ds = .ok (s', ds', v, tr) :=
  pull_ok_iff cfg s time ds s' ds' v

theorem init_Inv (cfg : DOOCfg α S) (k : Kind) (domain : Box α) : Inv cfg (init cfg k domain) :=
  (init_inv cfg k domain).1

theorem pull_Inv (cfg : DOOCfg α S) (hbot : ∀ x, cfg.negInf ≤ x) {s s' : DOO α S} {time : Nat}
    {ds ds' : List (Draw α)} {v : Nat} (hI : Inv cfg s)
    (hds : ∀ d ∈ ds, DrawOKLen s.P.kind (dimn s.P) d)
    (hrun : pull cfg s time ds = .ok (s', ds', v)) :
    Inv cfg s' ∧ s'.curr = some v ∧ s'.iteration = time ∧
      s'.P.kind = s.P.kind ∧ dimn s'.P = dimn s.P := by
  obtain ⟨tr, hT⟩ := (pull_ok_iff_pullT cfg s time ds s' ds' v).1 hrun
  exact (pullT_spec cfg hbot hI hds hT).2

/-- **Totality of `pull`** (no depth cap): given that `delta` never raises (`DeltaOK`) and one
well-formed draw, `pull` returns — the explicit fuel is never exhausted, `max_node` is never
`None`, no index error — and the tree gets at most one level deeper. -/
theorem pull_total (cfg : DOOCfg α S) (hbot : ∀ x, cfg.negInf ≤ x) (hδ : DeltaOK cfg)
    {s : DOO α S} (time : Nat) {ds : List (Draw α)} (hI : Inv cfg s) (hlen : 1 ≤ ds.length)
    (hds : ∀ d ∈ ds, DrawOKLen s.P.kind (dimn s.P) d) :
    ∃ s' ds' v, pull cfg s time ds = .ok (s', ds', v) ∧ Inv cfg s' ∧
      s'.P.depth ≤ s.P.depth + 1 := by
  obtain ⟨s', ds', v, tr, e, hd⟩ := pullT_total cfg hbot hδ time hI hlen hds
  exact ⟨s', ds', v, (pull_ok_iff_pullT cfg s time ds s' ds' v).2 ⟨tr, e⟩,
    (pullT_spec cfg hbot hI hds e).2.1, hd⟩

theorem receive_total (cfg : DOOCfg α S) {s : DOO α S} (hI : Inv cfg s) {v : Nat}
    (hc : s.curr = some v) (r : S) :
    ∃ s', receive s r = .ok s' ∧ Inv cfg s' := by
  have h := hI.pinv.receive hI.curr hc r
  exact ⟨_, receive_eq hc r, h.1, h.2⟩

/-- **The documented loop of DOO is total**, for any number of rounds. -/
theorem loop_total (cfg : DOOCfg α S) (hbot : ∀ x, cfg.negInf ≤ x) (hδ : DeltaOK cfg) (k : Kind)
    (domain : Box α) (inputs : List (Input α S)) (hin : InputsOK k domain.length inputs) :
    ∃ s H, run cfg k domain inputs = .ok (s, H) ∧ Inv cfg s ∧
      H.map (·.2) = inputs.map (·.2.2) ∧ s.P.depth ≤ inputs.length := by
  obtain ⟨hI, hk, hd, h0, _⟩ := init_inv cfg k domain
  obtain ⟨s, H, e, a2, a3, hdep⟩ := runRounds_total cfg hbot hδ inputs _ hI
    (by rw [hk, hd]; exact hin)
  exact ⟨s, H, e, a2, a3, by rw [h0] at hdep; omega⟩

/-- The cell `v` returned by `pull`: `s'.P` is a tree `Pb` (an extension of `s.P` in which the
`visited` flag and the stored reward of no old cell changed) with `v` marked; `v` is the FIRST
unevaluated leaf of `Pb` in top-down order; it was not evaluated before. -/
theorem pull_handed_out (cfg : DOOCfg α S) (hbot : ∀ x, cfg.negInf ≤ x) {s s' : DOO α S}
    {time : Nat} {ds ds' : List (Draw α)} {v : Nat} (hI : Inv cfg s)
    (hds : ∀ d ∈ ds, DrawOKLen s.P.kind (dimn s.P) d)
    (hrun : pull cfg s time ds = .ok (s', ds', v)) :
    ∃ Pb, s'.P = mark Pb v ∧ s'.P.layers = Pb.layers ∧ Ext SameVR (st0 cfg) s.P Pb ∧
      firstUnvisited Pb = some v ∧
      (∃ pre post, Pb.layers.flatten = pre ++ v :: post ∧
        ∀ w ∈ pre, unvisitedLeaf Pb w = false) ∧
      (∃ nd, Pb.nodes[v]? = some nd ∧ nd.children = none ∧ nd.st.visited = false ∧
        nd.st.reward = cfg.reward0 ∧
        s'.P.nodes[v]? = some { nd with st := { nd.st with visited := true } }) ∧
      (∀ nd, s.P.nodes[v]? = some nd → nd.st.visited = false) := by
  obtain ⟨tr, hT⟩ := (pull_ok_iff_pullT cfg s time ds s' ds' v).1 hrun
  obtain ⟨⟨Pb, hp⟩, _⟩ := pullT_spec cfg hbot hI hds hT
  obtain ⟨nd, n1, n2, n3⟩ := hp.node
  obtain ⟨a, b, c, d, e⟩ := handed_out (fun _ _ h => h.1) hp.ext hp.pinv hp.first n1 n3
  rw [hp.marked]
  exact ⟨Pb, rfl, a, hp.ext, hp.first, b, ⟨nd, n1, n2, n3, c, d⟩, e⟩

/-- A `pull` of DOO performs at most one expansion; it happens only when EVERY leaf of the tree
has been evaluated (`EvOK.low`, equivalently `firstUnvisited ev.before = none`), and the expanded
cell is the LAST leaf, in top-down order, of maximal `b_value = reward + delta(depth)` over all
leaves (`EvOK.best`, `EvOK.deltas`). -/
theorem pull_expansions (cfg : DOOCfg α S) (hbot : ∀ x, cfg.negInf ≤ x) {s s' : DOO α S}
    {time : Nat} {ds ds' : List (Draw α)} {v : Nat} {tr : List (Ev α (SwSt S) S)}
    (hI : Inv cfg s) (hds : ∀ d ∈ ds, DrawOKLen s.P.kind (dimn s.P) d)
    (hrun : pullT cfg s time ds = .ok (s', ds', v, tr)) :
    tr.length ≤ 1 ∧ tr.length ≤ ds.length ∧ ds' = ds.drop tr.length ∧
    ∀ ev ∈ tr, EvOK cfg ev ∧ firstUnvisited ev.before = none ∧
      Ext SameVR (st0 cfg) s.P ev.before := by
  obtain ⟨⟨Pb, hp⟩, _⟩ := pullT_spec cfg hbot hI hds hrun
  refine ⟨hp.le1, hp.len, hp.drop, fun ev hev => ?_⟩
  obtain ⟨a, b⟩ := hp.evs ev hev
  exact ⟨a, firstUnvisited_none a.pinv.wf a.low, b⟩

/-- If `delta` does not read the stored `b_value`s (`DeltaStable`), the `b_value` of every leaf
at the moment of an expansion is `bOf reward (delta(depth))` with `delta` computed on the tree
`ev.before` itself. -/
theorem expansion_scores (cfg : DOOCfg α S) (hst : DeltaStable cfg) {ev : Ev α (SwSt S) S}
    (hev : EvOK cfg ev) (w : Nat) (nd : Node α (SwSt S)) (hw : ev.before.nodes[w]? = some nd)
    (hleaf : nd.children = none) :
    ∃ δ, cfg.delta ev.before nd.depth = .ok δ ∧ nd.st.b = cfg.bOf nd.st.reward δ := by
  obtain ⟨Ph, δ, a1, a2, a3⟩ := hev.deltas nd.depth (hev.pinv.wf.depth_le w nd hw)
  exact ⟨δ, by rw [hst Ph ev.before nd.depth a1]; exact a2, a3 w nd hw hleaf rfl⟩

theorem receive_frame {s s' : DOO α S} {r : S} (hrun : receive s r = .ok s') :
    ∃ c, s.curr = some c ∧ s'.P = s.P.modifySt c (fun st => { st with reward := r }) ∧
      s'.iteration = s.iteration ∧ s'.curr = s.curr ∧
      s'.P.layers = s.P.layers ∧ s'.P.depth = s.P.depth ∧ s'.P.kind = s.P.kind ∧
      (∀ i, i ≠ c → s'.P.nodes[i]? = s.P.nodes[i]?) ∧
      (∀ nd, s.P.nodes[c]? = some nd →
        s'.P.nodes[c]? = some { nd with st := { nd.st with reward := r } }) := by
  unfold receive at hrun
  cases hc : s.curr with
  | none => rw [hc] at hrun; cases hrun
  | some c =>
    rw [hc] at hrun
    cases hrun
    exact ⟨c, rfl, rfl, rfl, rfl, rfl, rfl, rfl, setReward_frame s.P c r⟩

theorem eval_once_from (cfg : DOOCfg α S) (hbot : ∀ x, cfg.negInf ≤ x)
    (inputs : List (Input α S))
    {s s' : DOO α S} {H0 H : List (Nat × S)} (hI : Inv cfg s) (hH : HistOK s.P H0)
    (hds : ∀ x ∈ inputs, ∀ d ∈ x.2.1, DrawOKLen s.P.kind (dimn s.P) d)
    (hrun : runRounds cfg s inputs = .ok (s', H)) :
    ((H0 ++ H).map (·.1)).Nodup ∧ HistOK s'.P (H0 ++ H) ∧ Inv cfg s' := by
  obtain ⟨a1, a2, _⟩ := runRounds_hist cfg hbot inputs s H0 s' H hI hds hH hrun
  exact ⟨a1.nodup, a1, a2⟩

theorem eval_once (cfg : DOOCfg α S) (hbot : ∀ x, cfg.negInf ≤ x) (k : Kind) (domain : Box α)
    (inputs : List (Input α S)) {s : DOO α S} {H : List (Nat × S)}
    (hds : ∀ x ∈ inputs, ∀ d ∈ x.2.1, DrawOKLen k domain.length d)
    (hrun : run cfg k domain inputs = .ok (s, H)) :
    (H.map (·.1)).Nodup ∧ HistOK s.P H ∧ Inv cfg s := by
  obtain ⟨hI, hk, hd, _, hH⟩ := init_inv cfg k domain
  exact eval_once_from cfg hbot inputs hI hH (by rw [hk, hd]; exact hds) hrun

end DOO

namespace StoSOO
variable {α R S : Type} [Add α] [Sub α] [Mul α] [Div α] [OfNat α 2] [NatCast α]
variable [LinearOrder S] [Inhabited S] [Inhabited R]

/-- **Erasure**: the instrumented `pullT` computes `pull` (plus the expansion events). -/
theorem pull_erasure (cfg : StoCfg S R) (s : StoSOO α R S) (time : Nat) (ds : List (Draw α)) :
    pull cfg s time ds = (pullT cfg s time ds).map (fun x => (x.1, x.2.1, x.2.2.1)) :=
  pull_eq cfg s time ds

theorem pull_ok_iff_pullT (cfg : StoCfg S R) (s : StoSOO α R S) (time : Nat)
    (ds : List (Draw α)) (s' : StoSOO α R S) (ds' : List (Draw α)) (v : Nat) :
    pull cfg s time ds = .ok (s', ds', v) ↔ ∃ tr, pullT cfg s time ds = .ok (s', ds', v, tr) :=
  pull_ok_iff cfg s time ds s' ds' v

theorem init_Inv (cfg : StoCfg S R) (k : Kind) (domain : Box α) : Inv cfg (init cfg k domain) :=
  (init_inv cfg k domain).1

/-- `pull` leads from the invariant `Inv` to `Ready` (the invariant between `pull` and
`receive`: `Inv` plus the description `Handed` of the cell addressed by `s'.sel`). -/
theorem pull_Ready (cfg : StoCfg S R) {s s' : StoSOO α R S} {time : Nat}
    {ds ds' : List (Draw α)} {v : Nat} (hI : Inv cfg s)
    (hds : ∀ d ∈ ds, DrawOKLen s.P.kind (dimn s.P) d)
    (hrun : pull cfg s time ds = .ok (s', ds', v)) :
    Ready cfg s' v ∧ s'.iteration = time ∧ s'.P.kind = s.P.kind ∧ dimn s'.P = dimn s.P ∧
      Ext (Refr cfg) (st0 cfg) s.P s'.P := by
  obtain ⟨tr, hT⟩ := (pull_ok_iff_pullT cfg s time ds s' ds' v).1 hrun
  obtain ⟨⟨h, j, _, hp⟩, h1, h2⟩ := pullT_spec cfg hI hds hT
  exact ⟨h1, h2, hp.ext.kind, hp.ext.dimn, hp.ext⟩

/-- **Totality of `pull`**: if the depth cap is not reached (`depth + 1 ≤ h_max`), the budget is
not exhausted (`time ≤ n`), `k ≥ 1` (`countLT 0`) and one well-formed draw is supplied, `pull`
returns: the fuel is never exhausted, `node_list[h]` is never indexed out of range, `pull`
does not fall off its loop; the tree gets at most one level deeper. -/
theorem pull_total (cfg : StoCfg S R) (hbot : ∀ x, cfg.negInf ≤ x) (htop : ∀ x, x ≤ cfg.inf)
    (hk0 : cfg.countLT 0 = true) {s : StoSOO α R S} {time : Nat} {ds : List (Draw α)}
    (hI : Inv cfg s) (hcap : s.P.depth + 1 ≤ cfg.hmax) (ht : time ≤ cfg.n)
    (hlen : 1 ≤ ds.length) (hds : ∀ d ∈ ds, DrawOKLen s.P.kind (dimn s.P) d) :
    ∃ s' ds' v, pull cfg s time ds = .ok (s', ds', v) ∧ Ready cfg s' v ∧
      s'.P.depth ≤ s.P.depth + 1 := by
  obtain ⟨s', ds', v, tr, e, hd⟩ := pullT_total cfg hbot htop hk0 hI hcap ht hlen hds
  have hp := (pull_ok_iff_pullT cfg s time ds s' ds' v).2 ⟨tr, e⟩
  exact ⟨s', ds', v, hp, (pull_Ready cfg hI hds hp).1, hd⟩

/-- Frame of `receive`: skeleton and every other cell unchanged. -/
theorem receive_only_handed_out (cfg : StoCfg S R) {s s' : StoSOO α R S} {v : Nat} {r : R}
    (hR : Ready cfg s v) (hrun : receive cfg s r = .ok s') :
    s'.P.kind = s.P.kind ∧ s'.P.layers = s.P.layers ∧ s'.P.depth = s.P.depth ∧
      s'.P.nodes.length = s.P.nodes.length ∧
      (∀ i, i ≠ v → s'.P.nodes[i]? = s.P.nodes[i]?) ∧
      ∃ nd nd', s.P.nodes[v]? = some nd ∧ s'.P.nodes[v]? = some nd' ∧
        nd'.depth = nd.depth ∧ nd'.index = nd.index ∧ nd'.parent = nd.parent ∧
        nd'.children = nd.children ∧ nd'.box = nd.box ∧
        nd'.st.count = nd.st.count + 1 ∧ nd'.st.rewards = nd.st.rewards ++ [r] ∧
        nd'.st.mean = cfg.meanOf (nd.st.rewards ++ [r]) (nd.st.count + 1) := by
  obtain ⟨s2, e, _, hP, _⟩ := receive_total cfg r hR
  rw [e] at hrun
  cases hrun
  obtain ⟨_, _, _, _, _, _, _, _, _, nd, hv, _⟩ := hR
  have hr := PRel_modifySt s.P v (recvSt cfg r)
  rw [show s'.P = s.P.modifySt v (recvSt cfg r) from hP]
  refine ⟨hr.kind, hr.layers, hr.depth, hr.len, fun i hi => ?_, nd,
    { nd with st := recvSt cfg r nd.st }, hv, ?_, rfl, rfl, rfl, rfl, rfl, rfl, rfl, rfl⟩
  · rw [Part.getElem?_modifySt]
    cases s.P.nodes[i]? with
    | none => rfl
    | some x => rw [Option.map_some, if_neg (Ne.symm hi)]
  · rw [Part.getElem?_modifySt, hv, Option.map_some, if_pos rfl]

/-- **The documented loop is total** for `T ≤ h_max` rounds with `time ≤ n`. -/
theorem loop_total (cfg : StoCfg S R) (hbot : ∀ x, cfg.negInf ≤ x) (htop : ∀ x, x ≤ cfg.inf)
    (hk0 : cfg.countLT 0 = true) (k : Kind) (domain : Box α) (inputs : List (Input α R))
    (hin : InputsOK k domain.length inputs) (hn : ∀ x ∈ inputs, x.1 ≤ cfg.n)
    (hT : inputs.length ≤ cfg.hmax) :
    ∃ s H, run cfg k domain inputs = .ok (s, H) ∧ Inv cfg s ∧
      H.map (·.2) = inputs.map (·.2.2) ∧ s.P.depth ≤ inputs.length := by
  obtain ⟨hI, hk, hd, h0⟩ := init_inv (α := α) cfg k domain
  obtain ⟨s, H, e, a, b, c, _⟩ := runRounds_ok cfg hbot htop hk0 inputs (init cfg k domain) hI
    (by rw [hk, hd]; exact hin) hn (by rw [h0]; omega)
  exact ⟨s, H, e, a, b, by rw [h0] at c; omega⟩

/-- The cell `v` returned by `pull` is `node_list[h][j]` for the stored `sel = (h, j)`; it is a
leaf of depth `h ≤ h_max` evaluated fewer than `k` times; every leaf of its layer carries a
refreshed `b` (`st = computeB st`), and `v` is the LAST leaf of maximal `b` of the layer. -/
theorem pull_handed_out (cfg : StoCfg S R) {s s' : StoSOO α R S} {time : Nat}
    {ds ds' : List (Draw α)} {v : Nat} (hI : Inv cfg s)
    (hds : ∀ d ∈ ds, DrawOKLen s.P.kind (dimn s.P) d)
    (hrun : pull cfg s time ds = .ok (s', ds', v)) :
    ∃ h j l nd, s'.sel = some (h, j) ∧ h ≤ cfg.hmax ∧ s'.P.layers[h]? = some l ∧
      l[j]? = some v ∧ s'.P.nodes[v]? = some nd ∧ nd.children = none ∧ nd.depth = h ∧
      cfg.countLT nd.st.count = true ∧
      (∀ w ∈ l, ∀ nw, s'.P.nodes[w]? = some nw → nw.children = none →
        nw.st = computeB cfg nw.st) ∧
      IsLastMax (leafScore s'.P (·.b)) l v nd.st.b := by
  obtain ⟨⟨_, h, j, hsel, hle, l, a1, a2, a3, nd, b1, b2, b3, b4, b5⟩, _⟩ :=
    pull_Ready cfg hI hds hrun
  exact ⟨h, j, l, nd, hsel, hle, a1, a2, b1, b2, b3, b4, a3, b5⟩

/-- Every expansion event of a `pull`: in the tree `ev.before` the target is a leaf of layer
`ev.h ≤ min depth h_max` which has been evaluated `k` times (`countLT count = false`), the LAST
leaf of maximal refreshed `b` of its layer; along the sweep the layers strictly increase and the
`b`-values do not decrease; each expansion consumes one draw. -/
theorem pull_expansions (cfg : StoCfg S R) {s s' : StoSOO α R S} {time : Nat}
    {ds ds' : List (Draw α)} {v : Nat} {tr : List (Ev α (TBSt R S) S)}
    (hI : Inv cfg s) (hds : ∀ d ∈ ds, DrawOKLen s.P.kind (dimn s.P) d)
    (hrun : pullT cfg s time ds = .ok (s', ds', v, tr)) :
    TraceMono tr ∧
    (∀ ev ∈ tr, EvOK cfg ev ∧ cfg.negInf ≤ ev.score ∧ Ext (Refr cfg) (st0 cfg) s.P ev.before) ∧
    tr.length ≤ ds.length ∧ ds' = ds.drop tr.length := by
  obtain ⟨⟨h, j, _, hp⟩, _⟩ := pullT_spec cfg hI hds hrun
  exact ⟨hp.mono, fun ev hev => ⟨(hp.evs ev hev).1, (hp.evs ev hev).2.2.1, (hp.evs ev hev).2.2.2⟩,
    hp.len, hp.drop⟩

/-- **StoSOO hands out (evaluates) every cell at most `k` times** over a whole run, for the
code's test `visited_times < k` with `k ≥ 1`. -/
theorem handed_out_at_most_k (cfg : StoCfg S R) (kk : Nat)
    (hk : cfg.countLT = fun c => decide (c < kk)) (h1 : 1 ≤ kk) (k : Kind) (domain : Box α)
    (inputs : List (Input α R)) {s : StoSOO α R S} {H : List (Nat × R)}
    (hds : ∀ x ∈ inputs, ∀ d ∈ x.2.1, DrawOKLen k domain.length d)
    (hrun : run cfg k domain inputs = .ok (s, H)) (i : Nat) :
    (H.filter (fun e => decide (e.1 = i))).length ≤ kk := by
  -- the stored rewards of a cell are the rewards of the rounds which handed it out
  obtain ⟨hI, hk', hd, _⟩ := init_inv cfg k domain
  obtain ⟨hH, a⟩ := runRounds_hist cfg inputs _ s [] H hI (by rw [hk', hd]; exact hds)
    (HistOK.init cfg k domain) hrun
  rw [List.nil_append] at hH
  by_cases hlt : i < s.P.nodes.length
  · obtain ⟨nd, hnd⟩ : ∃ nd, s.P.nodes[i]? = some nd := ⟨_, List.getElem?_eq_getElem hlt⟩
    have hc : nd.st.count = (H.filter (fun e => decide (e.1 = i))).length := by
      rw [a.count i nd hnd, hH.rewards i nd hnd, List.length_map]
    rw [← hc]
    -- the evaluation which brought the count to `count` was made while `count - 1 < k`
    by_cases h0 : nd.st.count > 0
    · have := a.atMostK i nd hnd h0
      rw [hk] at this
      simp only [decide_eq_true_eq] at this
      omega
    · omega
  · have hnil : H.filter (fun e => decide (e.1 = i)) = [] := by
      rw [List.filter_eq_nil_iff]
      intro e he
      have := hH.valid e he
      simp only [decide_eq_true_eq]; omega
    rw [hnil]; exact Nat.zero_le _

end StoSOO

/-! ## Non-vacuity: concrete runs (`α := Nat`; scores `WithBot ℤ` for SOO / DOO, `Fin 100` for
StoSOO, so that bottom / top elements exist) -/

namespace Ex08

/-- the square `[0,8] × [0,8]` -/
def dom2 : Box Nat := [⟨0, 8⟩, ⟨0, 8⟩]
def dr (dim : Nat) : Draw Nat := ⟨dim, []⟩

abbrev Sc := WithBot Int
def sc (i : Int) : Sc := (i : WithBot Int)
theorem botLe : ∀ x : Sc, (⊥ : Sc) ≤ x := fun _ => bot_le

/-- the exception raised, if any -/
def errOf {β : Type} : Except Err β → Option Err
  | .error e => some e
  | .ok _ => none

theorem eq_error_of_errOf {β : Type} {x : Except Err β} {e : Err} (h : errOf x = some e) :
    x = .error e := by
  cases x with
  | error e' => simp only [errOf, Option.some.injEq] at h; rw [h]
  | ok _ => simp [errOf] at h

def inSOO : List (Input Nat Sc) :=
  [(1, [dr 0], sc 5), (2, [dr 1], sc (-3)), (3, [dr 0], sc 7), (4, [dr 1], sc 2)]

/-- the state after the first `n` rounds -/
def stSOO (hmax n : Nat) : SOO Nat Sc :=
  match SOO.run ⊥ .binary dom2 hmax (inSOO.take n) with
  | .ok x => x.1
  | .error _ => SOO.init ⊥ .binary dom2 hmax

example : InputsOK .binary dom2.length inSOO := by decide

/-- the history of four rounds: the root, its two children, then a grandchild -/
example : (SOO.run ⊥ .binary dom2 10 inSOO).toOption.map (·.2) =
    some [(0, sc 5), (1, sc (-3)), (2, sc 7), (3, sc 2)] := by decide

example : (stSOO 10 4).P.layers = [[0], [1, 2], [3, 4]] := by decide

/-- `loop_total` applies -/
example : ∃ s H, SOO.run ⊥ .binary dom2 10 inSOO = .ok (s, H) ∧ SOO.Inv ⊥ s ∧
    H.map (·.2) = inSOO.map (·.2.2) ∧ s.P.depth ≤ inSOO.length :=
  SOO.loop_total ⊥ botLe .binary dom2 10 inSOO (by decide) (by decide)

/-- the fifth `pull`: layer 1 has no unevaluated leaf, its only leaf `1` (reward `-3`) is
expanded (one event), and the cell handed out is `4` — the first unevaluated leaf in top-down
order, which is NOT a child of the cell just expanded. -/
example : (SOO.pullT ⊥ (stSOO 10 4) 5 [dr 0]).toOption.map (·.2.2.1) = some 4 ∧
    (SOO.pullT ⊥ (stSOO 10 4) 5 [dr 0]).toOption.map
      (fun x => x.2.2.2.flatten.map (fun ev => (ev.h, ev.id, ev.score))) =
    some [(1, 1, sc (-3))] := by decide

/-- the hypotheses of `pull_total` / `pull_handed_out` hold in that state -/
example : (stSOO 10 4).P.depth < (stSOO 10 4).hmax ∧
    ∀ d ∈ [dr 0], DrawOKLen (stSOO 10 4).P.kind (dimn (stSOO 10 4).P) d := by decide

/-- **Beyond the depth cap** (`hmax = 0`, the root has been evaluated): `pull` expands the root,
finds no cell of depth `≤ hmax` to hand out, and then sweeps for ever — the model runs out of
fuel (the Python code hangs). -/
theorem SOO_pull_outOfFuel_counterexample :
    (stSOO 0 1).P.depth = (stSOO 0 1).hmax ∧
    SOO.pull ⊥ (stSOO 0 1) 2 [dr 0] = .error .outOfFuel :=
  ⟨by decide, eq_error_of_errOf (by decide)⟩

/-- The same from a state in which no leaf of depth `≤ hmax` exists (root split, cap 0). -/
theorem SOO_pull_outOfFuel_counterexample' :
    ({ stSOO 10 2 with hmax := 0 } : SOO Nat Sc).P.layers = [[0], [1, 2]] ∧
    SOO.pull ⊥ { stSOO 10 2 with hmax := 0 } 3 [dr 0] = .error .outOfFuel :=
  ⟨by decide, eq_error_of_errOf (by decide)⟩

def addSc : Sc → Sc → Sc
  | some a, some b => some (a + b)
  | _, _ => ⊥

/-- `delta(h) = 10 - 2h`, `b = reward + delta`, initial reward `-inf` -/
def cfgDOO : DOOCfg Nat Sc :=
  { negInf := ⊥, inf := sc 1000, reward0 := ⊥, bOf := addSc,
    delta := fun _ h => .ok (sc (10 - 2 * (h : Int))) }

theorem cfgDOO_deltaOK : DOO.DeltaOK cfgDOO := fun _ _ _ _ => ⟨_, rfl⟩
theorem cfgDOO_deltaStable : DOO.DeltaStable cfgDOO := fun _ _ _ _ => rfl

def inDOO : List (Input Nat Sc) :=
  [(1, [dr 0], sc 5), (2, [dr 1], sc (-3)), (3, [dr 0], sc 7), (4, [dr 1], sc 2),
   (5, [dr 0], sc 1)]

def stDOO (n : Nat) : DOO Nat Sc :=
  match DOO.run cfgDOO .binary dom2 (inDOO.take n) with
  | .ok x => x.1
  | .error _ => DOO.init cfgDOO .binary dom2

example : (DOO.run cfgDOO .binary dom2 inDOO).toOption.map (·.2) =
    some [(0, sc 5), (1, sc (-3)), (2, sc 7), (3, sc 2), (4, sc 1)] := by decide

example : ∃ s H, DOO.run cfgDOO .binary dom2 inDOO = .ok (s, H) ∧ DOO.Inv cfgDOO s ∧
    H.map (·.2) = inDOO.map (·.2.2) ∧ s.P.depth ≤ inDOO.length :=
  DOO.loop_total cfgDOO botLe cfgDOO_deltaOK .binary dom2 inDOO (by decide)

/-- the sixth `pull`: all leaves `1, 3, 4` are evaluated; `b = -3 + 8, 2 + 6, 1 + 6`; the
last maximum `3` is expanded and its first child `5` handed out. -/
example : (DOO.pullT cfgDOO (stDOO 5) 6 [dr 0]).toOption.map (·.2.2.1) = some 5 ∧
    (DOO.pullT cfgDOO (stDOO 5) 6 [dr 0]).toOption.map
      (fun x => x.2.2.2.map (fun ev => (ev.h, ev.id, ev.score))) =
    some [(2, 3, sc 8)] := by decide

abbrev Sf := Fin 100

/-- `k = 2`, `mean = min 90 (sum / count)`, `b = min 98 (mean + 8 / count)` -/
def cfgSto : StoCfg Sf Nat :=
  { negInf := 0, inf := 99, zero := 0, n := 50,
    meanOf := fun rs c => ⟨min 90 (rs.sum / c), by omega⟩,
    bOf := fun m c => ⟨min 98 (m.val + 8 / c), by omega⟩,
    countLT := fun c => decide (c < 2), hmax := 6 }

theorem cfgSto_bot : ∀ x : Sf, cfgSto.negInf ≤ x := fun x => Fin.zero_le x
theorem cfgSto_top : ∀ x : Sf, x ≤ cfgSto.inf := by decide

def inSto : List (Input Nat Nat) :=
  [(1, [dr 0], 5), (2, [dr 1], 7), (3, [dr 0], 3), (4, [dr 1], 4), (5, [dr 0], 9),
   (6, [dr 1], 2)]

def stSto (n : Nat) : StoSOO Nat Nat Sf :=
  match StoSOO.run cfgSto .binary dom2 (inSto.take n) with
  | .ok x => x.1
  | .error _ => StoSOO.init cfgSto .binary dom2

/-- the root is evaluated twice (`k = 2`), then split; then its children (the one with the
larger `b` first) -/
example : (StoSOO.run cfgSto .binary dom2 inSto).toOption.map (·.2) =
    some [(0, 5), (0, 7), (2, 3), (1, 4), (1, 9), (2, 2)] := by decide

example : ∃ s H, StoSOO.run cfgSto .binary dom2 inSto = .ok (s, H) ∧ StoSOO.Inv cfgSto s ∧
    H.map (·.2) = inSto.map (·.2.2) ∧ s.P.depth ≤ inSto.length :=
  StoSOO.loop_total cfgSto cfgSto_bot cfgSto_top rfl .binary dom2 inSto (by decide) (by decide)
    (by decide)

/-- the third `pull` expands the root (evaluated `k` times) and hands out its last child -/
example : (StoSOO.pullT cfgSto (stSto 2) 3 [dr 0]).toOption.map (fun x => (x.2.2.1, x.1.sel)) =
      some (2, some (1, 1)) ∧
    (StoSOO.pullT cfgSto (stSto 2) 3 [dr 0]).toOption.map
      (fun x => x.2.2.2.map (fun ev => (ev.h, ev.id, ev.score))) =
    some [(0, 0, 10)] := by decide

/-- **`k = 0`** (the hypothesis `countLT 0 = true` of `pull_total` is needed): no cell can ever
be handed out; `pull` expands down to the depth cap (here `h_max = 2`) and falls off its loop
(returns `None`). -/
theorem StoSOO_pull_k0_counterexample :
    StoSOO.pull { cfgSto with countLT := fun _ => false, hmax := 2 }
      (StoSOO.init cfgSto .binary dom2) 1
      [dr 0, dr 1, dr 0, dr 1, dr 0, dr 1, dr 0, dr 1] = .error .returnedNone :=
  eq_error_of_errOf (by decide)

end Ex08

end PyXAB
