/-
  Property C06 — "Tree bandits grow only at the pulled leaf, under the published rule"
  (T-HOO, HCT, VHCT), together with the totality of the documented ask/tell loop.

  Setting.  The models `HOO.init/pull/receive`, `HCT.init/pull/receive` (`HCTCfg.variance = true`
  is VHCT) of `PyXABModel/Model/TreeBandit.lean` run on the arena `Part` of C03; every numeric
  formula of the Python code is a field of the configuration record, so the theorems hold for
  all formulas and all reward/score types.  `Spec/TBRun.lean` defines the loop
  (`round`, `runRounds`, `run`), the invariant `Inv` between rounds and the invariant `Ready`
  between a `pull` and the `receive` which follows it.  Draws (the random choices of
  `make_children`) are universally quantified and assumed well-formed (`DrawsOK`): at least one
  per `receive` / `init`.

  The property reads: "a round adds at most one set of children, always under the cell just
  pulled and only if that cell was a leaf; new cells start with zero pulls and infinite index.
  T-HOO expands the pulled leaf exactly when its depth is at most [the truncation depth], so its
  tree never gets deeper than one level below that bound (the root is always split once at
  construction); HCT and VHCT expand the pulled cell exactly when it is a leaf whose pull count
  has reached its threshold, so every internal cell had reached its threshold when it was split."

  (A) totality: `init_total`, `receive_total`, `loop_total` (and `pull_total` for T-HOO; for HCT
      `TBA.HCT.pull_ok`).
  (B) `grow_at_most_one`, `grow_shape`, `grow_iff` (HOO: `expandOK (depth last)`; HCT/VHCT:
      leaf ∧ `countGE (count + 1) thr`), `depth_bound`, `internal_reached_threshold`,
      `root_split`, `pull_frame`.
-/
import PyXABProofs.Lemmas.TBA_Effect

set_option linter.unusedSectionVars false

namespace PyXAB
open Tree TBA

/-- The stored path is a root-to-cell chain of valid ids ending in `last`. -/
theorem TBA.path_spec {α σ : Type} {P : Part α σ} {path : List Nat} (h : IsPath P path) :
    path.head? = some 0 ∧ (∀ v ∈ path, v < P.nodes.length) ∧
    ∀ (k a b : Nat), path[k]? = some a → path[k + 1]? = some b → Child P a b :=
  ⟨h.1, h.2.all_valid, DownChain.child_getElem h.2⟩

namespace HOO
open TBA.HOO
variable {α R S : Type} [Add α] [Sub α] [Mul α] [Div α] [OfNat α 2] [NatCast α]
variable [LE S] [DecidableLE S] [Max S] [Min S] [Inhabited S] [Inhabited R]

/-- `T_HOO.__init__` succeeds given one well-formed draw, establishes the invariant, and has
split the root. -/
theorem init_total (cfg : HOOCfg R S) (k : Kind) (domain : Box α) (ds : List (Draw α))
    (hds : DrawsOK k domain.length ds) :
    ∃ s0 ds', init cfg k domain ds = .ok (s0, ds') ∧ Inv cfg s0 ∧ s0.P.kind = k ∧
      dimn s0.P = domain.length ∧ s0.P.isLeaf 0 = false := by
  obtain ⟨s0, ds', e, hI, h1, h2, h3, _⟩ := init_ok cfg k domain hds
  exact ⟨s0, ds', e, hI, h1, h2, h3⟩

/-- `pull` from an invariant state never raises (in particular the fuel of the descent is
never exhausted); it stores a root-to-leaf path, returns its last element, and changes
nothing else. -/
theorem pull_total (cfg : HOOCfg R S) {s : HOO α R S} (hI : Inv cfg s) :
    ∃ s1 path v, pull s = .ok (s1, v) ∧ Ready cfg s1 path v ∧ s1.P = s.P ∧
      s1.iteration = s.iteration := by
  obtain ⟨path, v, e, hR⟩ := pull_ok cfg hI
  exact ⟨_, path, v, e, hR, rfl, rfl⟩

/-- `receive` after a `pull` never raises given well-formed draws, and re-establishes the
invariant. -/
theorem receive_total (cfg : HOOCfg R S) {s : HOO α R S} {path : List Nat} {last : Nat}
    (hR : Ready cfg s path last) (r : R) {ds : List (Draw α)}
    (hds : DrawsOK s.P.kind (dimn s.P) ds) :
    ∃ s' ds', receive cfg s r ds = .ok (s', ds') ∧ Inv cfg s' ∧ s'.P.kind = s.P.kind ∧
      dimn s'.P = dimn s.P := by
  obtain ⟨s', ds', e, _, _, hI, _, _, E⟩ := receive_ok cfg hR r hds
  exact ⟨s', ds', e, hI, E.kind, E.dimn⟩

/-- **The ask/tell loop of T-HOO is total**: construction followed by any number of rounds
`pull; receive_reward(r)` never raises, whatever the rewards, the formulas of `cfg` and the
(well-formed) random draws. -/
theorem loop_total (cfg : HOOCfg R S) (k : Kind) (domain : Box α) (ds0 : List (Draw α))
    (inputs : List (R × List (Draw α))) (h0 : DrawsOK k domain.length ds0)
    (hin : InputsOK k domain.length inputs) :
    ∃ s H, run cfg k domain ds0 inputs = .ok (s, H) ∧ Inv cfg s ∧
      H.map (·.2) = inputs.map (·.1) := by
  obtain ⟨s, H, e, hI, _, hl⟩ := run_induct cfg k domain (J := fun _ _ => True)
    (fun _ _ _ _ _ _ _ _ _ _ _ _ _ => trivial) (fun _ _ => trivial) h0 hin
  exact ⟨s, H, e, hI, hl⟩

/-- The extensional effect of one `receive` (everything below is read off from it). -/
theorem receive_spec (cfg : HOOCfg R S) {s s' : HOO α R S} {path : List Nat} {last : Nat}
    (hR : Ready cfg s path last) {r : R} {ds ds' : List (Draw α)}
    (hds : DrawsOK s.P.kind (dimn s.P) ds) (hrecv : receive cfg s r ds = .ok (s', ds')) :
    ∃ nd, s.P.nodes[last]? = some nd ∧ Inv cfg s' ∧ 1 ≤ K s.P ∧
      RecvEffect cfg.meanOf none r (st0 cfg) (· ∈ path) s.P s'.P last (cfg.expandOK nd.depth) := by
  obtain ⟨nd, h1, hI, _, _, E⟩ := ListAux.of_eq_ok₂ (receive_ok cfg hR r hds) hrecv
  exact ⟨nd, h1, hI, hds.arity_pos, E⟩

/-- A round adds at most one set of children: the arena grows by `0` or by `K` cells; old cells keep depth/index/parent/box,
and every old cell other than the pulled one keeps its child list. -/
theorem grow_at_most_one (cfg : HOOCfg R S) {s s' : HOO α R S} {path : List Nat} {last : Nat}
    (hR : Ready cfg s path last) {r : R} {ds ds' : List (Draw α)}
    (hds : DrawsOK s.P.kind (dimn s.P) ds) (hrecv : receive cfg s r ds = .ok (s', ds')) :
    (s'.P.nodes.length = s.P.nodes.length ∨ s'.P.nodes.length = s.P.nodes.length + K s.P) ∧
    ∀ (i : Nat) (nd : Node α (TBSt R S)), s.P.nodes[i]? = some nd →
      ∃ nd', s'.P.nodes[i]? = some nd' ∧ nd'.depth = nd.depth ∧ nd'.index = nd.index ∧
        nd'.parent = nd.parent ∧ nd'.box = nd.box ∧ (i ≠ last → nd'.children = nd.children) := by
  obtain ⟨_, _, _, _, E⟩ := receive_spec cfg hR hds hrecv
  exact ⟨E.len_cases, E.frame⟩

/-- The children are added under the cell just pulled, and only if it was a leaf: if the arena
grew, the pulled cell was a leaf, the new ids are exactly its child
list, and every new cell is a leaf one level below it with parent `last` and payload `st0`. -/
theorem grow_shape (cfg : HOOCfg R S) {s s' : HOO α R S} {path : List Nat} {last : Nat}
    (hR : Ready cfg s path last) {r : R} {ds ds' : List (Draw α)}
    (hds : DrawsOK s.P.kind (dimn s.P) ds) (hrecv : receive cfg s r ds = .ok (s', ds'))
    (hg : s.P.nodes.length < s'.P.nodes.length) :
    s.P.isLeaf last = true ∧ s'.P.nodes.length = s.P.nodes.length + K s.P ∧
    ∃ ln ln' cs, s.P.nodes[last]? = some ln ∧ s'.P.nodes[last]? = some ln' ∧
      ln'.children = some cs ∧
      (∀ i, i ∈ cs ↔ s.P.nodes.length ≤ i ∧ i < s'.P.nodes.length) ∧
      ∀ i, i ∈ cs → ∃ cn, s'.P.nodes[i]? = some cn ∧ cn.parent = some last ∧
        cn.children = none ∧ cn.depth = ln.depth + 1 ∧ cn.st = st0 cfg := by
  obtain ⟨_, _, _, hK, E⟩ := receive_spec cfg hR hds hrecv
  exact E.shape ((E.grew_iff hK).1 hg)

/-- The T-HOO rule: the arena grew iff `expandOK (depth of the pulled leaf)`. -/
theorem grow_iff (cfg : HOOCfg R S) {s s' : HOO α R S} {path : List Nat} {last : Nat}
    (hR : Ready cfg s path last) {r : R} {ds ds' : List (Draw α)}
    (hds : DrawsOK s.P.kind (dimn s.P) ds) (hrecv : receive cfg s r ds = .ok (s', ds'))
    {nd : Node α (TBSt R S)} (hnd : s.P.nodes[last]? = some nd) :
    s.P.nodes.length < s'.P.nodes.length ↔ cfg.expandOK nd.depth = true := by
  obtain ⟨nd', h1, _, hK, E⟩ := receive_spec cfg hR hds hrecv
  obtain rfl := getElem?_inj h1 hnd
  exact E.grew_iff hK

/-- Corollary of `grow_iff`: with the rule `depth ≤ D`, no cell is ever deeper than
`max 1 (D + 1)` (the root is always split once at construction). -/
theorem depth_bound (cfg : HOOCfg R S) (D : Nat) (hE : cfg.expandOK = fun d => decide (d ≤ D))
    (k : Kind) (domain : Box α) (ds0 : List (Draw α)) (inputs : List (R × List (Draw α)))
    (h0 : DrawsOK k domain.length ds0) (hin : InputsOK k domain.length inputs)
    {s : HOO α R S} {H : List (Nat × R)} (hrun : run cfg k domain ds0 inputs = .ok (s, H)) :
    ∀ (i : Nat) (nd : Node α (TBSt R S)), s.P.nodes[i]? = some nd → nd.depth ≤ max 1 (D + 1) := by
  refine (ListAux.of_eq_ok₂ (run_induct cfg k domain
    (J := fun s _ => ∀ (i : Nat) (nd : Node α (TBSt R S)), s.P.nodes[i]? = some nd →
      nd.depth ≤ max 1 (D + 1))
    (fun s s' _ _ _ v nd _ hJ _ hv _ E i nd' hi => ?_)
    (fun s0 hdep i nd hi => Nat.le_trans (hdep i nd hi).2 (Nat.le_max_left ..)) h0 hin) hrun).2.1
  by_cases hlt : i < s.P.nodes.length
  · obtain ⟨x, x1, x2, _⟩ := E.old i _ (List.getElem?_eq_getElem hlt)
    rw [← getElem?_inj x1 hi, x2]
    exact hJ i _ (List.getElem?_eq_getElem hlt)
  · -- a new cell lies one level below the pulled leaf, which was split because `depth ≤ D`
    obtain ⟨g, ln, l1, l2, _⟩ := E.new_node (Nat.le_of_not_lt hlt) hi
    obtain rfl := getElem?_inj l1 hv
    rw [hE, decide_eq_true_iff] at g
    rw [l2]
    exact Nat.le_trans (Nat.succ_le_succ g) (Nat.le_max_right ..)

/-- `pull` only stores the path. -/
theorem pull_frame {s s1 : HOO α R S} {v : Nat} (h : pull s = .ok (s1, v)) :
    s1.P = s.P ∧ s1.iteration = s.iteration := by
  obtain ⟨path, _, _, rfl⟩ := pull_eq_ok.1 h
  exact ⟨rfl, rfl⟩

end HOO

/-- The root is split at construction. -/
theorem HOO.root_split {α R S : Type} [Add α] [Sub α] [Mul α] [Div α] [OfNat α 2] [NatCast α]
    [LE S] [DecidableLE S] [Max S] [Min S] [Inhabited S] [Inhabited R]
    (cfg : HOOCfg R S) (k : Kind) (domain : Box α) (ds : List (Draw α))
    (hds : DrawsOK k domain.length ds) {s0 : HOO α R S} {ds' : List (Draw α)}
    (h : HOO.init cfg k domain ds = .ok (s0, ds')) : s0.P.isLeaf 0 = false :=
  (ListAux.of_eq_ok₂ (HOO.init_total cfg k domain ds hds) h).2.2.2

namespace HCT
open TBA.HCT
variable {α R S : Type} [Add α] [Sub α] [Mul α] [Div α] [OfNat α 2] [NatCast α]
variable [LE S] [DecidableLE S] [Max S] [Min S] [Inhabited S] [Inhabited R]

theorem init_total (cfg : HCTCfg R S) (k : Kind) (domain : Box α) (ds : List (Draw α))
    (hds : DrawsOK k domain.length ds) :
    ∃ s0 ds', init cfg k domain ds = .ok (s0, ds') ∧ Inv cfg s0 ∧ s0.P.kind = k ∧
      dimn s0.P = domain.length ∧ s0.P.isLeaf 0 = false := by
  obtain ⟨s0, ds', e, hI, h1, h2, h3, _⟩ := init_ok cfg k domain hds
  exact ⟨s0, ds', e, hI, h1, h2, h3⟩

/-- `pull` keeps the tree skeleton (kind, layers, depth, every cell's
depth/index/parent/children/box) and every `count/rewards/mean/u/b/var` — only `tau_h` (HCT)
and the cells' `tau` (VHCT) are rewritten. -/
theorem pull_frame (cfg : HCTCfg R S) {s s1 : HCT α R S} {v : Nat} (hI : Inv cfg s)
    (h : pull cfg s = .ok (s1, v)) :
    s1.iteration = s.iteration ∧ (cfg.variance = false → s1.P = s.P) ∧
      s1.P.kind = s.P.kind ∧ s1.P.layers = s.P.layers ∧ s1.P.depth = s.P.depth ∧
      s1.P.nodes.length = s.P.nodes.length ∧
      ∀ (i : Nat) (nd : Node α (TBSt R S)), s.P.nodes[i]? = some nd →
        ∃ nd', s1.P.nodes[i]? = some nd' ∧ nd'.depth = nd.depth ∧ nd'.index = nd.index ∧
          nd'.parent = nd.parent ∧ nd'.children = nd.children ∧ nd'.box = nd.box ∧
          nd'.st.count = nd.st.count ∧ nd'.st.rewards = nd.st.rewards ∧
          nd'.st.mean = nd.st.mean ∧ nd'.st.u = nd.st.u ∧ nd'.st.b = nd.st.b ∧
          nd'.st.var = nd.st.var := by
  obtain ⟨s1', _, v', e, _, hT, hit, hP, _⟩ := pull_ok cfg hI
  cases e.symm.trans h
  refine ⟨hit, hP, hT.kind, hT.layers, hT.depth, hT.len, fun i nd hi => ?_⟩
  obtain ⟨nd', n1, n2, n3⟩ := hT.node i nd hi
  exact ⟨nd', n1, n2.depth, n2.index, n2.parent, n2.children, n2.box, n3⟩

theorem receive_total (cfg : HCTCfg R S) {s : HCT α R S} {path : List Nat} {last : Nat}
    (hR : Ready cfg s path last) (r : R) {ds : List (Draw α)}
    (hds : DrawsOK s.P.kind (dimn s.P) ds) :
    ∃ s' ds', receive cfg s r ds = .ok (s', ds') ∧ Inv cfg s' ∧ s'.P.kind = s.P.kind ∧
      dimn s'.P = dimn s.P := by
  obtain ⟨s', ds', e, _, _, _, _, hI, _, _, _, E⟩ := receive_ok cfg hR r hds
  exact ⟨s', ds', e, hI, E.kind, E.dimn⟩

/-- **The ask/tell loop of HCT and VHCT is total.** -/
theorem loop_total (cfg : HCTCfg R S) (k : Kind) (domain : Box α) (ds0 : List (Draw α))
    (inputs : List (R × List (Draw α))) (h0 : DrawsOK k domain.length ds0)
    (hin : InputsOK k domain.length inputs) :
    ∃ s H, run cfg k domain ds0 inputs = .ok (s, H) ∧ Inv cfg s ∧
      H.map (·.2) = inputs.map (·.1) := by
  obtain ⟨s, H, e, hI, _, hl⟩ := run_induct cfg k domain (J := fun _ _ => True)
    (fun _ _ _ _ _ _ _ _ _ _ _ _ _ _ _ _ => trivial) (fun _ _ => trivial) h0 hin
  exact ⟨s, H, e, hI, hl⟩

/-- The extensional effect of one `receive`. -/
theorem receive_spec (cfg : HCTCfg R S) {s s' : HCT α R S} {path : List Nat} {last : Nat}
    (hR : Ready cfg s path last) {r : R} {ds ds' : List (Draw α)}
    (hds : DrawsOK s.P.kind (dimn s.P) ds) (hrecv : receive cfg s r ds = .ok (s', ds')) :
    ∃ nd thr, s.P.nodes[last]? = some nd ∧ IsThr cfg s nd thr ∧ Inv cfg s' ∧ 1 ≤ K s.P ∧
      RecvEffect cfg.meanOf (voOf cfg) r (st0 cfg) (· = last) s.P s'.P last
        (nd.children.isNone && cfg.countGE (nd.st.count + 1) thr) := by
  obtain ⟨nd, thr, h1, ht, hI, _, _, _, E⟩ := ListAux.of_eq_ok₂ (receive_ok cfg hR r hds) hrecv
  exact ⟨nd, thr, h1, ht, hI, hds.arity_pos, E⟩

/-- A round adds at most one set of children, as for T-HOO. -/
theorem grow_at_most_one (cfg : HCTCfg R S) {s s' : HCT α R S} {path : List Nat} {last : Nat}
    (hR : Ready cfg s path last) {r : R} {ds ds' : List (Draw α)}
    (hds : DrawsOK s.P.kind (dimn s.P) ds) (hrecv : receive cfg s r ds = .ok (s', ds')) :
    (s'.P.nodes.length = s.P.nodes.length ∨ s'.P.nodes.length = s.P.nodes.length + K s.P) ∧
    ∀ (i : Nat) (nd : Node α (TBSt R S)), s.P.nodes[i]? = some nd →
      ∃ nd', s'.P.nodes[i]? = some nd' ∧ nd'.depth = nd.depth ∧ nd'.index = nd.index ∧
        nd'.parent = nd.parent ∧ nd'.box = nd.box ∧ (i ≠ last → nd'.children = nd.children) := by
  obtain ⟨_, _, _, _, _, _, E⟩ := receive_spec cfg hR hds hrecv
  exact ⟨E.len_cases, E.frame⟩

/-- They are added under the cell just pulled, which was a leaf, as for T-HOO. -/
theorem grow_shape (cfg : HCTCfg R S) {s s' : HCT α R S} {path : List Nat} {last : Nat}
    (hR : Ready cfg s path last) {r : R} {ds ds' : List (Draw α)}
    (hds : DrawsOK s.P.kind (dimn s.P) ds) (hrecv : receive cfg s r ds = .ok (s', ds'))
    (hg : s.P.nodes.length < s'.P.nodes.length) :
    s.P.isLeaf last = true ∧ s'.P.nodes.length = s.P.nodes.length + K s.P ∧
    ∃ ln ln' cs, s.P.nodes[last]? = some ln ∧ s'.P.nodes[last]? = some ln' ∧
      ln'.children = some cs ∧
      (∀ i, i ∈ cs ↔ s.P.nodes.length ≤ i ∧ i < s'.P.nodes.length) ∧
      ∀ i, i ∈ cs → ∃ cn, s'.P.nodes[i]? = some cn ∧ cn.parent = some last ∧
        cn.children = none ∧ cn.depth = ln.depth + 1 ∧ cn.st = st0 cfg := by
  obtain ⟨_, _, _, _, _, hK, E⟩ := receive_spec cfg hR hds hrecv
  exact E.shape ((E.grew_iff hK).1 hg)

/-- The HCT/VHCT rule: the arena grew iff the pulled cell was a leaf and its count
after crediting this reward (`nd'.st.count = nd.st.count + 1`) reaches the threshold. -/
theorem grow_iff (cfg : HCTCfg R S) {s s' : HCT α R S} {path : List Nat} {last : Nat}
    (hR : Ready cfg s path last) {r : R} {ds ds' : List (Draw α)}
    (hds : DrawsOK s.P.kind (dimn s.P) ds) (hrecv : receive cfg s r ds = .ok (s', ds')) :
    ∃ nd nd' thr, s.P.nodes[last]? = some nd ∧ s'.P.nodes[last]? = some nd' ∧
      nd'.st.count = nd.st.count + 1 ∧ IsThr cfg s nd thr ∧
      (s.P.nodes.length < s'.P.nodes.length ↔
        (s.P.isLeaf last = true ∧ cfg.countGE nd'.st.count thr = true)) := by
  obtain ⟨nd, thr, h1, ht, _, hK, E⟩ := receive_spec cfg hR hds hrecv
  obtain ⟨nd', n1, _, _, _, _, _, _, n8, _⟩ := E.old last nd h1
  have hc := (n8 rfl).1
  refine ⟨nd, nd', thr, h1, n1, hc, ht, ?_⟩
  rw [E.grew_iff hK, Bool.and_eq_true, hc]
  simp [Part.isLeaf, h1]

/-- Corollary of `grow_iff`: a cell which is internal after the `receive` but was a leaf before
is the pulled cell, and it had reached its threshold. -/
theorem internal_reached_threshold (cfg : HCTCfg R S) {s s' : HCT α R S} {path : List Nat}
    {last : Nat} (hR : Ready cfg s path last) {r : R} {ds ds' : List (Draw α)}
    (hds : DrawsOK s.P.kind (dimn s.P) ds) (hrecv : receive cfg s r ds = .ok (s', ds'))
    {i : Nat} (h1 : s.P.isLeaf i = true) (h2 : s'.P.isLeaf i = false) :
    i = last ∧ ∃ nd thr, s.P.nodes[i]? = some nd ∧ IsThr cfg s nd thr ∧
      cfg.countGE (nd.st.count + 1) thr = true := by
  obtain ⟨nd, thr, n1, ht, _, _, E⟩ := receive_spec cfg hR hds hrecv
  obtain ⟨ni, i1, i2⟩ := isLeaf_iff.1 h1
  obtain ⟨x, x1, _, _, _, _, x6, _⟩ := E.old i ni i1
  -- the child list of `i` changed; `receive` changes only that of the pulled cell, when it grows
  have hg : i = last ∧ (nd.children.isNone && cfg.countGE (nd.st.count + 1) thr) = true :=
    Classical.byContradiction fun hn =>
      Bool.false_ne_true (h2.symm.trans (isLeaf_iff.2 ⟨x, x1, (x6 hn).trans i2⟩))
  obtain ⟨rfl, hg⟩ := hg
  rw [Bool.and_eq_true] at hg
  exact ⟨rfl, nd, thr, n1, ht, hg.2⟩

/-- The root is split at construction. -/
theorem root_split (cfg : HCTCfg R S) (k : Kind) (domain : Box α) (ds : List (Draw α))
    (hds : DrawsOK k domain.length ds) {s0 : HCT α R S} {ds' : List (Draw α)}
    (h : init cfg k domain ds = .ok (s0, ds')) : s0.P.isLeaf 0 = false :=
  (ListAux.of_eq_ok₂ (init_total cfg k domain ds hds) h).2.2.2

end HCT

end PyXAB
