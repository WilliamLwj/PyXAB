/-
  Property C05 — the index discipline of the tree bandits T-HOO, HCT and VHCT.

  "At every round the pulled cell is reached from the root by moving, at each step, to a child
  whose B-value is maximal among its siblings, stopping at a leaf (T-HOO) or at the first cell
  that is a leaf or has been pulled fewer times than its current threshold (HCT, VHCT).
  B-values satisfy B = U at leaves and B = min(U, max over children of B) elsewhere, unvisited
  cells have infinite U, and U is the empirical mean plus nu*rho^depth plus the algorithm's
  confidence width, with delta~ recomputed when the round counter reaches a power of two."

  Models: `PyXABModel/Model/TreeBandit.lean` (`HOO`, `HCT`; VHCT = `HCT` with
  `cfg.variance = true`).  Every numeric formula is a field of `HOOCfg` / `HCTCfg`, so the
  theorems hold for all formulas and all linear orders of scores `S`.  The only hypotheses on
  the configuration are `∀ x, cfg.negInf ≤ x` (bottom) and, for HCT/VHCT, `∀ x, x ≤ cfg.inf`
  (top); they are stated explicitly where used.
-/
import PyXABProofs.Lemmas.TBB_Example

set_option linter.unusedSectionVars false

namespace PyXAB
namespace C05

open Tree TBB

variable {α R S : Type} [Add α] [Sub α] [Mul α] [Div α] [OfNat α 2] [NatCast α]
variable [LinearOrder S] [Inhabited S] [Inhabited R]

theorem le_tPlus (n : Nat) : n ≤ tPlus n := by
  unfold tPlus Nat.nextPowerOfTwo
  exact (nextPowerOfTwo_go_ge n 1 _).1

theorem tPlus_lt_two_mul {n : Nat} (hn : 1 ≤ n) : tPlus n < 2 * n := by
  unfold tPlus Nat.nextPowerOfTwo
  exact nextPowerOfTwo_go_lt n 1 _ (Nat.lt_of_lt_of_le (by decide) (Nat.le_mul_of_pos_right 2 hn))

theorem tPlus_is_pow2 (n : Nat) : ∃ k, tPlus n = 2 ^ k := Nat.isPowerOfTwo_nextPowerOfTwo n

/-- The lazily refreshed quantities of HCT/VHCT are recomputed (`iteration = tPlus iteration`)
exactly when the round counter is a power of two. -/
theorem refresh_iff_pow2 (n : Nat) : tPlus n = n ↔ ∃ k, n = 2 ^ k := by
  constructor
  · intro h
    obtain ⟨k, hk⟩ := tPlus_is_pow2 n
    exact ⟨k, h.symm.trans hk⟩
  · -- `tPlus (2 ^ k)` is a power of two in `[2 ^ k, 2 ^ (k + 1))`
    rintro ⟨k, rfl⟩
    obtain ⟨j, hj⟩ := tPlus_is_pow2 (2 ^ k)
    have h1 := le_tPlus (2 ^ k)
    have h2 := tPlus_lt_two_mul (n := 2 ^ k) Nat.one_le_two_pow
    rw [hj] at h1 h2 ⊢
    have hkj : k ≤ j := (Nat.pow_le_pow_iff_right (a := 2) (by decide)).1 h1
    have hjk : j < k + 1 :=
      (Nat.pow_lt_pow_iff_right (a := 2) (by decide)).1
        (by rw [Nat.pow_succ, Nat.mul_comm]; exact h2)
    rw [Nat.le_antisymm (Nat.le_of_lt_succ hjk) hkj]

/-- `init` establishes the invariant. -/
theorem HOO_init_inv {cfg : HOOCfg R S} {k : Kind} {domain : Box α} {ds ds' : List (Draw α)}
    {s : HOO α R S} (hds : ∀ d ∈ ds, DrawOKLen k domain.length d)
    (h : HOO.init cfg k domain ds = .ok (s, ds')) : HOOInv cfg s := by
  obtain ⟨P1, hx, rfl⟩ := HOO.init_eq_ok.1 h
  obtain ⟨W, hroot, hall⟩ := init_expand hds hx
  refine HOOInv.of_nodes W hroot (fun v nd hnd => ?_) (fun r hr _ => ?_) (fun v hv nd hnd => ?_)
  · obtain ⟨h1, h2⟩ := hall v nd hnd
    rw [HOONode, h1]
    exact ⟨fun _ => rfl, fun hc => absurd hc (Nat.lt_irrefl 0), fun hv hc => absurd (h2 hv) hc⟩
  · rw [(hall 0 r hr).1]; rfl
  · obtain ⟨h1, h2⟩ := hall v nd hnd
    exact ⟨fun _ => by rw [h1]; rfl, fun cs hcs => by rw [h2 hv] at hcs; cases hcs⟩

/-- `init` never raises given one well-formed draw. -/
theorem HOO_init_ok (cfg : HOOCfg R S) (k : Kind) (domain : Box α) (d : Draw α)
    (ds : List (Draw α)) (hd : DrawOKLen k domain.length d) :
    ∃ s, HOO.init cfg k domain (d :: ds) = .ok (s, ds) := by
  obtain ⟨P1, e, _⟩ := TBA.init_expand_ok k domain (HOO.st0 cfg) ds hd
  exact ⟨_, HOO.init_eq_ok.2 ⟨P1, e, rfl⟩⟩

/-- `pull` never raises from an invariant state. -/
theorem HOO_pull_ok {cfg : HOOCfg R S} {s : HOO α R S} (I : HOOInv cfg s) :
    ∃ s' v, HOO.pull s = .ok (s', v) := by
  obtain ⟨rest, v, hpath, hv, _⟩ := descend_root I.wf (fun _ => .ok true) (fun _ _ _ => ⟨true, rfl⟩)
  exact ⟨_, v, HOO.pull_eq_ok.2 ⟨_, hpath, hv, rfl⟩⟩

/-- **pull_greedy (T-HOO)**: `pull` changes nothing but the stored path (so no
`count/rewards/mean/u/b` and not the tree), and the stored path is greedy: it starts at the
root `0`, ends at the pulled node `v`, every step goes to a child of maximal B-value — the
last maximal one in list order —, no node before the end is a leaf and `v` is a leaf. -/
theorem HOO_pull_greedy {s s' : HOO α R S} {v : Nat} (h : HOO.pull s = .ok (s', v)) :
    s'.P = s.P ∧ s'.iteration = s.iteration ∧
      ∃ path, s'.path = some path ∧ GreedyPath s.P stopHOO path v := by
  obtain ⟨path, hpath, hv, rfl⟩ := HOO.pull_eq_ok.1 h
  obtain ⟨rest, rfl, h2⟩ := descend_spec _ _ _ _ _ _ hpath
  refine ⟨rfl, rfl, _, rfl, h2.toPath hv (fun nd _ hc => hc) (fun nd go hgo hor => ?_)⟩
  rcases hor with rfl | hc
  · cases hgo
  · exact hc

/-- the state after `pull` is ready for `receive` -/
theorem HOO_pull_ready {cfg : HOOCfg R S} {s s' : HOO α R S} {v : Nat} (I : HOOInv cfg s)
    (h : HOO.pull s = .ok (s', v)) : HOOReady cfg s' v := by
  have hp := (HOO_pull_greedy h).2.2
  obtain ⟨path, _, _, rfl⟩ := HOO.pull_eq_ok.1 h
  exact ⟨⟨I.wf, I.root_split, I.unvisited, I.visited, I.inner_visited, I.brec⟩, hp⟩

/-- `receive` after `pull` never raises given one well-formed draw. -/
theorem HOO_receive_ok {cfg : HOOCfg R S} (hbot : ∀ x, cfg.negInf ≤ x) {s : HOO α R S} {v : Nat}
    (Rd : HOOReady cfg s v) (r : R) (d : Draw α) (ds : List (Draw α))
    (hd : DrawOKLen s.P.kind (dimn s.P) d) :
    ∃ s' ds', HOO.receive cfg s r (d :: ds) = .ok (s', ds') := by
  obtain ⟨s', ds', h, _⟩ := HOO_receive_stages hbot Rd r d ds hd
  exact ⟨s', ds', h⟩

/-- `receive` after `pull` re-establishes the invariant and increments the round counter. -/
theorem HOO_receive_inv {cfg : HOOCfg R S} (hbot : ∀ x, cfg.negInf ≤ x) {s s' : HOO α R S}
    {v : Nat} (Rd : HOOReady cfg s v) {r : R} {d : Draw α} {ds ds' : List (Draw α)}
    (hd : DrawOKLen s.P.kind (dimn s.P) d)
    (h : HOO.receive cfg s r (d :: ds) = .ok (s', ds')) :
    HOOInv cfg s' ∧ s'.iteration = s.iteration + 1 := by
  obtain ⟨path, nd, P3, T⟩ := ListAux.of_eq_ok₂ (HOO_receive_stages hbot Rd r d ds hd) h
  exact ⟨T.inv Rd.inv, T.iter⟩

/-- every state reachable from `init` by rounds `pull; receive` satisfies the invariant -/
theorem HOO_run_inv {cfg : HOOCfg R S} (hbot : ∀ x, cfg.negInf ≤ x) {k : Kind} {domain : Box α}
    {s : HOO α R S} (h : HOORun cfg k domain s) : HOOInv cfg s := by
  induction h with
  | init hds h => exact HOO_init_inv hds h
  | round _ hp hd hr ih => exact (HOO_receive_inv hbot (HOO_pull_ready ih hp) hd hr).1

/-- The B-recursion at a node of a well-formed tree, with the side condition that the child
list of an inner node is not empty. -/
theorem B_recursion {P : Part α (TBSt R S)} (W : WF P) {v : Nat} (hb : BRec P v)
    {nd : Node α (TBSt R S)} (hnd : P.nodes[v]? = some nd) :
    (nd.children = none → nd.st.b = nd.st.u) ∧
    (∀ cs, nd.children = some cs → cs ≠ [] ∧
      ∃ M, nd.st.b = min nd.st.u M ∧ (∀ c ∈ cs, (P.stOf c).b ≤ M) ∧
        ∃ c ∈ cs, (P.stOf c).b = M) :=
  ⟨(hb nd hnd).1, fun cs hcs => ⟨W.children_ne_nil hnd hcs, (hb nd hnd).2 cs hcs⟩⟩

/-- **B_recursion (T-HOO)**: in every invariant state (hence after `init` and after every
`receive`), every valid non-root node `v` has `b = u` if it is a leaf, and otherwise
`b = min u M` where `M` is the maximum of the B-values of its (non-empty list of) children. -/
theorem HOO_B_recursion {cfg : HOOCfg R S} {s : HOO α R S} (I : HOOInv cfg s) {v : Nat}
    {nd : Node α (TBSt R S)} (hv : 0 < v) (hnd : s.P.nodes[v]? = some nd) :
    (nd.children = none → nd.st.b = nd.st.u) ∧
    (∀ cs, nd.children = some cs → cs ≠ [] ∧
      ∃ M, nd.st.b = min nd.st.u M ∧ (∀ c ∈ cs, (s.P.stOf c).b ≤ M) ∧
        ∃ c ∈ cs, (s.P.stOf c).b = M) :=
  B_recursion I.wf (I.brec v hv) hnd

/-- B_recursion after `init` -/
theorem HOO_B_recursion_init {cfg : HOOCfg R S} {k : Kind} {domain : Box α}
    {ds ds' : List (Draw α)} {s : HOO α R S} (hds : ∀ d ∈ ds, DrawOKLen k domain.length d)
    (h : HOO.init cfg k domain ds = .ok (s, ds')) : ∀ v, 0 < v → BRec s.P v :=
  (HOO_init_inv hds h).brec

/-- B_recursion after every successful `receive` (from a post-`pull` state) -/
theorem HOO_B_recursion_receive {cfg : HOOCfg R S} (hbot : ∀ x, cfg.negInf ≤ x)
    {s s' : HOO α R S} {v : Nat} (Rd : HOOReady cfg s v) {r : R} {d : Draw α}
    {ds ds' : List (Draw α)} (hd : DrawOKLen s.P.kind (dimn s.P) d)
    (h : HOO.receive cfg s r (d :: ds) = .ok (s', ds')) : ∀ v, 0 < v → BRec s'.P v :=
  (HOO_receive_inv hbot Rd hd h).1.brec

/-- **unvisited_top (T-HOO)**: an unvisited cell has infinite U — and infinite B. -/
theorem HOO_unvisited_top {cfg : HOOCfg R S} {s : HOO α R S} (I : HOOInv cfg s) {v : Nat}
    {nd : Node α (TBSt R S)} (hnd : s.P.nodes[v]? = some nd) (hc : nd.st.count = 0) :
    nd.st.u = cfg.inf ∧ nd.st.b = cfg.inf :=
  I.unvisited v nd hnd hc

/-- **U_formula_HOO**: every visited cell carries `mean = meanOf rewards count` and
`u = uOf mean count depth` (T-HOO recomputes all U-values every round). -/
theorem U_formula_HOO {cfg : HOOCfg R S} {s : HOO α R S} (I : HOOInv cfg s) {v : Nat}
    {nd : Node α (TBSt R S)} (hnd : s.P.nodes[v]? = some nd) (hc : 0 < nd.st.count) :
    nd.st.mean = cfg.meanOf nd.st.rewards nd.st.count ∧
    nd.st.u = cfg.uOf (cfg.meanOf nd.st.rewards nd.st.count) nd.st.count nd.depth :=
  I.visited v nd hnd hc

/-- U_formula_HOO after every successful `receive` -/
theorem U_formula_HOO_receive {cfg : HOOCfg R S} (hbot : ∀ x, cfg.negInf ≤ x)
    {s s' : HOO α R S} {v : Nat} (Rd : HOOReady cfg s v) {r : R} {d : Draw α}
    {ds ds' : List (Draw α)} (hd : DrawOKLen s.P.kind (dimn s.P) d)
    (h : HOO.receive cfg s r (d :: ds) = .ok (s', ds')) {w : Nat} {nd : Node α (TBSt R S)}
    (hnd : s'.P.nodes[w]? = some nd) (hc : 0 < nd.st.count) :
    nd.st.mean = cfg.meanOf nd.st.rewards nd.st.count ∧
    nd.st.u = cfg.uOf (cfg.meanOf nd.st.rewards nd.st.count) nd.st.count nd.depth :=
  U_formula_HOO (HOO_receive_inv hbot Rd hd h).1 hnd hc

/-- what `LastMax` says, spelled out: a child, maximal among its siblings, and every later
sibling is strictly smaller (ties are resolved towards the later child) -/
theorem lastMax_iff (b : Nat → S) (cs : List Nat) (c : Nat) :
    LastMax b cs c ↔ c ∈ cs ∧ (∀ c' ∈ cs, b c' ≤ b c) ∧
      ∃ pre post, cs = pre ++ c :: post ∧ ∀ x ∈ post, b x < b c :=
  ⟨fun h => ⟨h.mem, h.max, h.last⟩, fun h => ⟨h.1, h.2.1, h.2.2⟩⟩

theorem HCT_init_inv {cfg : HCTCfg R S} {k : Kind} {domain : Box α} {ds ds' : List (Draw α)}
    {s : HCT α R S} (hds : ∀ d ∈ ds, DrawOKLen k domain.length d)
    (h : HCT.init cfg k domain ds = .ok (s, ds')) :
    HCTInv cfg s ∧ ∀ ts, HCTU cfg s.P ts := by
  obtain ⟨P1, hx, rfl⟩ := HCT.init_eq_ok.1 h
  obtain ⟨W, hroot, hall⟩ := init_expand hds hx
  refine ⟨HCTInv.of_nodes W hroot (Nat.le_refl 1) (fun v nd hnd => ?_) (fun v hv nd hnd => ?_),
    fun ts v nd hnd hc => ?_⟩
  · show HCTNodeInv cfg nd.st
    rw [(hall v nd hnd).1]; exact st0_inv cfg
  · obtain ⟨h1, h2⟩ := hall v nd hnd
    exact ⟨fun _ => by rw [h1]; rfl, fun cs hcs => by rw [h2 hv] at hcs; cases hcs⟩
  · rw [(hall v nd hnd).1] at hc
    exact absurd hc (Nat.lt_irrefl 0)

theorem HCT_init_ok (cfg : HCTCfg R S) (k : Kind) (domain : Box α) (d : Draw α)
    (ds : List (Draw α)) (hd : DrawOKLen k domain.length d) :
    ∃ s, HCT.init cfg k domain (d :: ds) = .ok (s, ds) := by
  obtain ⟨P1, e, _⟩ := TBA.init_expand_ok k domain (HCT.st0 cfg) ds hd
  exact ⟨_, HCT.init_eq_ok.2 ⟨P1, e, rfl⟩⟩

/-- `pull` never raises from an invariant state. -/
theorem HCT_pull_ok {cfg : HCTCfg R S} {s : HCT α R S} (I : HCTInv cfg s) :
    ∃ s' v, HCT.pull cfg s = .ok (s', v) := by
  obtain ⟨s', v, h, _⟩ := HCT_pull_full I
  exact ⟨s', v, h⟩

/-- **pull_greedy (HCT / VHCT)**: `pull` from an invariant state changes thresholds and the
stored path only (`SameButTau`: no `count/rewards/mean/u/b/var`, not the tree); HCT: `tau_h`
becomes `zero :: [tauH δ̃ h | h = 1..depth]` with `δ̃ = dtHalf (tPlus iteration)`; VHCT: every
node of depth `1..depth` gets `tau = tauNode δ̃ depth var`; the stored path is greedy in the new
state for the stop condition "leaf, or pulled fewer times than its threshold". -/
theorem HCT_pull_greedy {cfg : HCTCfg R S} {s s' : HCT α R S} {v : Nat} (I : HCTInv cfg s)
    (h : HCT.pull cfg s = .ok (s', v)) : HCTPulled cfg s s' v :=
  (ListAux.of_eq_ok₂ (HCT_pull_full I) h).1

theorem HCT_pull_ready {cfg : HCTCfg R S} {s s' : HCT α R S} {v : Nat} (I : HCTInv cfg s)
    (h : HCT.pull cfg s = .ok (s', v)) : HCTReady cfg s' v :=
  (ListAux.of_eq_ok₂ (HCT_pull_full I) h).2

/-- `receive` after `pull` never raises given one well-formed draw. -/
theorem HCT_receive_ok {cfg : HCTCfg R S} (hbot : ∀ x, cfg.negInf ≤ x) (htop : ∀ x, x ≤ cfg.inf)
    {s : HCT α R S} {v : Nat} (Rd : HCTReady cfg s v) (r : R) (d : Draw α) (ds : List (Draw α))
    (hd : DrawOKLen s.P.kind (dimn s.P) d) :
    ∃ s' ds', HCT.receive cfg s r (d :: ds) = .ok (s', ds') := by
  obtain ⟨s', ds', h, _⟩ := HCT_receive_stages hbot htop Rd r d ds hd
  exact ⟨s', ds', h⟩

/-- `receive` after `pull` re-establishes the invariant, increments the round counter and
maintains the U-formula for the ghost time stamps updated by `tsStep`. -/
theorem HCT_receive_inv {cfg : HCTCfg R S} (hbot : ∀ x, cfg.negInf ≤ x) (htop : ∀ x, x ≤ cfg.inf)
    {s s' : HCT α R S} {v : Nat} (Rd : HCTReady cfg s v) {r : R} {d : Draw α}
    {ds ds' : List (Draw α)} (hd : DrawOKLen s.P.kind (dimn s.P) d)
    (h : HCT.receive cfg s r (d :: ds) = .ok (s', ds')) :
    HCTInv cfg s' ∧ s'.iteration = s.iteration + 1 ∧
      ∀ ts, HCTU cfg s.P ts → HCTU cfg s'.P (tsStep s.iteration s.P v ts) := by
  obtain ⟨P4, c, T⟩ := ListAux.of_eq_ok₂ (HCT_receive_stages hbot htop Rd r d ds hd) h
  exact ⟨(T.inv Rd.inv).1, T.iter, (T.inv Rd.inv).2⟩

/-- every state reachable from `init` by rounds `pull; receive` satisfies the invariant, and
its U-values obey the formula for the ghost time stamps maintained along the run -/
theorem HCT_run_inv {cfg : HCTCfg R S} (hbot : ∀ x, cfg.negInf ≤ x) (htop : ∀ x, x ≤ cfg.inf)
    {k : Kind} {domain : Box α} {s : HCT α R S} {ts : Nat → Nat}
    (h : HCTRun cfg k domain s ts) : HCTInv cfg s ∧ HCTU cfg s.P ts := by
  induction h with
  | init ts0 hds h => exact ⟨(HCT_init_inv hds h).1, (HCT_init_inv hds h).2 ts0⟩
  | round _ hp hd hr ih =>
    obtain ⟨I, _, hU⟩ := HCT_receive_inv hbot htop (HCT_pull_ready ih.1 hp) hd hr
    exact ⟨I, hU _ (setR_all (HCT_pull_greedy ih.1 hp).same.prel (fun _ _ _ q => q) ih.2)⟩

/-- **B_recursion (HCT / VHCT)**: as for T-HOO, in every invariant state. -/
theorem HCT_B_recursion {cfg : HCTCfg R S} {s : HCT α R S} (I : HCTInv cfg s) {v : Nat}
    {nd : Node α (TBSt R S)} (hv : 0 < v) (hnd : s.P.nodes[v]? = some nd) :
    (nd.children = none → nd.st.b = nd.st.u) ∧
    (∀ cs, nd.children = some cs → cs ≠ [] ∧
      ∃ M, nd.st.b = min nd.st.u M ∧ (∀ c ∈ cs, (s.P.stOf c).b ≤ M) ∧
        ∃ c ∈ cs, (s.P.stOf c).b = M) :=
  B_recursion I.wf (I.brec v hv) hnd

theorem HCT_B_recursion_init {cfg : HCTCfg R S} {k : Kind} {domain : Box α}
    {ds ds' : List (Draw α)} {s : HCT α R S} (hds : ∀ d ∈ ds, DrawOKLen k domain.length d)
    (h : HCT.init cfg k domain ds = .ok (s, ds')) : ∀ v, 0 < v → BRec s.P v :=
  (HCT_init_inv hds h).1.brec

theorem HCT_B_recursion_receive {cfg : HCTCfg R S} (hbot : ∀ x, cfg.negInf ≤ x)
    (htop : ∀ x, x ≤ cfg.inf) {s s' : HCT α R S} {v : Nat} (Rd : HCTReady cfg s v) {r : R}
    {d : Draw α} {ds ds' : List (Draw α)} (hd : DrawOKLen s.P.kind (dimn s.P) d)
    (h : HCT.receive cfg s r (d :: ds) = .ok (s', ds')) : ∀ v, 0 < v → BRec s'.P v :=
  (HCT_receive_inv hbot htop Rd hd h).1.brec

/-- **unvisited_top (HCT / VHCT)** -/
theorem HCT_unvisited_top {cfg : HCTCfg R S} {s : HCT α R S} (I : HCTInv cfg s) {v : Nat}
    {nd : Node α (TBSt R S)} (hnd : s.P.nodes[v]? = some nd) (hc : nd.st.count = 0) :
    nd.st.u = cfg.inf :=
  I.unvisited v nd hnd hc

/-- **U_formula_HCT**: in every state reachable from `init` by rounds `pull; receive`, every
visited cell `v` carries the U-value computed with `δ̃ = dtOne (tPlus (ts v))` where `ts v` is
the round counter at its last refresh, from its current `mean = meanOf rewards count`, `count`
and variance (`varOf rewards` for VHCT, the initial `var0` for HCT). -/
theorem U_formula_HCT {cfg : HCTCfg R S} (hbot : ∀ x, cfg.negInf ≤ x) (htop : ∀ x, x ≤ cfg.inf)
    {k : Kind} {domain : Box α} {s : HCT α R S} {ts : Nat → Nat}
    (h : HCTRun cfg k domain s ts) {v : Nat} {nd : Node α (TBSt R S)}
    (hnd : s.P.nodes[v]? = some nd) (hc : 0 < nd.st.count) :
    nd.st.u = cfg.uOf (cfg.dtOne (tPlus (ts v))) nd.depth
        (cfg.meanOf nd.st.rewards nd.st.count) nd.st.count nd.st.var ∧
    nd.st.mean = cfg.meanOf nd.st.rewards nd.st.count ∧
    nd.st.var = (if cfg.variance = true then cfg.varOf nd.st.rewards else cfg.var0) := by
  obtain ⟨I, hU⟩ := HCT_run_inv hbot htop h
  refine ⟨hU v nd hnd hc, I.mean_ok v nd hnd hc, ?_⟩
  rw [I.var_ok v nd hnd]
  simp only [hc, and_true]

/-- the ghost time stamp of a node is refreshed by a `receive` at counter `it` exactly when it
is the pulled node, or when `it` is a power of two and the node has been visited -/
theorem tsStep_refreshed (it : Nat) (P : Part α (TBSt R S)) (last : Nat) (ts : Nat → Nat) (v : Nat)
    (h : v = last ∨ ((∃ k, it = 2 ^ k) ∧ 0 < (P.stOf v).count)) : tsStep it P last ts v = it := by
  unfold tsStep
  rcases h with h | ⟨hk, hc⟩
  · rw [if_pos h]
  · have e : it = tPlus it := ((refresh_iff_pow2 it).2 hk).symm
    by_cases h1 : v = last
    · rw [if_pos h1]
    · rw [if_neg h1, if_pos ⟨e, hc⟩]

theorem tsStep_kept (it : Nat) (P : Part α (TBSt R S)) (last : Nat) (ts : Nat → Nat) (v : Nat)
    (h1 : v ≠ last) (h2 : ¬ ((∃ k, it = 2 ^ k) ∧ 0 < (P.stOf v).count)) :
    tsStep it P last ts v = ts v := by
  unfold tsStep
  rw [if_neg h1, if_neg]
  rintro ⟨e, hc⟩
  exact h2 ⟨(refresh_iff_pow2 it).1 e.symm, hc⟩

/-! Non-vacuity: concrete runs (α := Nat, R := Nat, S := Fin 16 — a linear order in which
`inf = 15` is the top and `negInf = 0` the bottom element); the configurations, states
`hS0..hS3` (T-HOO), `cS0..cS4` (HCT / VHCT) and ghost time stamps `cT1..cT4` are defined in
`Lemmas/TBB_Example.lean` by evaluating the models -/

section examples
open TBB.Ex

example : hS3.path = some [0, 1, 6] ∧ hS3.iteration = 3 ∧
    hS3.P.layers = [[0], [1, 2], [3, 4, 5, 6], [7, 8]] := by decide +kernel

example : view hS3.P =
    [(3, 8, 15, some [1, 2]), (2, 8, 8, some [5, 6]), (1, 11, 11, some [3, 4]),
     (0, 15, 15, none), (0, 15, 15, none), (0, 15, 15, none), (1, 9, 9, some [7, 8]),
     (0, 15, 15, none), (0, 15, 15, none)] := by decide +kernel

/-- the hypotheses of `HOO_B_recursion`, `HOO_unvisited_top`, `U_formula_HOO` hold there -/
example : HOOInv cfgH hS3 := HOO_run_inv cfgH_bot hS3_run

/-- e.g. node 1 (children 5, 6 with B-values 15 and 9; `U = 8`): `B = min 8 15 = 8` -/
example : ∃ nd, hS3.P.nodes[1]? = some nd ∧ nd.children = some [5, 6] ∧
    nd.st.b = min nd.st.u 15 ∧ (hS3.P.stOf 5).b = 15 ∧ (hS3.P.stOf 6).b = 9 :=
  exists_of_any (by decide +kernel)

/-- the fourth `pull`: path `0 → 2 → 4` to the leaf 4 (2 beats 1 since `B 2 = 11 > 8 = B 1`;
4 beats 3 on the tie `15 = 15` because it comes later) -/
example : (hP3.1.path, hP3.2) = (some [0, 2, 4], 4) := by decide +kernel

example : ∃ path, hP3.1.path = some path ∧ GreedyPath hS3.P stopHOO path hP3.2 :=
  (HOO_pull_greedy hP3_eq).2.2

/-- HCT after three rounds: the third path is `0 → 1 → 6`; node 6 was pulled for the first time
and stays a leaf because its count 1 is below the threshold `tau_h[2] = 2` -/
example : (cS3 false).path = some [0, 1, 6] ∧ (cS3 false).iteration = 4 ∧
    (cS3 false).tauH.map (·.val) = [0, 1, 2] ∧
    (cS3 false).P.layers = [[0], [1, 2], [3, 4, 5, 6]] := by decide +kernel

example : viewC (cS3 false).P =
    [(0, 15, 15, 0, some [1, 2]), (1, 10, 10, 0, some [5, 6]), (1, 8, 8, 0, some [3, 4]),
     (0, 15, 15, 0, none), (0, 15, 15, 0, none), (0, 15, 15, 0, none), (1, 8, 8, 0, none)] := by
  decide +kernel

/-- the fourth round happens at counter `4 = 2²`: all visited U-values are refreshed (node 1:
10 → 12, node 2: 8 → 10), and `B 1 = min 12 (max 8 8) = 8` -/
example : viewC (cS4 false).P =
    [(0, 15, 15, 0, some [1, 2]), (1, 12, 8, 0, some [5, 6]), (1, 10, 10, 0, some [3, 4]),
     (0, 15, 15, 0, none), (0, 15, 15, 0, none), (1, 8, 8, 0, none), (1, 8, 8, 0, none)] := by
  decide +kernel

example : (cS4 false).path = some [0, 1, 5] ∧ (cT4 false) 1 = 4 ∧ (cT4 false) 2 = 4 ∧
    (cT4 false) 5 = 4 ∧ (cT4 false) 6 = 4 ∧ (cT3 false) 1 = 2 ∧ (cT3 false) 6 = 3 := by
  decide +kernel

/-- the hypotheses of `HCT_B_recursion`, `HCT_unvisited_top`, `U_formula_HCT` hold there -/
example (var : Bool) : HCTInv (cfgC var) (cS4 var) ∧ HCTU (cfgC var) (cS4 var).P (cT4 var) :=
  HCT_run_inv (cfgC_bot var) (cfgC_top var) (cS4_run var)

/-- VHCT after three rounds: per-node thresholds, a deeper tree -/
example : (cS3 true).path = some [0, 1, 6] ∧
    (cS3 true).P.layers = [[0], [1, 2], [3, 4, 5, 6], [7, 8]] := by decide +kernel

example : viewC (cS3 true).P =
    [(0, 15, 15, 0, some [1, 2]), (1, 11, 11, 1, some [5, 6]), (1, 9, 9, 1, some [3, 4]),
     (0, 15, 15, 1, none), (0, 15, 15, 1, none), (0, 15, 15, 1, none),
     (1, 9, 9, 1, some [7, 8]), (0, 15, 15, 0, none), (0, 15, 15, 0, none)] := by
  decide +kernel

/-- the greedy path of the next `pull` exists with the threshold stop rule -/
example (var : Bool) : HCTPulled (cfgC var) (cS4 var) (cP4 var).1 (cP4 var).2 :=
  HCT_pull_greedy (HCT_run_inv (cfgC_bot var) (cfgC_top var) (cS4_run var)).1 (cP4_eq var)

end examples

end C05
end PyXAB
