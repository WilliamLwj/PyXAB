/-
  Consequences of `RecvEffect` in the form used by the property files (growth clauses of C06),
  and the reward-history invariants of C04.
-/
import PyXABProofs.Lemmas.TBA_Loop

namespace PyXAB
namespace TBA
open Tree

variable {α σ R S : Type}

theorem sumCounts_eq {P : Part α (TBSt R S)} {H : List (Nat × R)}
    (hval : ∀ e ∈ H, e.1 < P.nodes.length)
    (hc : ∀ (i : Nat) (nd : Node α (TBSt R S)), P.nodes[i]? = some nd →
      nd.st.count = (H.filter (fun e => decide (e.1 = i))).length) :
    sumCounts P = H.length := by
  have : P.nodes.map (fun nd => nd.st.count) =
      (List.range P.nodes.length).map (fun i => (H.filter (fun e => decide (e.1 = i))).length) := by
    apply List.ext_getElem
    · simp
    · intro i h1 h2
      simp only [List.getElem_map, List.getElem_range]
      exact hc i _ (List.getElem?_eq_getElem _)
  unfold sumCounts
  rw [this]
  exact sum_filter_length P.nodes.length H hval

namespace RecvEffect
variable {mo : List R → Nat → S} {vo : Option (List R → S)} {r : R} {s0 : TBSt R S}
  {hit : Nat → Prop} {P P' : Part α (TBSt R S)} {last : Nat} {grew : Bool}

theorem len_cases (E : RecvEffect mo vo r s0 hit P P' last grew) :
    P'.nodes.length = P.nodes.length ∨ P'.nodes.length = P.nodes.length + K P := by
  rw [E.len]; cases grew <;> simp

theorem grew_iff (E : RecvEffect mo vo r s0 hit P P' last grew) (hK : 1 ≤ K P) :
    P.nodes.length < P'.nodes.length ↔ grew = true := by
  rw [E.len]; cases grew <;> simp <;> omega

theorem frame (E : RecvEffect mo vo r s0 hit P P' last grew) (i : Nat)
    (nd : Node α (TBSt R S)) (hi : P.nodes[i]? = some nd) :
    ∃ nd', P'.nodes[i]? = some nd' ∧ nd'.depth = nd.depth ∧ nd'.index = nd.index ∧
      nd'.parent = nd.parent ∧ nd'.box = nd.box ∧ (i ≠ last → nd'.children = nd.children) := by
  obtain ⟨x, x1, x2, x3, x4, x5, x6, _⟩ := E.old i nd hi
  exact ⟨x, x1, x2, x3, x4, x5, fun h => x6 (fun c => h c.1)⟩

/-- Without growth every child list is kept. -/
theorem frame_nogrow (E : RecvEffect mo vo r s0 hit P P' last grew) (hg : grew = false) (i : Nat)
    (nd : Node α (TBSt R S)) (hi : P.nodes[i]? = some nd) :
    ∃ nd', P'.nodes[i]? = some nd' ∧ nd'.children = nd.children := by
  obtain ⟨x, x1, _, _, _, _, x6, _⟩ := E.old i nd hi
  exact ⟨x, x1, x6 (fun c => by rw [hg] at c; cases c.2)⟩

/-- With growth: `last` was a leaf, and the new cells are exactly its child list, fresh leaves
one level below it. -/
theorem shape (E : RecvEffect mo vo r s0 hit P P' last grew) (hg : grew = true) :
    P.isLeaf last = true ∧ P'.nodes.length = P.nodes.length + K P ∧
    ∃ ln ln' cs, P.nodes[last]? = some ln ∧ P'.nodes[last]? = some ln' ∧
      ln'.children = some cs ∧ (∀ i, i ∈ cs ↔ P.nodes.length ≤ i ∧ i < P'.nodes.length) ∧
      ∀ i, i ∈ cs → ∃ cn, P'.nodes[i]? = some cn ∧ cn.parent = some last ∧
        cn.children = none ∧ cn.depth = ln.depth + 1 ∧ cn.st = s0 := by
  obtain ⟨ln, l1, l2⟩ := E.new hg
  obtain ⟨ln', k1, _, _, _, _, _, k7, _⟩ := E.old last ln l1
  obtain ⟨k8, k9⟩ := k7 rfl hg
  have hlen : P'.nodes.length = P.nodes.length + K P := by rw [E.len, hg, if_pos rfl]
  refine ⟨isLeaf_iff.2 ⟨ln, l1, k8⟩, hlen, ln, ln', _, l1, k1, k9, fun i => ?_, fun i hi => ?_⟩
  · rw [List.mem_range'_1, hlen]
  · obtain ⟨h1, h2⟩ := List.mem_range'_1.1 hi
    obtain ⟨cn, c1, c2, c3, c4, c5⟩ := l2 (i - P.nodes.length) (Nat.sub_lt_left_of_lt_add h1 h2)
    rw [Nat.add_sub_cancel' h1] at c1
    exact ⟨cn, c1, c3, c4, c2, c5⟩

end RecvEffect

end TBA

namespace TBA.HCT
open Tree TBA PyXAB.HCT
variable {α R S : Type}

/-- The history invariant of HCT/VHCT: pulled ids are valid, and the reward list of cell `i` is
the sub-list of the rewards of the rounds which pulled `i`. -/
def Hist (s : HCT α R S) (H : List (Nat × R)) : Prop :=
  (∀ e ∈ H, e.1 < s.P.nodes.length) ∧
  ∀ (i : Nat) (nd : Node α (TBSt R S)), s.P.nodes[i]? = some nd →
    nd.st.rewards = (H.filter (fun e => decide (e.1 = i))).map (·.2)

theorem hist_step (cfg : HCTCfg R S) : Keeps (α := α) cfg Hist := by
  intro s s1 s' H r path v nd thr _ hJ hT hR _ _ E
  have hv : v < s1.P.nodes.length := hR.isPath.2.getLast_valid hR.lastEq
  have hle : s1.P.nodes.length ≤ s'.P.nodes.length := by rw [E.len]; omega
  have hval : ∀ e ∈ H, e.1 < s1.P.nodes.length := by rw [hT.len]; exact hJ.1
  constructor
  · intro e he
    rcases List.mem_append.1 he with h | h
    · exact Nat.lt_of_lt_of_le (hval e h) hle
    · have : e = (v, r) := by simpa using h
      subst this; exact Nat.lt_of_lt_of_le hv hle
  · refine E.hist rfl (fun i j => decide (j = i)) H hval hv ?_ ?_ ?_
    · intro i nd1 hi
      obtain ⟨nd0, n1, _, n3⟩ := hT.bwd hi
      rw [n3.2.1]; exact hJ.2 i nd0 n1
    -- the rounds selected for cell `i` are those that pulled `i`: the credited cell is the
    -- pulled one, and no earlier round pulled a cell that did not exist yet
    · exact fun i _ => ⟨fun h => decide_eq_true h.symm, fun h => (of_decide_eq_true h).symm⟩
    · exact fun i j hj hi => decide_eq_false (Nat.ne_of_lt (Nat.lt_of_lt_of_le hj hi))

end TBA.HCT

namespace TBA.HOO
open Tree TBA PyXAB.HOO
variable {α R S : Type}

/-- The history invariant of T-HOO: pulled ids are valid, and the reward list of cell `i` is
the sub-list of the rewards of the rounds which pulled a descendant-or-self of `i`. -/
def Hist (s : HOO α R S) (H : List (Nat × R)) : Prop :=
  (∀ e ∈ H, e.1 < s.P.nodes.length) ∧
  ∀ (i : Nat) (nd : Node α (TBSt R S)), s.P.nodes[i]? = some nd →
    nd.st.rewards = (H.filter (fun e => isAnc s.P i e.1)).map (·.2)

theorem hist_step (cfg : HOOCfg R S) : Keeps (α := α) cfg Hist := by
  intro s s' H r path v nd hI hJ hR _ hI' E
  have W : WF s.P := hI.wf
  have W' : WF s'.P := hI'.wf
  have hv : v < s.P.nodes.length := hR.isPath.2.getLast_valid hR.lastEq
  have hle : s.P.nodes.length ≤ s'.P.nodes.length := by rw [E.len]; omega
  have hval' : ∀ e ∈ H ++ [(v, r)], e.1 < s.P.nodes.length := by
    intro e he
    rcases List.mem_append.1 he with h | h
    · exact hJ.1 e h
    · have : e = (v, r) := by simpa using h
      subst this; exact hv
  refine ⟨fun e he => Nat.lt_of_lt_of_le (hval' e he) hle, fun i nd' hi => ?_⟩
  have key := E.hist rfl (fun i j => isAnc s.P i j) H hJ.1 hv hJ.2
    (fun i _ => by
      show i ∈ path ↔ _
      rw [isAnc_iff W, IsPath.mem_iff_anc W hR.isPath hR.lastEq])
    (fun i j hj hi => by
      cases h : isAnc s.P i j with
      | false => rfl
      | true =>
        have := ((isAnc_iff W i j).1 h).le W
        omega)
    i nd' hi
  rw [key]
  congr 1
  apply List.filter_congr
  intro e he
  -- parent pointers are kept, so the ancestors of an old cell are the same in both trees
  have h3 : Anc s'.P i e.1 ↔ Anc s.P i e.1 := anc_ext W (fun j x hx => by
    obtain ⟨x', x1, _, _, x4, _⟩ := E.old j x hx
    exact ⟨x', x1, x4⟩) (hval' e he)
  exact Bool.eq_iff_iff.2 ((isAnc_iff W i e.1).trans (h3.symm.trans (isAnc_iff W' i e.1).symm))

end TBA.HOO
end PyXAB
