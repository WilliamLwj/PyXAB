/-
  One-dimensional lemmas: `Mono`, `chainIvs` and `linspacePts`.
-/
import PyXABProofs.Spec.Geometry
import PyXABProofs.Lemmas.ListAux
import PyXABProofs.Lemmas.TreeBox
import Mathlib.Algebra.Order.Field.Basic
import Mathlib.Data.List.Range

namespace PyXAB
open List

section mono
variable {α : Type} [Preorder α]

@[simp] theorem mono_nil : Mono ([] : List α) := trivial
@[simp] theorem mono_singleton (a : α) : Mono [a] := trivial
@[simp] theorem mono_cons_cons {a b : α} {l : List α} :
    Mono (a :: b :: l) ↔ a ≤ b ∧ Mono (b :: l) := Iff.rfl

theorem Mono.tail {a : α} {l : List α} (h : Mono (a :: l)) : Mono l := by
  cases l with
  | nil => trivial
  | cons b t => exact h.2

/-- `Mono` is `List.IsChain (· ≤ ·)`; its other forms are that predicate's. -/
theorem mono_iff_isChain : ∀ {l : List α}, Mono l ↔ l.IsChain (· ≤ ·)
  | [] => iff_of_true trivial .nil
  | [a] => iff_of_true trivial (.singleton a)
  | a :: b :: l => by rw [mono_cons_cons, isChain_cons_cons, mono_iff_isChain]

/-- `Mono` is Mathlib's `List.Pairwise (· ≤ ·)` (i.e. `List.Sorted`/`SortedLE`). -/
theorem mono_iff_pairwise : ∀ {l : List α}, Mono l ↔ l.Pairwise (· ≤ ·) :=
  mono_iff_isChain.trans isChain_iff_pairwise

theorem mono_head_le_last {a z : α} {pts : List α} (h : Mono (a :: (pts ++ [z]))) : a ≤ z := by
  induction pts generalizing a with
  | nil => exact h.1
  | cons p ps ih => exact h.1.trans (ih h.2)

end mono

section chain
variable {α : Type}

theorem chainIvs_cons_cons (a b : α) (l : List α) :
    chainIvs (a :: b :: l) = ⟨a, b⟩ :: chainIvs (b :: l) := rfl

theorem chainIvs_snoc_nil (a z : α) : chainIvs (a :: ([] ++ [z])) = [⟨a, z⟩] := rfl

theorem chainIvs_cons_snoc (a p : α) (ps : List α) (z : α) :
    chainIvs (a :: ((p :: ps) ++ [z])) = ⟨a, p⟩ :: chainIvs (p :: (ps ++ [z])) := rfl

theorem chainIvs_eq_zipWith : ∀ l : List α, chainIvs l = zipWith Iv.mk l l.tail
  | [] => rfl
  | [_] => rfl
  | a :: b :: l => by rw [chainIvs_cons_cons, chainIvs_eq_zipWith (b :: l)]; rfl

/-- element `j` of the chain is the interval between boundaries `j` and `j+1` -/
theorem getElem?_chainIvs_eq_some {l : List α} {j : Nat} {iv : Iv α} :
    (chainIvs l)[j]? = some iv ↔ l[j]? = some iv.lo ∧ l[j + 1]? = some iv.hi := by
  rw [chainIvs_eq_zipWith, getElem?_zipWith_eq_some, getElem?_tail]
  constructor
  · rintro ⟨x, y, hx, hy, rfl⟩
    exact ⟨hx, hy⟩
  · rintro ⟨hx, hy⟩
    exact ⟨_, _, hx, hy, rfl⟩

end chain

section chainOrder
variable {α : Type} [LinearOrder α]

theorem chain_bounds {a z : α} {pts : List α} (h : Mono (a :: (pts ++ [z]))) :
    ∀ iv ∈ chainIvs (a :: (pts ++ [z])), a ≤ iv.lo ∧ iv.lo ≤ iv.hi ∧ iv.hi ≤ z := by
  induction pts generalizing a with
  | nil =>
    intro iv hiv
    rw [chainIvs_snoc_nil, mem_singleton] at hiv
    subst hiv
    exact ⟨le_rfl, h.1, le_rfl⟩
  | cons p ps ih =>
    intro iv hiv
    rw [chainIvs_cons_snoc, mem_cons] at hiv
    obtain ⟨hap, hm⟩ := h
    rcases hiv with rfl | hiv
    · exact ⟨le_rfl, hap, mono_head_le_last hm⟩
    · obtain ⟨h1, h2, h3⟩ := ih hm iv hiv
      exact ⟨hap.trans h1, h2, h3⟩

theorem chain_cover {a z : α} {pts : List α} (h : Mono (a :: (pts ++ [z]))) {x : α}
    (hax : a ≤ x) (hxz : x ≤ z) :
    ∃ iv ∈ chainIvs (a :: (pts ++ [z])), iv.lo ≤ x ∧ x ≤ iv.hi := by
  induction pts generalizing a with
  | nil => exact ⟨⟨a, z⟩, by rw [chainIvs_snoc_nil]; exact mem_singleton.2 rfl, hax, hxz⟩
  | cons p ps ih =>
    rw [chainIvs_cons_snoc]
    rcases le_total x p with hxp | hpx
    · exact ⟨⟨a, p⟩, mem_cons_self, hax, hxp⟩
    · obtain ⟨iv, hiv, h1, h2⟩ := ih h.2 hpx
      exact ⟨iv, mem_cons_of_mem _ hiv, h1, h2⟩

theorem chain_pairwise {a z : α} {pts : List α} (h : Mono (a :: (pts ++ [z]))) :
    (chainIvs (a :: (pts ++ [z]))).Pairwise (fun i i' => i.hi ≤ i'.lo) := by
  induction pts generalizing a with
  | nil => rw [chainIvs_snoc_nil]; exact pairwise_singleton _ _
  | cons p ps ih =>
    rw [chainIvs_cons_snoc, pairwise_cons]
    exact ⟨fun iv hiv => (chain_bounds h.2 iv hiv).1, ih h.2⟩

end chainOrder

section linspace
variable {α : Type} [Field α] [LinearOrder α] [IsStrictOrderedRing α]

/-- The `K + 1` boundaries of `np.linspace(lo, hi, K+1)` are `j * ((hi - lo) / K) + lo` for
`j = 0, …, K` (over a field; the two end points are stored literally as `lo` and `hi`). -/
theorem linspace_bd_eq (lo hi : α) {K : Nat} (hK : 1 ≤ K) :
    lo :: (linspacePts lo hi K ++ [hi]) =
      (range (K + 1)).map fun j : Nat => (j : α) * ((hi - lo) / (K : α)) + lo := by
  obtain ⟨n, rfl⟩ : ∃ n, K = n + 1 := ⟨K - 1, by omega⟩
  have hn : ((n + 1 : ℕ) : α) ≠ 0 := Nat.cast_ne_zero.2 n.succ_ne_zero
  rw [range_eq_range', range'_succ, range'_1_concat, map_cons, map_append, map_singleton,
    Nat.cast_zero, zero_mul, zero_add, Nat.zero_add, Nat.add_comm 1 n, mul_div_cancel₀ _ hn,
    sub_add_cancel]
  rfl

theorem linspace_bd_getElem? (lo hi : α) {K : Nat} (hK : 1 ≤ K) {j : Nat} (hj : j ≤ K) :
    (lo :: (linspacePts lo hi K ++ [hi]))[j]? = some ((j : α) * ((hi - lo) / (K : α)) + lo) := by
  rw [linspace_bd_eq lo hi hK, getElem?_map, getElem?_range (Nat.lt_succ_of_le hj)]
  rfl

end linspace
end PyXAB
