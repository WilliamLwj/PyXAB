/-
  Optimism of DOO along a run.  In a tree satisfying `GInv` whose evaluated cells store `f` of
  their point (`FInv`), the score of an expansion event is at least `f xstar`
  (`event_optimism`); `OInv` carries both invariants along a noiseless run
  (`runRoundsT_optimism`).  Also: erasure of the instrumented run, and noiseless runs exist for
  every schedule.
-/
import PyXABProofs.Lemmas.OPT_Geo

set_option linter.unusedSectionVars false
set_option linter.unusedVariables false

namespace PyXAB
namespace OPT
open _root_.PyXAB.Tree TBA SW TT ZM

section finv
variable {α S : Type} [Add α] [Div α] [OfNat α 2]

/-- The reward stored in every evaluated cell is `f` of the point of that cell. -/
def FInv (f : List α → S) (P : Part α (SwSt S)) : Prop :=
  ∀ (i : Nat) (nd : Node α (SwSt S)), P.nodes[i]? = some nd → nd.st.visited = true →
    nd.st.reward = f (Box.cpoint nd.box)

theorem FInv.init (f : List α → S) (k : Kind) (root : Box α) {s0 : SwSt S}
    (h0 : s0.visited = false) : FInv f (Part.init k root s0) := by
  intro i nd hi hv
  obtain ⟨-, rfl⟩ := Part.getElem?_init.1 hi
  rw [h0] at hv
  cases hv

/-- growth of the tree which keeps flags and rewards of old cells, new cells unevaluated -/
theorem FInv.ext {f : List α → S} {P P' : Part α (SwSt S)} {s0 : SwSt S} (hF : FInv f P)
    (hext : Ext SameVR s0 P P') (h0 : s0.visited = false) : FInv f P' := by
  intro i nd' hi hv
  by_cases hlt : i < P.nodes.length
  · have hget : P.nodes[i]? = some P.nodes[i] := List.getElem?_eq_getElem hlt
    obtain ⟨nd'', b1, _, _, _, b5, _, b7⟩ := hext.old i _ hget
    obtain rfl := getElem?_inj b1 hi
    rw [b7.2, b5]
    exact hF i _ hget (by rw [← b7.1]; exact hv)
  · have := hext.new i nd' (Nat.le_of_not_lt hlt) hi
    rw [this.1, h0] at hv; cases hv

/-- one round: the handed-out cell `v` receives `f` of its point -/
theorem FInv.round {f : List α → S} {Pb : Part α (SwSt S)} {v : Nat} {nd : Node α (SwSt S)}
    {r : S} (hF : FInv f Pb) (hv : Pb.nodes[v]? = some nd) (hr : r = f (Box.cpoint nd.box)) :
    FInv f (setReward (mark Pb v) v r) := by
  intro i x hi hvis
  rw [getElem?_round] at hi
  cases h0 : Pb.nodes[i]? with
  | none => simp [h0] at hi
  | some y =>
    simp only [h0, Option.map_some, Option.some.injEq] at hi
    by_cases e : v = i
    · subst e
      obtain rfl := getElem?_inj hv h0
      simp only [if_true] at hi
      subst hi
      exact hr
    · simp only [e, if_false] at hi
      subst hi
      exact hF i _ h0 hvis

end finv

namespace DOO
open PyXAB.DOO
variable {α S : Type} [Field α] [LinearOrder α] [IsStrictOrderedRing α]
variable [LinearOrder S] [Inhabited S]

/-- **Optimism of one expansion**: in a tree whose leaves tile the domain and whose evaluated
cells store `f` of their point, the expanded cell — the maximiser of `b = bOf reward delta(depth)`
over all leaves, all of them evaluated — has a score at least `f xstar`, as soon as `delta` is
valid for `f` along `xstar ∈ root`. -/
theorem event_optimism (cfg : DOOCfg α S) (hst : DeltaStable cfg) {k : Kind} {root : Box α}
    {f : List α → S} {xstar : List α} (hx : Box.Mem root xstar)
    (hδ : DeltaValid cfg k root f xstar) {ev : Ev α (SwSt S) S} (hev : EvOK cfg ev)
    (hG : GInv k root ev.before) (hF : FInv f ev.before) : f xstar ≤ ev.score := by
  -- the leaf whose box contains `xstar`
  obtain ⟨c, hc, hmem⟩ := (hG.tiles.2.1 xstar).1 hx
  obtain ⟨w, nd, hw, hleaf, rfl⟩ := mem_leafBoxes.1 hc
  have W := hev.pinv.wf
  -- it has been evaluated
  have hvis : nd.st.visited = true := by
    obtain ⟨lm, q1, q2⟩ := W.layer_of_node hw
    have := hev.low nd.depth lm w (by have := W.depth_le w nd hw; omega) q1 q2
    exact unvisitedLeaf_eq_false_iff.1 this nd hw hleaf
  -- its stored `b` is `bOf (f centre) delta(depth)`
  obtain ⟨δ, hd, hb⟩ := expansion_scores cfg hst hev w nd hw hleaf
  have h1 : f xstar ≤ nd.st.b := by
    rw [hb, hF w nd hw hvis]
    exact hδ ev.before w nd δ W hG.cells hw hleaf hmem hd
  -- the expanded cell maximises `b` over all leaves
  have h2 : nd.st.b ≤ ev.score :=
    hev.best.le ((W.mem_flatten_iff_valid w).2 (lt_length_of_getElem? hw)) (leafScore_eq_some_iff.2 ⟨nd, hw, hleaf, rfl⟩)
  exact le_trans h1 h2

/-- Invariant of a noiseless run of DOO on `root`, between rounds. -/
structure OInv (cfg : DOOCfg α S) (k : Kind) (root : Box α) (f : List α → S) (s : DOO α S) :
    Prop where
  inv : Inv cfg s
  geo : GInv k root s.P
  rew : FInv f s.P

theorem OInv.init (cfg : DOOCfg α S) (k : Kind) {root : Box α} (hroot : Box.Valid root)
    (f : List α → S) : OInv cfg k root f (init cfg k root) :=
  ⟨(init_inv cfg k root).1, GInv.init hroot _, FInv.init f k root rfl⟩

theorem OInv.draws {cfg : DOOCfg α S} {k : Kind} {root : Box α} {f : List α → S} {s : DOO α S}
    (hO : OInv cfg k root f s) {ds : List (Draw α)} (h : ∀ d ∈ ds, DrawOKLen k root.length d) :
    ∀ d ∈ ds, DrawOKLen s.P.kind (dimn s.P) d := by
  rw [hO.geo.dom.kind, dimn_of_boxInv hO.inv.pinv.wf hO.geo.dom.box]
  exact h

/-- **Every expansion of a `pull` from an invariant state is optimistic.** -/
theorem pullT_optimism (cfg : DOOCfg α S) (hbot : ∀ x, cfg.negInf ≤ x) (hst : DeltaStable cfg)
    {k : Kind} {root : Box α} {f : List α → S} {xstar : List α} (hx : Box.Mem root xstar)
    (hδ : DeltaValid cfg k root f xstar) {s s' : DOO α S} {t : Nat} {ds ds' : List (Draw α)}
    {v : Nat} {tr : List (Ev α (SwSt S) S)} (hO : OInv cfg k root f s)
    (hds : ∀ d ∈ ds, DrawOKLen k root.length d) (hE : EvDraws k root ds tr)
    (h : pullT cfg s t ds = .ok (s', ds', v, tr)) :
    GInv k root s'.P ∧ ∀ ev ∈ tr, f xstar ≤ ev.score := by
  obtain ⟨_, _, _, hevs⟩ := pull_expansions cfg hbot hO.inv (hO.draws hds) h
  have hleaf : ∀ ev ∈ tr, ∃ nd, ev.before.nodes[ev.id]? = some nd ∧ nd.children = none := by
    intro ev hev
    obtain ⟨nd, n1, n2, _⟩ := (hevs ev hev).1.node
    exact ⟨nd, n1, n2⟩
  obtain ⟨g1, g2⟩ := hO.geo.replays (TT.DOO.pullT_replays cfg h) hleaf hE
  refine ⟨g1, fun ev hev => ?_⟩
  obtain ⟨e1, _, e3⟩ := hevs ev hev
  exact event_optimism cfg hst hx hδ e1 (g2 ev hev) (hO.rew.ext e3 rfl)

theorem round_OInv (cfg : DOOCfg α S) {k : Kind} {root : Box α} {f : List α → S}
    {s s1 s2 : DOO α S} {x : Input α S} {v : Nat} {ds' : List (Draw α)}
    {tr : List (Ev α (SwSt S) S)} {Pb : Part α (SwSt S)} (hO : OInv cfg k root f s)
    (hG1 : GInv k root s1.P) (hp : RoundPost cfg s x s2 v s1 ds' tr Pb)
    (hr : x.2.2 = f (ptOf s1.P v)) : OInv cfg k root f s2 := by
  obtain ⟨nd, n1, _, _⟩ := hp.post.node
  refine ⟨hp.inv2, ?_, ?_⟩
  · rw [hp.eq2]
    show GInv k root (s1.P.modifySt v (fun st => { st with reward := x.2.2 }))
    exact hG1.of_prel (Geo.modifySt s1.P v _)
  · rw [hp.P2]
    refine (hO.rew.ext hp.post.ext rfl).round n1 ?_
    rw [hr]
    have : s1.P.nodes[v]? = some { nd with st := { nd.st with visited := true } } := by
      rw [hp.post.marked]; exact mark_node_self n1
    simp only [ptOf, boxOf, this]

/-- the `round` underlying a successful `roundT` -/
theorem round_of_roundT (cfg : DOOCfg α S) {s s2 : DOO α S} {x : Input α S} {v : Nat}
    {tr : List (Ev α (SwSt S) S)} (h : roundT cfg s x = .ok (s2, v, tr)) :
    ∃ s1 ds1, pullT cfg s x.1 x.2.1 = .ok (s1, ds1, v, tr) ∧
      pull cfg s x.1 x.2.1 = .ok (s1, ds1, v) ∧ receive s1 x.2.2 = .ok s2 ∧
      round cfg s x = .ok (s2, v) := by
  unfold roundT at h
  split at h
  · cases h
  · rename_i s1 ds1 v1 tr1 hp
    split at h
    · cases h
    · rename_i hr
      cases h
      have hpull := (pull_ok_iff cfg s x.1 x.2.1 s1 ds1 v).2 ⟨tr, hp⟩
      refine ⟨s1, ds1, hp, hpull, hr, ?_⟩
      unfold round
      simp only [hpull, hr]

/-- **Every expansion event of a noiseless run is optimistic** (from any invariant state). -/
theorem runRoundsT_optimism (cfg : DOOCfg α S) (hbot : ∀ x, cfg.negInf ≤ x)
    (hst : DeltaStable cfg) {k : Kind} {root : Box α} {f : List α → S} {xstar : List α}
    (hx : Box.Mem root xstar) (hδ : DeltaValid cfg k root f xstar) :
    ∀ (inputs : List (Input α S)) (s s' : DOO α S) (H : List (Nat × S))
      (evs : List (Ev α (SwSt S) S)), OInv cfg k root f s →
      (∀ x ∈ inputs, ∀ d ∈ x.2.1, DrawOKLen k root.length d) →
      TT.DOO.GoodDraws cfg k root s inputs → Noiseless cfg f s inputs →
      runRoundsT cfg s inputs = .ok (s', H, evs) →
      OInv cfg k root f s' ∧ ∀ ev ∈ evs, f xstar ≤ ev.score
  | [], s, s', H, evs, hO, _, _, _, hrun => by
    simp only [runRoundsT, Except.ok.injEq, Prod.mk.injEq] at hrun
    obtain ⟨rfl, rfl, rfl⟩ := hrun
    exact ⟨hO, by simp⟩
  | x :: rest, s, s', H, evs, hO, hds, hG, hN, hrun => by
    unfold runRoundsT at hrun
    split at hrun
    · cases hrun
    · rename_i s2 v tr hr
      split at hrun
      · cases hrun
      · rename_i s3 H3 evs3 hrec
        cases hrun
        obtain ⟨s1, ds1, hpT, hpull, hrecv, hround⟩ := round_of_roundT cfg hr
        have hdsx := hds x (List.mem_cons_self ..)
        obtain ⟨hE, hG'⟩ := hG s1 ds1 v tr hpT
        obtain ⟨hN1, hN'⟩ := hN s1 ds1 v hpull
        obtain ⟨hG1, hopt⟩ := pullT_optimism cfg hbot hst hx hδ hO hdsx hE hpT
        obtain ⟨s1', ds', tr', Pb, hp⟩ := round_spec cfg hbot hO.inv (hO.draws hdsx) hround
        have heq := hp.pullT
        rw [hpT] at heq
        cases heq
        obtain ⟨a, b⟩ := runRoundsT_optimism cfg hbot hst hx hδ rest s2 s' H3 evs3
          (round_OInv cfg hO hG1 hp hN1) (fun y hy => hds y (List.mem_cons_of_mem _ hy))
          (hG' s2 hrecv) (hN' s2 hrecv) hrec
        refine ⟨a, fun ev hev => ?_⟩
        rcases List.mem_append.1 hev with hev | hev
        · exact hopt ev hev
        · exact b ev hev

end DOO

namespace DOO
open PyXAB.DOO
variable {α S : Type} [Add α] [Sub α] [Mul α] [Div α] [OfNat α 2] [NatCast α]
variable [LinearOrder S] [Inhabited S]

theorem round_eq (cfg : DOOCfg α S) (s : DOO α S) (x : Input α S) :
    round cfg s x = (roundT cfg s x).map (fun y => (y.1, y.2.1)) := by
  unfold round roundT
  rw [pull_eq]
  cases pullT cfg s x.1 x.2.1 with
  | error e => rfl
  | ok r =>
    obtain ⟨s1, ds1, v, tr⟩ := r
    simp only [Except.map]
    cases receive s1 x.2.2 <;> rfl

/-- **Erasure**: forgetting the events of `runRoundsT` gives the documented loop `runRounds`. -/
theorem runRounds_eq (cfg : DOOCfg α S) :
    ∀ (inputs : List (Input α S)) (s : DOO α S),
      runRounds cfg s inputs = (runRoundsT cfg s inputs).map (fun y => (y.1, y.2.1))
  | [], s => rfl
  | x :: rest, s => by
    unfold runRounds runRoundsT
    rw [round_eq]
    cases roundT cfg s x with
    | error e => rfl
    | ok r =>
      obtain ⟨s1, v, tr⟩ := r
      simp only [Except.map]
      rw [runRounds_eq cfg rest s1]
      cases runRoundsT cfg s1 rest with
      | error e => rfl
      | ok r2 => rfl

theorem runRounds_ok_iff (cfg : DOOCfg α S) (inputs : List (Input α S)) (s s' : DOO α S)
    (H : List (Nat × S)) :
    runRounds cfg s inputs = .ok (s', H) ↔ ∃ evs, runRoundsT cfg s inputs = .ok (s', H, evs) := by
  rw [runRounds_eq]
  cases runRoundsT cfg s inputs with
  | error e => simp [Except.map]
  | ok r =>
    obtain ⟨a, b, c⟩ := r
    simp only [Except.map, Except.ok.injEq, Prod.mk.injEq]
    constructor
    · rintro ⟨rfl, rfl⟩; exact ⟨c, rfl, rfl, rfl⟩
    · rintro ⟨_, rfl, rfl, _⟩; exact ⟨rfl, rfl⟩

/-- **Noiseless runs exist**: for every schedule `xs` of (time, offered draws) — at least one
well-formed draw per round — feeding back `f` of the handed-out point gives a successful
noiseless run of that schedule (given that `delta` never raises). -/
theorem exists_noiseless (cfg : DOOCfg α S) (hbot : ∀ x, cfg.negInf ≤ x) (hδ : DeltaOK cfg)
    (f : List α → S) :
    ∀ (xs : List (Nat × List (Draw α))) (s : DOO α S), Inv cfg s →
      (∀ x ∈ xs, 1 ≤ x.2.length ∧ ∀ d ∈ x.2, DrawOKLen s.P.kind (dimn s.P) d) →
      ∃ inputs : List (Input α S), inputs.map (fun x => (x.1, x.2.1)) = xs ∧
        Noiseless cfg f s inputs ∧ ∃ s' H, runRounds cfg s inputs = .ok (s', H)
  | [], s, _, _ => ⟨[], rfl, trivial, s, [], rfl⟩
  | x :: rest, s, hI, hxs => by
    obtain ⟨hl, hds⟩ := hxs x (List.mem_cons_self ..)
    obtain ⟨s1, ds1, v, hpull, _, _⟩ := pull_total cfg hbot hδ x.1 hI hl hds
    obtain ⟨hI1, hc1, _, hk1, hd1⟩ := pull_Inv cfg hbot hI hds hpull
    obtain ⟨s2, hrecv, hI2⟩ := receive_total cfg hI1 hc1 (f (ptOf s1.P v))
    obtain ⟨c, _, hP2, _⟩ := receive_frame hrecv
    have hk2 : s2.P.kind = s.P.kind := by rw [hP2]; exact hk1
    have hd2 : dimn s2.P = dimn s.P := by
      rw [hP2]; exact (PRel_modifySt s1.P c _).dimn_eq.trans hd1
    obtain ⟨inputs, hmap, hN, s', H, hrun⟩ := exists_noiseless cfg hbot hδ f rest s2 hI2
      (fun y hy => by rw [hk2, hd2]; exact hxs y (List.mem_cons_of_mem _ hy))
    refine ⟨(x.1, x.2, f (ptOf s1.P v)) :: inputs, by simp [hmap], ?_, s',
      (v, f (ptOf s1.P v)) :: H, ?_⟩
    · intro s1' ds1' v' hp'
      rw [hpull] at hp'
      simp only [Except.ok.injEq, Prod.mk.injEq] at hp'
      obtain ⟨rfl, rfl, rfl⟩ := hp'
      refine ⟨rfl, fun s2' h2 => ?_⟩
      rw [hrecv] at h2
      simp only [Except.ok.injEq] at h2
      subst h2
      exact hN
    · unfold runRounds round
      simp only [hpull, hrecv, hrun]

/-- An executable check of `Noiseless` (for concrete runs). -/
def noiselessCheck (cfg : DOOCfg α S) (f : List α → S) : DOO α S → List (Input α S) → Bool
  | _, [] => true
  | s, x :: rest =>
    match pull cfg s x.1 x.2.1 with
    | .error _ => true
    | .ok (s1, _, v) =>
      decide (x.2.2 = f (ptOf s1.P v)) &&
        match receive s1 x.2.2 with
        | .error _ => true
        | .ok s2 => noiselessCheck cfg f s2 rest

theorem noiseless_of_check (cfg : DOOCfg α S) (f : List α → S) :
    ∀ (inputs : List (Input α S)) (s : DOO α S),
      noiselessCheck cfg f s inputs = true → Noiseless cfg f s inputs
  | [], _, _ => trivial
  | x :: rest, s, h => by
    intro s1 ds1 v hp
    unfold noiselessCheck at h
    simp only [hp, Bool.and_eq_true, decide_eq_true_eq] at h
    refine ⟨h.1, fun s2 h2 => ?_⟩
    have h3 := h.2
    simp only [h2] at h3
    exact noiseless_of_check cfg f rest s2 h3

end DOO
end OPT
end PyXAB
