/-
  Concrete data for the non-vacuity examples of `Props/C01.lean`: a box over `ℚ`, draws of the
  deterministic classes and of `RandomBinaryPartition`, inputs of short runs, and the kernel
  evaluations which identify the cell handed out by the first `pull` of a T-HOO run on a
  `RandomBinaryPartition`.
-/
import PyXABProofs.Lemmas.TT_TB
import PyXABProofs.Lemmas.TBB_Example
import PyXABProofs.Props.C08
import Mathlib.Algebra.Order.Field.Rat
import Mathlib.Tactic.NormNum.Basic

namespace PyXAB
namespace TT
namespace Ex01
open _root_.PyXAB.Tree TBA TBB.Ex

/-- the box `[0,1] × [-1,3]` -/
def domQ : Box ℚ := [⟨0, 1⟩, ⟨-1, 3⟩]
/-- a draw of a deterministic class: only the split dimension -/
def dq (dim : Nat) : Draw ℚ := ⟨dim, []⟩
/-- a draw of `RandomBinaryPartition`: split dimension and split point -/
def dr (dim : Nat) (p : ℚ) : Draw ℚ := ⟨dim, [p]⟩

theorem domQ_valid : Box.Valid domQ :=
  Box.valid_cons zero_le_one (Box.valid_cons (by norm_num) Box.valid_nil)

/-- inputs of a T-HOO / HCT run: (reward, draws offered to `receive`) -/
def inH : List (Nat × List (Draw ℚ)) := [(3, [dq 0]), (5, [dq 1]), (2, [dq 0]), (7, [dq 1])]

instance : Inhabited (HOO ℚ Nat (Fin 16)) := ⟨⟨default, 0, none⟩⟩

/-- T-HOO on a `RandomBinaryPartition`: the root is split at `x₀ = 1/3` -/
def rS0 : HOO ℚ Nat (Fin 16) := (getOk (HOO.init cfgH .randBinary domQ [dr 0 (1 / 3)])).1
def rP0 : HOO ℚ Nat (Fin 16) × Nat := getOk (HOO.pull rS0)

theorem rS0_eq : HOO.init cfgH .randBinary domQ [dr 0 (1 / 3)] =
    .ok (rS0, (getOk (HOO.init cfgH .randBinary domQ [dr 0 (1 / 3)])).2) :=
  getOk_spec2 (by decide +kernel)
theorem rP0_eq : HOO.pull rS0 = .ok (rP0.1, rP0.2) := getOk_spec2 (by decide +kernel)

/-- the first `pull` hands out cell `2 = [1/3,1] × [-1,3]` -/
theorem rP0_box : rP0.2 = 2 ∧ (rP0.1.P.nodes[rP0.2]?).map (·.box) = some [⟨1 / 3, 1⟩, ⟨-1, 3⟩] := by
  decide +kernel

/-- A split point inside `[1/3, 1]` is a good draw for that round: `GoodDraws` holds. -/
theorem rGood : TT.HOO.GoodDraws cfgH .randBinary domQ rS0 [(3, [dr 0 (1 / 2)])] := by
  intro s1 v hp
  rw [rP0_eq] at hp
  cases hp
  refine ⟨fun nd hn _ _ => ?_, fun _ _ _ => trivial⟩
  have hb : nd.box = [⟨1 / 3, 1⟩, ⟨-1, 3⟩] := by
    have := rP0_box.2
    rw [hn] at this
    simpa using this
  rw [hb]
  refine ⟨by decide, 1 / 2, rfl, ?_, ?_⟩
  · show (1 / 3 : ℚ) ≤ 1 / 2; norm_num
  · show (1 / 2 : ℚ) ≤ 1; norm_num

/-- the root draw `x₀ = 1/3 ∈ [0,1]` fits the domain -/
theorem rHead : HeadFits .randBinary domQ domQ [dr 0 (1 / 3)] := by
  intro _ _
  refine ⟨by decide, 1 / 3, rfl, ?_, ?_⟩
  · show (0 : ℚ) ≤ 1 / 3; norm_num
  · show (1 / 3 : ℚ) ≤ 1; norm_num

/-- inputs of SOO runs (scores `WithBot ℤ` as in `Props/C08.lean`) -/
def inS : List (SW.Input ℚ Ex08.Sc) :=
  [(1, [dq 0], Ex08.sc 5), (2, [dq 1], Ex08.sc (-3)), (3, [dq 0], Ex08.sc 7),
   (4, [dq 1], Ex08.sc 2)]

/-- inputs of a SequOOL run -/
def inQ : List (Ex08.Sc × List (Draw ℚ)) :=
  [(Ex08.sc 5, [dq 0]), (Ex08.sc (-3), [dq 1]), (Ex08.sc 7, [dq 0])]

/-- inputs of a StoSOO run (configuration `Ex08.cfgSto`) -/
def inSto : List (SW.Input ℚ Nat) :=
  [(1, [dq 0], 5), (2, [dq 1], 7), (3, [dq 0], 3), (4, [dq 1], 4)]

end Ex01
end TT
end PyXAB
