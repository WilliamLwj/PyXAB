/-
  GPO (PCT / VPCT): `pull` and `receive` as one equation per branch of the code; what a successful
  call did, for each of the three kinds of round (all phases over, exploring, validating); the
  invariant `GPO.Inv` across a `pull`/`receive` pair; totality.  Core Lean only.
-/
import PyXABProofs.Spec.MetaSpec
import PyXABProofs.Lemmas.MT_ArgmaxCore
import PyXABProofs.Lemmas.MT_Run

namespace PyXAB.MT
open PyXAB
namespace GPO
open PyXAB.GPO
variable {L α R S Pt ρ : Type} {ops : LearnerOps L α R Pt ρ} {cfg : GPOCfg R S ρ} {s s1 s2 : GPO L S Pt}
  {time time' : Nat} {ds ds1 ds' ds2 : List (Draw α)} {pt : Pt} {r : R}

/-- `pull` in a running phase, after the learner of the phase has been constructed -/
def serve (ops : LearnerOps L α R Pt ρ) (cfg : GPOCfg R S ρ) (s1 : GPO L S Pt) (time : Nat)
    (ds1 : List (Draw α)) : Except Err (GPO L S Pt × List (Draw α) × Pt) :=
  if s1.counter < cfg.half then
    match s1.curr with
    | none => .error .noneDeref
    | some l => do
      let (l', pt) ← ops.pull l time
      return ({ s1 with curr := some l', goodx := some pt }, ds1, pt)
  else
    match s1.goodx with
    | none => .error .returnedNone
    | some p =>
      if s1.counter = cfg.half then
        return ({ s1 with Vx := s1.Vx ++ [p], V := s1.V ++ [cfg.zero] }, ds1, p)
      else return (s1, ds1, p)

theorem pull_done (hd : cfg.N < s.phase) :
    pull ops cfg s time ds = do
      let p ← orErr s.goodx .returnedNone
      return (s, ds, p) := by
  unfold pull
  rw [if_pos hd]
  cases s.goodx <;> rfl

theorem pull_first (hd : s.phase ≤ cfg.N) (h0 : s.counter = 0) :
    pull ops cfg s time ds = (do
      let (l, ds') ← ops.create (cfg.rhoOf s.phase) ds
      serve ops cfg { s with curr := some l, created := s.created + 1 } time ds') := by
  unfold pull
  rw [if_neg (Nat.not_lt_of_le hd), if_pos h0, bind_assoc]
  rfl

theorem pull_next (hd : s.phase ≤ cfg.N) (h0 : s.counter ≠ 0) :
    pull ops cfg s time ds = serve ops cfg s time ds := by
  unfold pull
  rw [if_neg (Nat.not_lt_of_le hd), if_neg h0, pure_bind]
  rfl

theorem serve_explore (hlt : s.counter < cfg.half) :
    serve ops cfg s time ds = do
      let l ← orErr s.curr .noneDeref
      let (l', pt) ← ops.pull l time
      return ({ s with curr := some l', goodx := some pt }, ds, pt) := by
  unfold serve
  rw [if_pos hlt]
  cases s.curr <;> rfl

theorem serve_validate (hge : cfg.half ≤ s.counter) :
    serve ops cfg s time ds = do
      let p ← orErr s.goodx .returnedNone
      return (if s.counter = cfg.half then { s with Vx := s.Vx ++ [p], V := s.V ++ [cfg.zero] } else s, ds, p) := by
  unfold serve
  rw [if_neg (Nat.not_lt_of_le hge)]
  cases s.goodx with
  | none => rfl
  | some p => dsimp only [orErr, bind, Except.bind]; split <;> rfl

/-- all phases over: `pull` returns the remembered point and changes nothing -/
theorem pull_done_ok (hd : cfg.N < s.phase) (h : pull ops cfg s time ds = .ok (s1, ds1, pt)) :
    s1 = s ∧ ds1 = ds ∧ s.goodx = some pt := by
  simp only [pull_done hd, ListAux.bind_eq_ok, orErr_eq_ok_iff] at h
  obtain ⟨p, hg, h⟩ := h
  cases h
  exact ⟨rfl, rfl, hg⟩

/-- exploring: the current learner — constructed now, with `rhoOf phase`, if `counter = 0` — proposes,
and its proposal is remembered -/
theorem pull_explore_ok (hd : s.phase ≤ cfg.N) (hlt : s.counter < cfg.half)
    (h : pull ops cfg s time ds = .ok (s1, ds1, pt)) :
    ∃ l l1, (if s.counter = 0 then ops.create (cfg.rhoOf s.phase) ds = .ok (l, ds1)
        else s.curr = some l ∧ ds1 = ds) ∧
      ops.pull l time = .ok (l1, pt) ∧
      s1 = { s with curr := some l1, goodx := some pt,
                    created := s.created + (if s.counter = 0 then 1 else 0) } := by
  by_cases h0 : s.counter = 0
  · rw [pull_first hd h0] at h
    obtain ⟨⟨l, ds0⟩, hcr, h⟩ := ListAux.bind_eq_ok.mp h
    simp only [serve_explore (s := { s with curr := some l, created := s.created + 1 }) hlt,
      ListAux.bind_eq_ok, orErr_eq_ok_iff] at h
    obtain ⟨_, hl, ⟨l1, _⟩, hp, h⟩ := h
    cases hl
    cases h
    exact ⟨l, l1, (if_pos h0).mpr hcr, hp, by rw [if_pos h0]⟩
  · simp only [pull_next hd h0, serve_explore hlt, ListAux.bind_eq_ok, orErr_eq_ok_iff] at h
    obtain ⟨l, hl, ⟨l1, _⟩, hp, h⟩ := h
    cases h
    exact ⟨l, l1, (if_neg h0).mpr ⟨hl, rfl⟩, hp, by rw [if_neg h0]; rfl⟩

/-- validating: no learner operation; the remembered point is returned, and recorded with score
`zero` the first time -/
theorem pull_validate_ok (hh : 1 ≤ cfg.half) (hd : s.phase ≤ cfg.N) (hge : cfg.half ≤ s.counter)
    (h : pull ops cfg s time ds = .ok (s1, ds1, pt)) :
    ds1 = ds ∧ s.goodx = some pt ∧ s1.phase = s.phase ∧ s1.counter = s.counter ∧ s1.curr = s.curr ∧
    s1.goodx = s.goodx ∧ s1.created = s.created ∧
    s1.V = (if s.counter = cfg.half then s.V ++ [cfg.zero] else s.V) ∧
    s1.Vx = (if s.counter = cfg.half then s.Vx ++ [pt] else s.Vx) := by
  simp only [pull_next hd (Nat.ne_of_gt (Nat.lt_of_lt_of_le hh hge)), serve_validate hge, ListAux.bind_eq_ok,
    orErr_eq_ok_iff] at h
  obtain ⟨p, hg, h⟩ := h
  cases h
  refine ⟨rfl, hg, ?_⟩
  split <;> exact ⟨rfl, rfl, rfl, rfl, rfl, rfl, rfl⟩

section
variable [LT S] [DecidableLT S]

/-- the tail of `receive` in a running phase: advance the counter, after `2·half` rounds the phase,
and after the last phase pick the validated point with the best score -/
def finish (cfg : GPOCfg R S ρ) (s1 : GPO L S Pt) (ds1 : List (Draw α)) :
    Except Err (GPO L S Pt × List (Draw α)) :=
  let s2 := { s1 with counter := s1.counter + 1 }
  if s2.counter ≥ 2 * cfg.half then
    let s3 := { s2 with phase := s2.phase + 1, counter := 0 }
    if s3.phase > cfg.N then
      match argmaxFirst s3.V with
      | none => .error .valueError
      | some i =>
        match s3.Vx[i]? with
        | none => .error .indexError
        | some p => return ({ s3 with goodx := some p }, ds1)
    else return (s3, ds1)
  else return (s2, ds1)

theorem finish_stay (h : s.counter + 1 < 2 * cfg.half) (ds : List (Draw α)) :
    finish cfg s ds = .ok ({ s with counter := s.counter + 1 }, ds) := by
  unfold finish
  exact if_neg (Nat.not_le_of_lt h)

theorem finish_next (h1 : 2 * cfg.half ≤ s.counter + 1) (h2 : s.phase + 1 ≤ cfg.N) (ds : List (Draw α)) :
    finish cfg s ds = .ok ({ s with phase := s.phase + 1, counter := 0 }, ds) := by
  unfold finish
  dsimp only
  rw [if_pos h1, if_neg (Nat.not_lt_of_le h2)]
  rfl

theorem finish_last (h1 : 2 * cfg.half ≤ s.counter + 1) (h2 : cfg.N < s.phase + 1) (ds : List (Draw α)) :
    finish cfg s ds = do
      let i ← orErr (argmaxFirst s.V) .valueError
      let p ← orErr s.Vx[i]? .indexError
      return ({ s with phase := s.phase + 1, counter := 0, goodx := some p }, ds) := by
  unfold finish
  dsimp only
  rw [if_pos h1, if_pos h2]
  cases argmaxFirst s.V with
  | none => rfl
  | some i => dsimp only [orErr, bind, Except.bind]; cases s.Vx[i]? <;> rfl

theorem receive_done (hd : cfg.N < s.phase) :
    receive ops cfg s time r ds = .ok (s, ds) := by
  unfold receive
  rw [if_pos hd]
  rfl

/-- no `finish` here: `counter < half` leaves room for `counter + 1` -/
theorem receive_explore (hd : s.phase ≤ cfg.N) (hlt : s.counter < cfg.half) :
    receive ops cfg s time r ds = do
      let l ← orErr s.curr .noneDeref
      let (l', ds') ← ops.receive l time r ds
      return ({ s with curr := some l', counter := s.counter + 1 }, ds') := by
  unfold receive
  rw [if_neg (Nat.not_lt_of_le hd), if_pos hlt]
  cases s.curr with
  | none => rfl
  | some l =>
    dsimp only [orErr, bind, Except.bind]
    cases ops.receive l time r ds with
    | error _ => rfl
    | ok o => exact if_neg (by dsimp only; omega)

theorem receive_validate (hd : s.phase ≤ cfg.N) (hge : cfg.half ≤ s.counter) :
    receive ops cfg s time r ds = (do
      let v ← orErr s.V[s.phase - 1]? .indexError
      finish cfg { s with V := s.V.set (s.phase - 1) (cfg.upd v (s.counter - cfg.half) r) } ds) := by
  unfold receive
  rw [if_neg (Nat.not_lt_of_le hd), if_neg (Nat.not_lt_of_le hge)]
  cases s.V[s.phase - 1]? <;> rfl

/-- what a successful `finish` did -/
theorem finish_ok (h : finish cfg s ds = .ok (s2, ds2)) :
    ds2 = ds ∧ s2.curr = s.curr ∧ s2.V = s.V ∧ s2.Vx = s.Vx ∧ s2.created = s.created ∧
    if s.counter + 1 < 2 * cfg.half then s2.phase = s.phase ∧ s2.counter = s.counter + 1 ∧ s2.goodx = s.goodx
    else s2.phase = s.phase + 1 ∧ s2.counter = 0 ∧
      if s.phase + 1 ≤ cfg.N then s2.goodx = s.goodx
      else ∃ i p, argmaxFirst s.V = some i ∧ s.Vx[i]? = some p ∧ s2.goodx = some p := by
  by_cases h1 : s.counter + 1 < 2 * cfg.half
  · rw [finish_stay h1] at h
    cases h
    rw [if_pos h1]
    exact ⟨rfl, rfl, rfl, rfl, rfl, rfl, rfl, rfl⟩
  rw [if_neg h1]
  by_cases h2 : s.phase + 1 ≤ cfg.N
  · rw [finish_next (Nat.le_of_not_lt h1) h2] at h
    cases h
    rw [if_pos h2]
    exact ⟨rfl, rfl, rfl, rfl, rfl, rfl, rfl, rfl⟩
  · simp only [finish_last (Nat.le_of_not_lt h1) (Nat.lt_of_not_le h2), ListAux.bind_eq_ok, orErr_eq_ok_iff] at h
    obtain ⟨i, hi, p, hp, h⟩ := h
    cases h
    rw [if_neg h2]
    exact ⟨rfl, rfl, rfl, rfl, rfl, rfl, rfl, i, p, hi, hp, rfl⟩

/-- Exploring (`counter < half`): `ops.pull` is called on the current learner — constructed in this
very `pull` with `rhoOf phase` if `counter = 0` — and `receive` hands the reward to that same
learner; scores and validated points are untouched.  Times and draws of `receive` are arbitrary. -/
theorem explore_round (hd : s.phase ≤ cfg.N) (hlt : s.counter < cfg.half)
    (hp : pull ops cfg s time ds = .ok (s1, ds1, pt)) (hr : receive ops cfg s1 time' r ds' = .ok (s2, ds2)) :
    ∃ l l1 l2,
      (if s.counter = 0 then ops.create (cfg.rhoOf s.phase) ds = .ok (l, ds1)
        else s.curr = some l ∧ ds1 = ds) ∧
      ops.pull l time = .ok (l1, pt) ∧ s1.curr = some l1 ∧
      ops.receive l1 time' r ds' = .ok (l2, ds2) ∧
      s2 = { s with curr := some l2, goodx := some pt, counter := s.counter + 1,
                    created := s.created + (if s.counter = 0 then 1 else 0) } := by
  obtain ⟨l, l1, hif, hpl, rfl⟩ := pull_explore_ok hd hlt hp
  simp only [receive_explore, hd, hlt, ListAux.bind_eq_ok, orErr_eq_ok_iff] at hr
  obtain ⟨_, hl, ⟨l2, _⟩, hrc, hr⟩ := hr
  cases hl
  cases hr
  exact ⟨l, l1, l2, hif, hpl, rfl, hrc, rfl⟩

/-- validating: the reward updates the score of the phase, then `finish` -/
theorem receive_validate_ok (hd : s.phase ≤ cfg.N) (hge : cfg.half ≤ s.counter)
    (h : receive ops cfg s time r ds = .ok (s2, ds2)) :
    ∃ v sV, s.V[s.phase - 1]? = some v ∧
      sV = { s with V := s.V.set (s.phase - 1) (cfg.upd v (s.counter - cfg.half) r) } ∧
      finish cfg sV ds = .ok (s2, ds2) := by
  simp only [receive_validate hd hge, ListAux.bind_eq_ok, orErr_eq_ok_iff] at h
  obtain ⟨v, hv, hf⟩ := h
  exact ⟨v, _, hv, rfl, hf⟩

/-- Validating (`counter ≥ half`): NO learner operation — the current learner and the draws are
untouched; `pull` returns the remembered point `goodx`, and `receive` updates `V[phase-1]`
(appended as `zero` by the `pull` when `counter = half`) with `k = counter - half`; then the
counter advances, or the next phase begins, or — after the last phase — the best point is chosen. -/
theorem validate_round (hh : 1 ≤ cfg.half) (hd : s.phase ≤ cfg.N) (hge : cfg.half ≤ s.counter)
    (hp : pull ops cfg s time ds = .ok (s1, ds1, pt)) (hr : receive ops cfg s1 time' r ds' = .ok (s2, ds2)) :
    (if s.counter + 1 < 2 * cfg.half then s2.phase = s.phase ∧ s2.counter = s.counter + 1 ∧ s2.goodx = some pt
      else s2.phase = s.phase + 1 ∧ s2.counter = 0 ∧
        if s.phase + 1 ≤ cfg.N then s2.goodx = some pt
        else ∃ i p, argmaxFirst s2.V = some i ∧ s2.Vx[i]? = some p ∧ s2.goodx = some p) ∧
    s2.created = s.created ∧
    s1.curr = s.curr ∧ s2.curr = s.curr ∧ ds1 = ds ∧ ds2 = ds' ∧ s.goodx = some pt ∧
    ∃ V1 v, V1 = (if s.counter = cfg.half then s.V ++ [cfg.zero] else s.V) ∧
      V1[s.phase - 1]? = some v ∧
      s2.V = V1.set (s.phase - 1) (cfg.upd v (s.counter - cfg.half) r) ∧
      s2.Vx = (if s.counter = cfg.half then s.Vx ++ [pt] else s.Vx) := by
  obtain ⟨rfl, hg, hph, hcn, hcu, hgx, hcr, hV, hVx⟩ := pull_validate_ok hh hd hge hp
  obtain ⟨v, sV, hv, rfl, hf⟩ := receive_validate_ok (hph ▸ hd) (hcn ▸ hge) hr
  obtain ⟨rfl, hc2, hV2, hVx2, hcr2, hsched⟩ := finish_ok hf
  rw [← hV2, ← hVx2] at hsched
  rw [hph, hV] at hv
  rw [hph, hcn, hV] at hV2
  exact ⟨by rw [← hph, ← hcn, ← hg, ← hgx]; exact hsched, hcr2.trans hcr, hcu, hc2.trans hcu, rfl, rfl, hg,
    _, v, rfl, hv, hV2, hVx2.trans hVx⟩

theorem inv_init (cfg : GPOCfg R S ρ) (hN : 1 ≤ cfg.N) (hh : 1 ≤ cfg.half) :
    Inv cfg (GPO.init : GPO L S Pt) := by
  refine { hph := by simp [GPO.init], hlen := rfl, run := ?_, done := ?_ }
  · intro _; simp [GPO.init]; omega
  · intro h; simp [GPO.init] at h; omega

/-- a `pull` and the `receive` after it (with whatever time and draws) keep the invariant -/
theorem inv_step (hh : 1 ≤ cfg.half) (hI : Inv cfg s) (hp : pull ops cfg s time ds = .ok (s1, ds1, pt))
    (hr : receive ops cfg s1 time' r ds' = .ok (s2, ds2)) : Inv cfg s2 := by
  rcases Nat.lt_or_ge cfg.N s.phase with hd | hd
  · obtain ⟨rfl, -, -⟩ := pull_done_ok hd hp
    rw [receive_done hd] at hr
    cases hr
    exact hI
  obtain ⟨hc2, hcr, hvl, hpos⟩ := hI.run hd
  have hlen := hI.hlen
  have hp1 := hI.hph
  have hpp : s.phase - 1 + 1 = s.phase := Nat.sub_add_cancel hp1.1
  have h2h : cfg.half < 2 * cfg.half := by rw [Nat.two_mul]; exact Nat.lt_add_of_pos_right hh
  have hnd : ¬ cfg.N < s.phase := Nat.not_lt_of_le hd
  rcases Nat.lt_or_ge s.counter cfg.half with hlt | hge
  · -- exploring: the learner of the phase exists now; nothing is validated yet in this phase
    obtain ⟨l, l1, l2, -, -, -, -, rfl⟩ := explore_round hd hlt hp hr
    refine { hph := hp1, hlen := hlen, done := fun h' => absurd h' hnd, run := fun _ =>
      ⟨Nat.lt_of_le_of_lt hlt h2h, ?_, ?_, fun _ => ⟨⟨l2, rfl⟩, pt, rfl, fun h' => absurd h' (Nat.not_lt_of_le hlt)⟩⟩ }
    · show s.created + _ = s.phase - 1 + if s.counter + 1 = 0 then 0 else 1
      rw [hcr, if_neg (Nat.succ_ne_zero _)]
      split <;> rfl
    · show s.V.length = s.phase - 1 + if cfg.half < s.counter + 1 then 1 else 0
      rw [hvl, if_neg (Nat.not_lt_of_le (Nat.le_of_lt hlt)), if_neg (Nat.not_lt_of_le hlt)]
  · -- validating: `goodx` is recorded at index `phase - 1` (the first time) and its score updated
    obtain ⟨hsched, hcr2, -, hcu2, -, -, hg, V1, v, rfl, -, hV2, hVx2⟩ := validate_round hh hd hge hp hr
    have hcpos : 0 < s.counter := Nat.lt_of_lt_of_le hh hge
    rw [if_neg (Nat.ne_of_gt hcpos)] at hcr
    obtain ⟨⟨lc, hcurr⟩, p, hgp, hvx⟩ := hpos hcpos
    cases hg.symm.trans hgp
    have hlists : s2.V.length = s.phase ∧ s2.Vx.length = s.phase ∧ s2.Vx[s.phase - 1]? = some pt := by
      rw [hV2, hVx2, List.length_set]
      by_cases hch : s.counter = cfg.half
      · rw [if_neg (by rw [hch]; exact Nat.lt_irrefl _), Nat.add_zero] at hvl
        rw [if_pos hch, if_pos hch, List.length_append, List.length_append, hlen, hvl, ← hvl, ← hlen]
        exact ⟨hlen ▸ hvl ▸ hpp, hlen ▸ hvl ▸ hpp, List.getElem?_concat_length⟩
      · have hl : cfg.half < s.counter := Nat.lt_of_le_of_ne hge (Ne.symm hch)
        rw [if_pos hl] at hvl
        rw [if_neg hch, if_neg hch, hlen, hvl]
        exact ⟨hpp, hpp, hvx hl⟩
    obtain ⟨hVl, hVxl, hVxp⟩ := hlists
    by_cases hs : s.counter + 1 < 2 * cfg.half
    · rw [if_pos hs] at hsched
      obtain ⟨hph, hcn, hg2⟩ := hsched
      refine { hph := hph ▸ hp1, hlen := hVxl.trans hVl.symm, done := fun h' => absurd (hph ▸ h') hnd, run := fun _ => ?_ }
      rw [hph, hcn, hVl, hcr2, hcr, hcu2, hg2, if_neg (Nat.succ_ne_zero _), if_pos (Nat.lt_succ_of_le hge), hpp]
      exact ⟨hs, rfl, rfl, fun _ => ⟨⟨lc, hcurr⟩, pt, rfl, fun _ => hVxp⟩⟩
    · rw [if_neg hs] at hsched
      obtain ⟨hph, hcn, hg2⟩ := hsched
      by_cases hnext : s.phase + 1 ≤ cfg.N
      · refine { hph := by rw [hph]; exact ⟨Nat.succ_pos _, Nat.le_succ_of_le hnext⟩, hlen := hVxl.trans hVl.symm,
                 done := fun h' => absurd (hph ▸ h') (Nat.not_lt_of_le hnext), run := fun _ => ?_ }
        rw [hph, hcn, hVl, hcr2, hcr, hpp, if_pos rfl, if_neg (Nat.not_lt_zero _)]
        exact ⟨Nat.lt_trans hh h2h, rfl, rfl, fun h' => absurd h' (Nat.lt_irrefl 0)⟩
      · rw [if_neg hnext] at hg2
        have hN : s.phase = cfg.N := Nat.le_antisymm hd (Nat.le_of_lt_succ (Nat.lt_of_not_le hnext))
        refine { hph := by rw [hph, hN]; exact ⟨Nat.succ_pos _, Nat.le_refl _⟩, hlen := hVxl.trans hVl.symm,
                 run := fun h' => absurd (hph ▸ h') hnext, done := fun _ => ?_ }
        rw [hVl, hcr2, hcr, hpp]
        exact ⟨hcn, hN, hN, hg2⟩

theorem pull_total (hh : 1 ≤ cfg.half) (hI : Inv cfg s) (hops : OpsTotal ops) (time : Nat) (ds : List (Draw α)) :
    ∃ s1 ds1 pt, pull ops cfg s time ds = .ok (s1, ds1, pt) := by
  obtain ⟨hcr, hpl, -⟩ := hops
  by_cases hd : cfg.N < s.phase
  · obtain ⟨-, -, -, i, p, -, -, hg⟩ := hI.done hd
    simp only [pull_done hd, hg, orErr_some, ok_bind]
    exact ⟨_, _, _, rfl⟩
  have hd' := Nat.le_of_not_lt hd
  by_cases h0 : s.counter = 0
  · obtain ⟨⟨l, ds1⟩, e1⟩ := hcr (cfg.rhoOf s.phase) ds
    obtain ⟨⟨l', pt⟩, e2⟩ := hpl l time
    have hlt : s.counter < cfg.half := by rw [h0]; exact hh
    simp only [pull_first hd' h0, e1, ok_bind, orErr_some, e2,
      serve_explore (s := { s with curr := some l, created := s.created + 1 }) hlt]
    exact ⟨_, _, _, rfl⟩
  · obtain ⟨⟨l, hl⟩, p, hg, -⟩ := (hI.run hd').2.2.2 (Nat.pos_of_ne_zero h0)
    rw [pull_next hd' h0]
    by_cases hlt : s.counter < cfg.half
    · obtain ⟨⟨l', pt⟩, e2⟩ := hpl l time
      simp only [serve_explore hlt, hl, e2, orErr_some, ok_bind]
      exact ⟨_, _, _, rfl⟩
    · simp only [serve_validate (Nat.le_of_not_lt hlt), hg, orErr_some, ok_bind]
      exact ⟨_, _, _, rfl⟩

/-- `finish` needs a best validated point only after the last phase: one exists when there is a
score, and a point for every score. -/
theorem finish_total (hlen : s1.Vx.length = s1.V.length)
    (hne : s1.V ≠ []) (ds : List (Draw α)) : ∃ s2 ds2, finish cfg s1 ds = .ok (s2, ds2) := by
  by_cases hs : s1.counter + 1 < 2 * cfg.half
  · exact ⟨_, _, finish_stay hs ds⟩
  by_cases hnext : s1.phase + 1 ≤ cfg.N
  · exact ⟨_, _, finish_next (Nat.le_of_not_lt hs) hnext ds⟩
  obtain ⟨i, hi⟩ := argmaxFirst_isSome hne
  have hil : i < s1.Vx.length := hlen ▸ argmaxFirst_lt_length hi
  simp only [finish_last (Nat.le_of_not_lt hs) (Nat.lt_of_not_le hnext), hi, List.getElem?_eq_getElem hil,
    orErr_some, ok_bind]
  exact ⟨_, _, rfl⟩

theorem receive_total (hh : 1 ≤ cfg.half) (hI : Inv cfg s) (hp : pull ops cfg s time ds = .ok (s1, ds1, pt))
    (hops : OpsTotal ops) (time' : Nat) (r : R) (ds' : List (Draw α)) :
    ∃ s2 ds2, receive ops cfg s1 time' r ds' = .ok (s2, ds2) := by
  obtain ⟨-, -, hrc⟩ := hops
  rcases Nat.lt_or_ge cfg.N s.phase with hd | hd
  · obtain ⟨rfl, -, -⟩ := pull_done_ok hd hp
    exact ⟨_, _, receive_done hd⟩
  rcases Nat.lt_or_ge s.counter cfg.half with hlt | hge
  · obtain ⟨l, l1, -, -, rfl⟩ := pull_explore_ok hd hlt hp
    obtain ⟨⟨l2, ds2⟩, e⟩ := hrc l1 time' r ds'
    simp only [receive_explore, hd, hlt, e, orErr_some, ok_bind]
    exact ⟨_, _, rfl⟩
  · obtain ⟨-, -, hph, hcn, -, -, -, hV, hVx⟩ := pull_validate_ok hh hd hge hp
    have hvl := (hI.run hd).2.2.1
    have hidx : s1.phase - 1 < s1.V.length := by
      rw [hph, hV]
      split <;> rename_i hch
      · rw [List.length_append, hvl, if_neg (by rw [hch]; exact Nat.lt_irrefl _)]; exact Nat.lt_succ_self _
      · rw [hvl, if_pos (Nat.lt_of_le_of_ne hge (Ne.symm hch))]; exact Nat.lt_succ_self _
    have hlen1 : s1.Vx.length = s1.V.length := by
      rw [hV, hVx]
      split
      · rw [List.length_append, List.length_append, hI.hlen]; rfl
      · exact hI.hlen
    simp only [receive_validate (hph ▸ hd) (hcn ▸ hge), List.getElem?_eq_getElem hidx, orErr_some, ok_bind]
    refine finish_total (by rw [List.length_set]; exact hlen1) (fun h => ?_) ds'
    rw [List.set_eq_nil_iff] at h
    rw [h] at hidx
    exact Nat.not_lt_zero _ hidx

end
end GPO
end PyXAB.MT

namespace PyXAB.MT.GPO
open PyXAB PyXAB.GPO
variable {L α R S Pt ρ : Type} {ops : LearnerOps L α R Pt ρ} {cfg : GPOCfg R S ρ} {s s1 s2 : GPO L S Pt}
  {time : Nat} {ds ds1 ds2 : List (Draw α)} {pt : Pt} {r : R}

/-! The model satisfies the effect predicates `GPO.PullEffect`, `GPO.RecvEffect` and the
intermediate invariant `GPO.Ready` which `Spec/MetaSpec.lean` publishes. -/

theorem pull_effect (hh : 1 ≤ cfg.half) (h : pull ops cfg s time ds = .ok (s1, ds1, pt)) :
    PullEffect ops cfg s time ds s1 ds1 pt := by
  unfold PullEffect
  rcases Nat.lt_or_ge cfg.N s.phase with hd | hd
  · obtain ⟨rfl, rfl, hg⟩ := pull_done_ok hd h
    rw [if_pos hd]
    exact ⟨rfl, rfl, rfl, rfl, hg⟩
  rw [if_neg (Nat.not_lt_of_le hd)]
  rcases Nat.lt_or_ge s.counter cfg.half with hlt | hge
  · obtain ⟨l, l1, hif, hpl, rfl⟩ := pull_explore_ok hd hlt h
    rw [if_pos hlt]
    refine ⟨rfl, rfl, l, l1, ?_, hpl, rfl, rfl, rfl, rfl⟩
    by_cases h0 : s.counter = 0
    · rw [if_pos h0] at hif ⊢
      exact ⟨hif, by rw [if_pos h0]⟩
    · rw [if_neg h0] at hif ⊢
      exact ⟨hif.1, hif.2, by rw [if_neg h0]; rfl⟩
  · obtain ⟨rfl, hg, hph, hcn, hcu, hgx, hcr, hV, hVx⟩ := pull_validate_ok hh hd hge h
    rw [if_neg (Nat.not_lt_of_le hge)]
    refine ⟨hph, hcn, hcu, rfl, hg, hgx, hcr, ?_⟩
    by_cases hch : s.counter = cfg.half
    · rw [if_pos hch] at hV hVx ⊢
      exact ⟨hVx, hV⟩
    · rw [if_neg hch] at hV hVx ⊢
      exact ⟨hVx, hV⟩

variable [LT S] [DecidableLT S]

theorem pull_ready (hI : Inv cfg s) (h : PullEffect ops cfg s time ds s1 ds1 pt) :
    Ready cfg s1 := by
  obtain ⟨hph, hcn, h⟩ := h
  by_cases hd : cfg.N < s.phase
  · rw [if_pos hd] at h
    obtain ⟨rfl, -, -⟩ := h
    exact { hph := hI.hph, hlen := hI.hlen, run := fun h' => absurd hd (Nat.not_lt_of_le h'), done := hI.done }
  rw [if_neg hd] at h
  obtain ⟨hc2, hcr, hvl, hpos⟩ := hI.run (Nat.le_of_not_lt hd)
  have hlen := hI.hlen
  have hp1 := hI.hph
  have hnd : ¬ cfg.N < s1.phase := hph ▸ hd
  by_cases hlt : s.counter < cfg.half
  · -- exploring: the learner of the phase exists now; nothing is validated yet in this phase
    rw [if_pos hlt] at h
    obtain ⟨l, l', hif, -, hc', hg', hV, hVx⟩ := h
    rw [if_neg (Nat.not_lt_of_le (Nat.le_of_lt hlt))] at hvl
    have hcr1 : s1.created = s.phase := by
      by_cases h0 : s.counter = 0
      · rw [if_pos h0] at hif hcr; rw [hif.2, hcr]; exact Nat.sub_add_cancel hp1.1
      · rw [if_neg h0] at hif hcr; rw [hif.2.2, hcr]; exact Nat.sub_add_cancel hp1.1
    refine { hph := hph ▸ hp1, hlen := by rw [hV, hVx]; exact hlen, run := fun _ => ?_, done := fun h' => absurd h' hnd }
    rw [hph, hcn, hV, hVx, hc', hg', if_neg (Nat.not_le_of_lt hlt)]
    exact ⟨hc2, hcr1, hvl, ⟨l', rfl⟩, pt, rfl, fun h' => absurd h' (Nat.not_le_of_lt hlt)⟩
  · -- validating: `goodx` is returned; the first time it is recorded, at index `phase - 1`
    rw [if_neg hlt] at h
    obtain ⟨hc', -, hg, hg', hcr', hif⟩ := h
    have hge := Nat.le_of_not_lt hlt
    have hcpos : 0 < s.counter := by omega
    rw [if_neg (Nat.ne_of_gt hcpos)] at hcr
    have hcr1 : s1.created = s.phase := hcr'.trans (hcr.trans (Nat.sub_add_cancel hp1.1))
    obtain ⟨hcurr, p, hgp, hvx⟩ := hpos hcpos
    cases hg.symm.trans hgp
    by_cases hch : s.counter = cfg.half
    · rw [if_pos hch] at hif
      rw [if_neg (by rw [hch]; exact Nat.lt_irrefl _)] at hvl
      refine { hph := hph ▸ hp1, hlen := ?_, run := fun _ => ?_, done := fun h' => absurd h' hnd }
      · rw [hif.1, hif.2, List.length_append, List.length_append, hlen]; rfl
      · rw [hph, hcn, hif.1, hif.2, hc', hg', if_pos hge, List.length_append, hvl]
        refine ⟨hc2, hcr1, rfl, hcurr, pt, hg, fun _ => ?_⟩
        rw [show s.phase - 1 = s.Vx.length from (hlen.trans hvl).symm]
        exact List.getElem?_concat_length
    · rw [if_neg hch] at hif
      have hl : cfg.half < s.counter := Nat.lt_of_le_of_ne hge (Ne.symm hch)
      rw [if_pos hl] at hvl
      refine { hph := hph ▸ hp1, hlen := by rw [hif.1, hif.2]; exact hlen, run := fun _ => ?_, done := fun h' => absurd h' hnd }
      rw [hph, hcn, hif.1, hif.2, hc', hg', if_pos hge]
      exact ⟨hc2, hcr1, hvl, hcurr, pt, hg, fun _ => hvx hl⟩

theorem receive_effect (h : receive ops cfg s time r ds = .ok (s2, ds2)) :
    RecvEffect ops cfg s time r ds s2 ds2 := by
  unfold RecvEffect
  rcases Nat.lt_or_ge cfg.N s.phase with hd | hd
  · rw [receive_done hd] at h
    cases h
    rw [if_pos hd]
    exact ⟨rfl, rfl⟩
  rw [if_neg (Nat.not_lt_of_le hd)]
  rcases Nat.lt_or_ge s.counter cfg.half with hlt | hge
  · simp only [receive_explore hd hlt, ListAux.bind_eq_ok, orErr_eq_ok_iff] at h
    obtain ⟨l, hl, ⟨l', _⟩, hp, h⟩ := h
    cases h
    rw [if_pos (show s.counter + 1 < 2 * cfg.half by omega), if_pos hlt]
    exact ⟨rfl, rfl, ⟨rfl, rfl, rfl⟩, l, l', hl, hp, rfl, rfl⟩
  · obtain ⟨v, sV, hv, rfl, hf⟩ := receive_validate_ok hd hge h
    obtain ⟨rfl, hc2, hV2, hVx2, hcr2, hsched⟩ := finish_ok hf
    rw [← hV2, ← hVx2] at hsched
    rw [if_neg (Nat.not_lt_of_le hge)]
    exact ⟨hVx2, hcr2, hsched, v, hv, hV2, hc2, rfl⟩

end PyXAB.MT.GPO
