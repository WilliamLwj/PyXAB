/-
  Concrete data for the counterexample and the non-vacuity examples of C11: a configuration over
  `ℚ`, the interval `[0,1]` with binary midpoint splits, and a 3-round run whose last round
  refines a cell whose arm sits on the common boundary of the two children.
-/
import PyXABProofs.Lemmas.ZM_Run
import Mathlib.Algebra.Order.Field.Rat

namespace PyXAB
namespace ZM
open Zooming _root_.PyXAB.Tree

/-- a simple configuration over `ℚ` (no square roots: `index = avg + 8*phase/(2+pulls)`,
refinement as soon as `pulls > depth`) -/
def exCfg : ZoomCfg ℚ ℚ :=
  { negInf := -1, zero := 0
    indexOf := fun avg ph n => avg + 8 * (ph : ℚ) / (2 + (n : ℚ))
    upd := fun avg n r => (avg * (n : ℚ) + r) / ((n : ℚ) + 1)
    refine := fun _ n d => decide (d + 1 ≤ n) }

def dom01 : Box ℚ := [⟨0, 1⟩]
def d0 : Draw ℚ := ⟨0, []⟩

/-- `[0,1]` after one binary midpoint split: cells `1 = [0,1/2]` and `2 = [1/2,1]`. -/
def cxP : Part ℚ Unit := getOk ((Part.init .binary dom01 ()).makeChildren () 0 true d0)

instance : Inhabited (Zooming ℚ ℚ) := ⟨⟨default, [], 0, 0, 0, none⟩⟩

theorem dom01_valid : Box.Valid dom01 := Box.valid_cons zero_le_one Box.valid_nil

def st0 : Zooming ℚ ℚ := (getOk (Zooming.init exCfg .binary dom01 [d0])).1
def pl (s : Zooming ℚ ℚ) : Zooming ℚ ℚ × Nat × List ℚ := getOk (pull exCfg s)
/-- `pull` then `receive r` (one draw supplied) -/
def rnd (s : Zooming ℚ ℚ) (r : ℚ) : Zooming ℚ ℚ := (getOk (receive exCfg (pl s).1 r [d0])).1

def st1 : Zooming ℚ ℚ := rnd st0 1
def st2 : Zooming ℚ ℚ := rnd st1 1
def st3 : Zooming ℚ ℚ := rnd st2 1

theorem good0 : GoodRun exCfg .binary dom01 st0 [] :=
  GoodRun.init (d := d0) (ds := []) (by decide) Nat.zero_lt_one
    (eq_ok_getOk (by decide +kernel))

/-- one more round of the concrete run, from the hypotheses a kernel evaluation can check -/
theorem goodStep {s : Zooming ℚ ℚ} {H : List (Nat × ℚ)} (g : GoodRun exCfg .binary dom01 s H)
    (r : ℚ) (h1 : ∀ a ∈ s.arms, exCfg.negInf ≤ idx exCfg s.phase a)
    (h2 : (pull exCfg s).isOk = true)
    (h3 : (receive exCfg (pl s).1 r [d0]).isOk = true) :
    GoodRun exCfg .binary dom01 (rnd s r) (H ++ [((pl s).2.1, r)]) := by
  have hp : pull exCfg s = .ok ((pl s).1, (pl s).2.1, (pl s).2.2) := eq_ok_getOk h2
  obtain ⟨hC, _, hk, hdim⟩ := goodRun_cover dom01_valid g
  obtain ⟨e, _⟩ := pull_inv hp
  refine GoodRun.round g h1 hp ?_ (eq_ok_getOk h3)
  rw [e]
  exact recvDrawsOK_binary exCfg (hC.with_best (some (pl s).2.1)) hk (d := d0) (ds' := [])
    (hdim ▸ Nat.zero_lt_one)

theorem good2 : GoodRun exCfg .binary dom01 st2
    ([] ++ [((pl st0).2.1, (1 : ℚ))] ++ [((pl st1).2.1, 1)]) :=
  goodStep (goodStep good0 1 (by decide +kernel) (by decide +kernel) (by decide +kernel)) 1
    (by decide +kernel) (by decide +kernel) (by decide +kernel)

theorem negInfLe2 : NegInfLe exCfg st2 := by
  show ∀ a ∈ st2.arms, exCfg.negInf ≤ idx exCfg st2.phase a
  decide +kernel

theorem pullOk2 : (pull exCfg st2).isOk = true := by decide +kernel

theorem recvOk2 : (receive exCfg (pl st2).1 1 [d0]).isOk = true := by decide +kernel

theorem pull2 : pull exCfg st2 = .ok ((pl st2).1, (pl st2).2.1, (pl st2).2.2) :=
  eq_ok_getOk pullOk2

theorem good3 : GoodRun exCfg .binary dom01 st3 [(1, 1), (0, 1), (1, 1)] := by
  have g3 := goodStep good2 1 negInfLe2 pullOk2 recvOk2
  have e : ([] ++ [((pl st0).2.1, (1 : ℚ))] ++ [((pl st1).2.1, 1)] ++ [((pl st2).2.1, 1)]) =
      [(1, 1), (0, 1), (1, 1)] := by decide +kernel
  exact e ▸ g3

/-- the state between the `pull` and the `receive` of round 3 satisfies the invariant -/
theorem cover_pulled2 : Cover dom01 (pl st2).1 := by
  rw [(pull_inv pull2).1]
  exact (goodRun_cover dom01_valid good2).1.with_best _

theorem kind_pulled2 : (pl st2).1.P.kind = .binary ∧ dimn (pl st2).1.P = 1 := by
  decide +kernel

theorem drawsOK_pulled2 : RecvDrawsOK exCfg (pl st2).1 [d0] :=
  recvDrawsOK_binary exCfg cover_pulled2 kind_pulled2.1 (kind_pulled2.2 ▸ Nat.zero_lt_one)

end ZM
end PyXAB
