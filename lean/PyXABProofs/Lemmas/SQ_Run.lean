/-
  Rounds and runs of SequOOL: `receive`, the two kinds of round (search / exhausted) as one
  relation `Round`, induction over the loop, and the recommendation `lastPoint`.
-/
import PyXABProofs.Lemmas.SQ_Pull

set_option linter.unusedSectionVars false

namespace PyXAB
namespace SQ
open Tree TBA

variable {α S : Type} [Add α] [Sub α] [Mul α] [Div α] [OfNat α 2] [NatCast α]
variable [LinearOrder S] [Inhabited S] {negInf : S}

theorem Inv.mem_chosen {s : SequOOL α S} (I : Inv negInf s) {c : Nat} :
    c ∈ s.chosen ↔ 1 ≤ c ∧ c ≤ s.chosen.length := by
  rw [I.chosen_eq, List.mem_range'_1, List.length_range']
  omega

theorem Inv.root_not_chosen {s : SequOOL α S} (I : Inv negInf s) : 0 ∉ s.chosen :=
  fun h => absurd (I.mem_chosen.1 h).1 (by omega)

theorem Inv.chosen_rew {s : SequOOL α S} (I : Inv negInf s) :
    ∀ id ∈ s.chosen, ∃ nd r, s.P.nodes[id]? = some nd ∧ nd.st.rewards = [r] ∧
      firstRew s.P id = some r := by
  intro id hid
  obtain ⟨h1, h2⟩ := I.mem_chosen.1 hid
  have hlt : id < s.P.nodes.length := by rw [I.len]; omega
  have hnd := List.getElem?_eq_getElem hlt
  match hr : (s.P.nodes[id]).st.rewards, (I.rew id _ hnd).1 h1 h2 with
  | [r], _ => exact ⟨_, r, hnd, hr, by simp [firstRew, hnd, hr]⟩

theorem receive_eq {s : SequOOL α S} {c : Nat} (h : s.curr = some c) (r : S) :
    SequOOL.receive s r = .ok (credit s c r) := by
  simp only [SequOOL.receive, h, credit]

/-- `receive` after a `pull` of the search phase re-establishes the invariant. -/
theorem receive_mid {s1 : SequOOL α S} (M : Mid negInf s1) (r : S) :
    SequOOL.receive s1 r = .ok (credit s1 s1.chosen.length r) ∧
      Inv negInf (credit s1 s1.chosen.length r) := by
  have := M.pos
  refine ⟨receive_eq M.curr r, ?_⟩
  show Core negInf (decide (0 < s1.loc)) s1.chosen.length (credit s1 s1.chosen.length r)
  exact M.core.credit r (Or.inr ⟨by omega, by omega, rfl, fun h => of_decide_eq_true h⟩)

theorem kind_credit (s : SequOOL α S) (c : Nat) (r : S) : (credit s c r).P.kind = s.P.kind := rfl

theorem dimn_credit (s : SequOOL α S) (c : Nat) (r : S) : dimn (credit s c r).P = dimn s.P :=
  (PRel_modifySt s.P c _).dimn_eq

theorem credit_node (s : SequOOL α S) (c : Nat) (r : S) {i : Nat} {nd : Node α (SqSt S)}
    (hi : s.P.nodes[i]? = some nd) :
    ∃ nd', (credit s c r).P.nodes[i]? = some nd' ∧ Skel nd nd' ∧
      nd'.st.opened = nd.st.opened ∧ (i ≠ c → nd'.st = nd.st) ∧
      (i = c → nd'.st.rewards = nd.st.rewards ++ [r]) := by
  obtain ⟨nd', n1, n2, n3⟩ := (PRel_modifySt s.P c _).node i nd hi
  exact ⟨nd', n1, n2, by rw [n3]; split <;> rfl, fun h => by rw [n3, if_neg h],
    fun h => by rw [n3, if_pos h]⟩

theorem pull_exhausted {s : SequOOL α S} (W : WF s.P) (hex : Exhausted s) (t : Nat)
    (ds : List (Draw α)) :
    SequOOL.pull negInf s t ds = .ok ({ s with iteration := t, curr := some 0 }, ds, 0) := by
  have hl := W.layer_zero
  exact pull_root hex hl t ds

/-- One round of the exhausted phase: the root is handed out and credited; nothing else
changes. -/
theorem round_exhausted {s : SequOOL α S} (I : Inv negInf s) (hex : Exhausted s) (t : Nat)
    (r : S) (ds : List (Draw α)) :
    round negInf s t r ds = .ok (credit { s with iteration := t, curr := some 0 } 0 r, 0) ∧
      Inv negInf (credit { s with iteration := t, curr := some 0 } 0 r) := by
  refine ⟨?_, (Core.iter I t (some 0)).credit r (Or.inl ⟨rfl, rfl⟩)⟩
  unfold round
  rw [pull_exhausted I.wf hex]
  simp only [receive_eq (s := { s with iteration := t, curr := some 0 }) rfl r]

theorem round_search (hbot : ∀ x : S, negInf ≤ x) {s : SequOOL α S} (I : Inv negInf s)
    (hcd : s.currDepth ≤ s.hmax) (t : Nat) (r : S) {ds : List (Draw α)}
    (hds : HeadOK s.P.kind (dimn s.P) ds) :
    ∃ s1, round negInf s t r ds = .ok (credit s1 (s.chosen.length + 1) r, s.chosen.length + 1) ∧
      SearchPull s s1 (s.chosen.length + 1) ∧ Mid negInf s1 ∧
      Inv negInf (credit s1 (s.chosen.length + 1) r) := by
  obtain ⟨s1, ds1, hp, M, SP⟩ := pull_search hbot (t := t) I hcd hds
  have hlen : s1.chosen.length = s.chosen.length + 1 := by rw [SP.chosen]; simp
  obtain ⟨h1, h2⟩ := receive_mid M r
  rw [hlen] at h1 h2
  refine ⟨s1, ?_, SP, M, h2⟩
  unfold round
  rw [hp]
  simp only [h1]

/-- The two kinds of round from the state `s` with reward `r`, leading to the state `s2` and
handing out `v`. -/
inductive Round (negInf : S) (s : SequOOL α S) (r : S) : SequOOL α S → Nat → Prop
  | exhausted (t : Nat) : Exhausted s →
      Round negInf s r (credit { s with iteration := t, curr := some 0 } 0 r) 0
  | search {s1 : SequOOL α S} : ¬ Exhausted s → SearchPull s s1 (s.chosen.length + 1) →
      Mid negInf s1 → Round negInf s r (credit s1 (s.chosen.length + 1) r) (s.chosen.length + 1)

/-- A round never raises from an invariant state, keeps the invariant, and is of one of the two
kinds. -/
theorem round_spec (hbot : ∀ x : S, negInf ≤ x) {s : SequOOL α S} (I : Inv negInf s) (t : Nat)
    (r : S) {ds : List (Draw α)} (hds : HeadOK s.P.kind (dimn s.P) ds) :
    ∃ s2 v, round negInf s t r ds = .ok (s2, v) ∧ Inv negInf s2 ∧ Round negInf s r s2 v := by
  by_cases hex : Exhausted s
  · obtain ⟨h1, h2⟩ := round_exhausted I hex t r ds
    exact ⟨_, 0, h1, h2, .exhausted t hex⟩
  · obtain ⟨s1, h1, SP, M, h2⟩ := round_search hbot I (Nat.le_of_not_lt hex) t r hds
    exact ⟨_, _, h1, h2, .search hex SP M⟩

namespace Round
variable {s s2 : SequOOL α S} {r : S} {v : Nat}

theorem hmax (h : Round negInf s r s2 v) : s2.hmax = s.hmax := by
  cases h with
  | exhausted => rfl
  | search _ SP _ => exact SP.hmax

theorem kind (h : Round negInf s r s2 v) : s2.P.kind = s.P.kind := by
  cases h with
  | exhausted => rfl
  | search _ SP _ => exact SP.kind

theorem dimn (h : Round negInf s r s2 v) : dimn s2.P = dimn s.P := by
  cases h with
  | exhausted => exact dimn_credit _ _ _
  | search _ SP _ => exact (dimn_credit _ _ _).trans SP.dimn

theorem depth_le (I : Inv negInf s) (h : Round negInf s r s2 v) : s.currDepth ≤ s2.currDepth := by
  cases h with
  | exhausted => exact Nat.le_refl _
  | @search s1 _ SP _ =>
    show s.currDepth ≤ s1.currDepth
    by_cases hl : s.loc + 1 = K s.P
    · by_cases h0 : s.currDepth = 0
      · rw [h0]; exact Nat.zero_le _
      · obtain ⟨_, b, layer, _, _, h⟩ := SP.last hl (Nat.pos_of_ne_zero h0)
        split at h
        · exact h.1 ▸ Nat.le_succ _
        · exact Nat.le_of_eq h.1.symm
    · exact Nat.le_of_eq (SP.next (Nat.lt_of_le_of_ne I.loc_lt hl)).2.1.symm

theorem of_exhausted (h : Round negInf s r s2 v) (hex : Exhausted s) :
    v = 0 ∧ s2.chosen = s.chosen ∧ s2.currDepth = s.currDepth := by
  cases h with
  | exhausted => exact ⟨rfl, rfl, rfl⟩
  | search hn _ _ => exact absurd hex hn

theorem of_search (h : Round negInf s r s2 v) (hn : ¬ Exhausted s) :
    v = s.chosen.length + 1 ∧ s2.chosen = s.chosen ++ [v] ∧
      ∃ nd, s2.P.nodes[v]? = some nd ∧ nd.st.rewards = [r] := by
  cases h with
  | exhausted _ hex => exact absurd hex hn
  | @search s1 _ SP M =>
    obtain ⟨nd, hnd, hr⟩ := M.last_cell
    rw [SP.chosen, List.length_append] at hnd
    obtain ⟨nd', n1, _, _, _, n2⟩ := credit_node s1 (s.chosen.length + 1) r hnd
    exact ⟨rfl, SP.chosen, nd', n1, by rw [n2 rfl, hr]; rfl⟩

/-- a round keeps the box and the child list of every cell, and the rewards of the cells handed
out before -/
theorem frame (I : Inv negInf s) (h : Round negInf s r s2 v) {i : Nat} {nd : Node α (SqSt S)}
    (hi : s.P.nodes[i]? = some nd) :
    ∃ nd', s2.P.nodes[i]? = some nd' ∧ nd'.box = nd.box ∧
      (∀ cs, nd.children = some cs → nd'.children = some cs) ∧
      (i ∈ s.chosen → nd'.st.rewards = nd.st.rewards) := by
  cases h with
  | exhausted =>
    obtain ⟨nd', n1, sk, _, n2, _⟩ := credit_node { s with iteration := _, curr := some 0 } 0 r hi
    exact ⟨nd', n1, sk.box, fun cs hc => sk.children.trans hc,
      fun hc => by rw [n2 fun e => I.root_not_chosen (e ▸ hc)]⟩
  | @search s1 _ SP _ =>
    obtain ⟨nd1, m1, m2, m3, m4⟩ := SP.frame i nd hi
    obtain ⟨nd', n1, sk, _, n2, _⟩ := credit_node s1 (s.chosen.length + 1) r m1
    refine ⟨nd', n1, sk.box.trans m3, fun cs hc => sk.children.trans (m4 cs hc), fun hc => ?_⟩
    have := (I.mem_chosen.1 hc).2
    rw [n2 (by omega), m2]

end Round

/-- `round_spec` with the two kinds of round spelt out in the fields the loop induction reads:
the id returned, `chosen` and `currDepth`. -/
theorem round_inv (hbot : ∀ x : S, negInf ≤ x) {s : SequOOL α S} (I : Inv negInf s) (t : Nat)
    (r : S) {ds : List (Draw α)} (hds : HeadOK s.P.kind (dimn s.P) ds) :
    ∃ s2 v, round negInf s t r ds = .ok (s2, v) ∧ Inv negInf s2 ∧ s2.hmax = s.hmax ∧
      s2.P.kind = s.P.kind ∧ dimn s2.P = dimn s.P ∧
      (Exhausted s → v = 0 ∧ s2.chosen = s.chosen ∧ s2.currDepth = s.currDepth) ∧
      (¬ Exhausted s → v = s.chosen.length + 1 ∧ s2.chosen = s.chosen ++ [v] ∧
        s.currDepth ≤ s2.currDepth) := by
  obtain ⟨s2, v, h1, I2, h⟩ := round_spec hbot I t r hds
  exact ⟨s2, v, h1, I2, h.hmax, h.kind, h.dimn, h.of_exhausted, fun hn =>
    ⟨(h.of_search hn).1, (h.of_search hn).2.1, h.depth_le I⟩⟩

theorem Exhausted.of_le {s s' : SequOOL α S} (h : Exhausted s) (hh : s'.hmax = s.hmax)
    (hd : s.currDepth ≤ s'.currDepth) : Exhausted s' := by
  unfold Exhausted at *; omega

/-- **Induction over the loop** from an invariant state: the loop never raises and keeps the
invariant; a relation `J` between the first state, the inputs, the last state and the history
holds if it holds of the empty run and is kept when a round is put in front. -/
theorem runRounds_ind (hbot : ∀ x : S, negInf ≤ x)
    {J : SequOOL α S → List (S × List (Draw α)) → SequOOL α S → List (Nat × S) → Prop}
    (nil : ∀ s, J s [] s [])
    (cons : ∀ {s s2 s' r ds rest v H}, Inv negInf s → Round negInf s r s2 v → Inv negInf s2 →
      J s2 rest s' H → J s ((r, ds) :: rest) s' ((v, r) :: H)) :
    ∀ (inputs : List (S × List (Draw α))) (s : SequOOL α S) (t : Nat), Inv negInf s →
      InputsOK s.P.kind (dimn s.P) inputs →
      ∃ s' H, runRounds negInf s t inputs = .ok (s', H) ∧ Inv negInf s' ∧ J s inputs s' H
  | [], s, _, I, _ => ⟨s, [], rfl, I, nil s⟩
  | (r, ds) :: rest, s, t, I, hin => by
    obtain ⟨s2, v, h1, I2, h⟩ := round_spec hbot I t r (hin (r, ds) (List.mem_cons_self ..))
    obtain ⟨s', H, g1, I', g2⟩ := runRounds_ind hbot nil cons rest s2 (t + 1) I2 (by
      rw [h.kind, h.dimn]; exact fun x hx => hin x (List.mem_cons_of_mem _ hx))
    exact ⟨s', (v, r) :: H, by simp only [runRounds, h1, g1], I', cons I h I2 g2⟩

/-- The history `H` of a run from `s` to `s'`: the search phase hands out the next `j` cells in
creation order, afterwards every `pull` returns the root. -/
def Hist (s : SequOOL α S) (inputs : List (S × List (Draw α))) (s' : SequOOL α S)
    (H : List (Nat × S)) : Prop :=
  s'.hmax = s.hmax ∧ s'.P.kind = s.P.kind ∧ dimn s'.P = dimn s.P ∧
    H.map (·.2) = inputs.map (·.1) ∧ s.currDepth ≤ s'.currDepth ∧
    ∃ j, j ≤ inputs.length ∧ (Exhausted s → j = 0) ∧ (j < inputs.length → Exhausted s') ∧
      s'.chosen = s.chosen ++ List.range' (s.chosen.length + 1) j ∧
      H.map (·.1) = List.range' (s.chosen.length + 1) j ++
        List.replicate (inputs.length - j) 0 ∧
      (¬ Exhausted s → inputs ≠ [] → 1 ≤ j)

/-- **Totality of the loop**, preservation of the invariant, and the history. -/
theorem runRounds_inv (hbot : ∀ x : S, negInf ≤ x) (inputs : List (S × List (Draw α)))
    (s : SequOOL α S) (t : Nat) (I : Inv negInf s) (hin : InputsOK s.P.kind (dimn s.P) inputs) :
    ∃ s' H, runRounds negInf s t inputs = .ok (s', H) ∧ Inv negInf s' ∧ Hist s inputs s' H := by
  refine runRounds_ind hbot (J := Hist) ?_ ?_ inputs s t I hin
  · exact fun s => ⟨rfl, rfl, rfl, rfl, Nat.le_refl _, 0, Nat.le_refl _, fun _ => rfl,
      fun h => absurd h (Nat.lt_irrefl _), by simp, by simp, fun _ h => absurd rfl h⟩
  · intro s s2 s' r ds rest v H I h I2 ⟨g2, g3, g4, g5, g6, j, j1, j2, j3, j4, j5, _⟩
    refine ⟨g2.trans h.hmax, g3.trans h.kind, g4.trans h.dimn,
      by rw [List.map_cons, List.map_cons, g5], Nat.le_trans (h.depth_le I) g6, ?_⟩
    by_cases hex : Exhausted s
    · obtain ⟨rfl, c1, c2⟩ := h.of_exhausted hex
      have hex2 : Exhausted s2 := hex.of_le h.hmax (Nat.le_of_eq c2.symm)
      obtain rfl := j2 hex2
      exact ⟨0, Nat.zero_le _, fun _ => rfl, fun _ => hex2.of_le g2 g6, by rw [j4, c1],
        by rw [List.map_cons, j5, c1]; rfl, fun h => absurd hex h⟩
    · obtain ⟨rfl, c1, -⟩ := h.of_search hex
      have hl2 : s2.chosen.length = s.chosen.length + 1 := by rw [c1, List.length_append]; rfl
      refine ⟨j + 1, Nat.succ_le_succ j1, fun h => absurd h hex,
        fun h => j3 (Nat.lt_of_succ_lt_succ h), ?_, ?_, fun _ _ => Nat.succ_pos j⟩
      · rw [j4, hl2, c1, List.range'_succ, List.append_assoc]; rfl
      · rw [List.map_cons, j5, hl2, List.range'_succ, List.length_cons, Nat.add_sub_add_right]
        rfl

/-- the cells handed out by the search rounds of a run are the ones which `chosen` gains -/
theorem Hist.search_cells {s s' : SequOOL α S} {inputs : List (S × List (Draw α))}
    {H : List (Nat × S)} (h : Hist s inputs s' H) :
    s'.chosen = s.chosen ++ (H.map (·.1)).filter (· != 0) := by
  obtain ⟨_, _, _, _, _, j, _, _, _, j4, j5, _⟩ := h
  rw [j4, j5, List.filter_append, List.filter_eq_self.2, List.filter_eq_nil_iff.2,
    List.append_nil]
  · intro v hv
    rw [(List.mem_replicate.1 hv).2]; exact Bool.false_ne_true
  · intro v hv
    exact bne_iff_ne.2 (Nat.ne_of_gt (Nat.lt_of_lt_of_le (Nat.succ_pos _) (List.mem_range'_1.1 hv).1))

/-- Over a run from `s` to `s'` the box and the child list of every cell are kept, as are the
rewards of the cells handed out before; every search cell of the history `H` carries the reward
of its round. -/
def Kept (s : SequOOL α S) (s' : SequOOL α S) (H : List (Nat × S)) : Prop :=
  (∀ (i : Nat) (nd : Node α (SqSt S)), s.P.nodes[i]? = some nd →
    ∃ nd', s'.P.nodes[i]? = some nd' ∧ nd'.box = nd.box ∧
      (∀ cs, nd.children = some cs → nd'.children = some cs) ∧
      (i ∈ s.chosen → nd'.st.rewards = nd.st.rewards)) ∧
  (∀ e ∈ H, e.1 ≠ 0 → ∃ nd, s'.P.nodes[e.1]? = some nd ∧ nd.st.rewards = [e.2])

theorem run_frame (hbot : ∀ x : S, negInf ≤ x) (inputs : List (S × List (Draw α)))
    (s : SequOOL α S) (t : Nat) (I : Inv negInf s) (hin : InputsOK s.P.kind (dimn s.P) inputs) :
    ∃ s' H, runRounds negInf s t inputs = .ok (s', H) ∧ Inv negInf s' ∧ Kept s s' H := by
  refine runRounds_ind hbot (J := fun s _ s' H => Kept s s' H) ?_ ?_ inputs s t I hin
  · exact fun s => ⟨fun i nd hi => ⟨nd, hi, rfl, fun _ h => h, fun _ => rfl⟩, fun _ h => nomatch h⟩
  · intro s s2 s' r ds rest v H I h I2 ⟨p1, p2⟩
    have hsub : ∀ i ∈ s.chosen, i ∈ s2.chosen := fun i hi => by
      by_cases hex : Exhausted s
      · rw [(h.of_exhausted hex).2.1]; exact hi
      · rw [(h.of_search hex).2.1]; exact List.mem_append_left _ hi
    refine ⟨fun i nd hi => ?_, fun e he hne => ?_⟩
    · obtain ⟨nd2, a1, a2, a3, a4⟩ := h.frame I hi
      obtain ⟨nd', b1, b2, b3, b4⟩ := p1 i nd2 a1
      exact ⟨nd', b1, b2.trans a2, fun cs hc => b3 cs (a3 cs hc),
        fun hc => (b4 (hsub i hc)).trans (a4 hc)⟩
    · rcases List.mem_cons.1 he with rfl | he
      · have hex : ¬ Exhausted s := fun hex => hne (h.of_exhausted hex).1
        obtain ⟨_, c1, nd, a1, a2⟩ := h.of_search hex
        obtain ⟨nd', b1, _, _, b4⟩ := p1 v nd a1
        exact ⟨nd', b1, (b4 (by rw [c1]; simp)).trans a2⟩
      · exact p2 e he hne

theorem lastPoint_eq {s : SequOOL α S} {res : Option Nat}
    (h : SequOOL.lastScan s.P s.chosen negInf none = .ok res) :
    SequOOL.lastPoint negInf s =
      match res with
      | some id => .ok id
      | none => .error .noneDeref := by
  simp only [SequOOL.lastPoint, bind, Except.bind, h]
  cases res <;> rfl

/-- crediting a cell outside `chosen` does not alter the recommendation -/
theorem lastPoint_credit {s s1 : SequOOL α S} {c : Nat} (r : S) (hc : c ∉ s.chosen)
    (eP : s1.P = s.P) (ec : s1.chosen = s.chosen) :
    SequOOL.lastPoint negInf (credit s1 c r) = SequOOL.lastPoint negInf s := by
  have : SequOOL.lastScan (credit s1 c r).P (credit s1 c r).chosen negInf none =
      SequOOL.lastScan s.P s.chosen negInf none := by
    simp only [credit]
    rw [ec, eP]
    apply lastScan_congr
    intro id hid
    unfold view
    rw [Part.getElem?_modifySt_ne _ (fun e : c = id => hc (e ▸ hid))]
  simp only [SequOOL.lastPoint, this]

end SQ
end PyXAB
