/-
  What `init`, `pull` and `receive_reward` of T-HOO and HCT/VHCT compute: for each function the
  successful runs, as an equivalence with the chain of its intermediate results.  Proofs about
  the tree bandits rewrite with these instead of unfolding the models.  ("Step" is one call of the
  bandit's interface; `Tree.Step`, the effect of one split on the arena, is in `Spec/Tree.lean` with its
  lemmas in `TreeInv`.)
-/
import PyXABProofs.Lemmas.PartBasic

set_option linter.unusedSectionVars false

namespace PyXAB
open ListAux

section descend
variable {α R S : Type} [LE S] [DecidableLE S] [Inhabited S] [Inhabited R]
  {P : Part α (TBSt R S)} {cont : Node α (TBSt R S) → Except Err Bool} {cur : Nat}
  {nd : Node α (TBSt R S)}

/-- The descent stops at a leaf, and where the loop test fails. -/
theorem descend_stop (hnd : P.nodes[cur]? = some nd) {go : Bool} (hgo : cont nd = .ok go)
    (h : go = false ∨ nd.children = none) (fuel : Nat) (acc : List Nat) :
    descend P cont (fuel + 1) cur acc = .ok acc := by
  simp only [descend, hnd, hgo, bind, Except.bind]
  rcases h with rfl | h
  · rfl
  · rw [h]; cases go <;> rfl

/-- Otherwise it moves to the child picked by `pickChild` on the B-values. -/
theorem descend_step (hnd : P.nodes[cur]? = some nd) (hgo : cont nd = .ok true) {cs : List Nat}
    (hc : nd.children = some cs) {m : Nat} (hm : pickChild (fun i => (P.stOf i).b) cs = some m)
    (fuel : Nat) (acc : List Nat) :
    descend P cont (fuel + 1) cur acc = descend P cont fuel m (acc ++ [m]) := by
  simp only [descend, hnd, hgo, bind, Except.bind, hc, hm]

end descend

/-- The end of the two `init`s: the expanded arena is wrapped into the initial state. -/
theorem bind_wrap_eq_ok {β γ δ : Type} {x : Except Err (β × γ)} {mk : β → δ} {s : δ} {c : γ} :
    ((x >>= fun r => match r with | (b, c') => pure (mk b, c')) = .ok (s, c)) ↔
      ∃ b, x = .ok (b, c) ∧ s = mk b := by
  rw [bind_eq_ok]
  constructor
  · rintro ⟨⟨b, c'⟩, h1, h2⟩
    cases h2
    exact ⟨b, h1, rfl⟩
  · rintro ⟨b, h1, rfl⟩
    exact ⟨(b, c), h1, rfl⟩

/-- The end of the `pull`s: the last element of the path found is the pulled cell. -/
theorem bind_getLast_eq_ok {β : Type} {x : Except Err (List Nat)} {mk : List Nat → β} {b : β}
    {v : Nat} :
    ((x >>= fun path =>
        match path.getLast? with
        | none => Except.error Err.badId
        | some v => pure (mk path, v)) = .ok (b, v)) ↔
      ∃ path, x = .ok path ∧ path.getLast? = some v ∧ b = mk path := by
  rw [bind_eq_ok]
  constructor
  · rintro ⟨path, h1, h2⟩
    cases hl : path.getLast? with
    | none => rw [hl] at h2; cases h2
    | some w => rw [hl] at h2; cases h2; exact ⟨path, h1, hl, rfl⟩
  · rintro ⟨path, h1, h2, rfl⟩
    exact ⟨path, h1, by rw [h2]; rfl⟩

namespace HOO
variable {α R S : Type} [Add α] [Sub α] [Mul α] [Div α] [OfNat α 2] [NatCast α]
variable [LE S] [DecidableLE S] [Max S] [Min S] [Inhabited S] [Inhabited R]

theorem init_eq_ok {cfg : HOOCfg R S} {k : Kind} {domain : Box α} {ds ds' : List (Draw α)}
    {s : HOO α R S} :
    init cfg k domain ds = .ok (s, ds') ↔
      ∃ P1, (Part.init k domain (st0 cfg)).expand (st0 cfg) 0 ds = .ok (P1, ds') ∧
        s = { P := P1, iteration := 0, path := none } := by
  unfold init
  exact bind_wrap_eq_ok (mk := fun P1 => ({ P := P1, iteration := 0, path := none } : HOO α R S))

theorem pull_eq_ok {s s1 : HOO α R S} {v : Nat} :
    pull s = .ok (s1, v) ↔
      ∃ path, descend s.P (fun _ => .ok true) (s.P.nodes.length + 1) 0 [0] = .ok path ∧
        path.getLast? = some v ∧ s1 = { s with path := some path } := by
  unfold pull
  exact bind_getLast_eq_ok

/-- The payload of a cell after one reward has been credited to it. -/
def credit (cfg : HOOCfg R S) (r : R) (st : TBSt R S) : TBSt R S :=
  { st with count := st.count + 1, rewards := st.rewards ++ [r],
            mean := cfg.meanOf (st.rewards ++ [r]) (st.count + 1) }

theorem updateReward_eq (cfg : HOOCfg R S) (P : Part α (TBSt R S)) (id : Nat) (r : R) :
    updateReward cfg P id r = P.modifySt id (credit cfg r) := rfl

/-- The payload pass of `receive`: credit the reward along the path, then recompute the mean
and U-value of every listed cell. -/
def creditPass (cfg : HOOCfg R S) (P : Part α (TBSt R S)) (path : List Nat) (r : R) :
    Part α (TBSt R S) :=
  forListed (path.foldl (fun P id => updateReward cfg P id r) P) (computeU cfg)

theorem receive_eq_ok {cfg : HOOCfg R S} {s s' : HOO α R S} {r : R} {ds ds' : List (Draw α)} :
    receive cfg s r ds = .ok (s', ds') ↔
      ∃ path last nd P3 P4, s.path = some path ∧ path.getLast? = some last ∧
        (creditPass cfg s.P path r).nodes[last]? = some nd ∧
        (if cfg.expandOK nd.depth = true then (creditPass cfg s.P path r).expand (st0 cfg) last ds
          else .ok (creditPass cfg s.P path r, ds)) = .ok (P3, ds') ∧
        backward cfg.negInf P3 = .ok P4 ∧
        s' = { s with P := P4, iteration := s.iteration + 1 } := by
  unfold receive creditPass
  dsimp only
  constructor
  · intro h
    split at h
    · cases h
    · next path hp =>
      split at h
      · cases h
      · next last hl =>
        split at h
        · cases h
        · next nd hn =>
          obtain ⟨⟨P3, ds1⟩, h1, h2⟩ := bind_eq_ok.1 h
          obtain ⟨P4, h3, h4⟩ := bind_eq_ok.1 h2
          cases h4
          exact ⟨path, last, nd, P3, P4, hp, hl, hn, h1, h3, rfl⟩
  · rintro ⟨path, last, nd, P3, P4, hp, hl, hn, h1, h3, rfl⟩
    simp only [hp, hl, hn]
    exact bind_eq_ok.2 ⟨(P3, ds'), h1, bind_eq_ok.2 ⟨P4, h3, rfl⟩⟩

end HOO

namespace HCT
variable {α R S : Type} [Add α] [Sub α] [Mul α] [Div α] [OfNat α 2] [NatCast α]
variable [LE S] [DecidableLE S] [Max S] [Min S] [Inhabited S] [Inhabited R]

theorem init_eq_ok {cfg : HCTCfg R S} {k : Kind} {domain : Box α} {ds ds' : List (Draw α)}
    {s : HCT α R S} :
    init cfg k domain ds = .ok (s, ds') ↔
      ∃ P1, (Part.init k domain (st0 cfg)).expand (st0 cfg) 0 ds = .ok (P1, ds') ∧
        s = { P := P1, iteration := 1, tauH := [cfg.zero], path := none } := by
  unfold init
  exact bind_wrap_eq_ok
    (mk := fun P1 => ({ P := P1, iteration := 1, tauH := [cfg.zero], path := none } : HCT α R S))

/-- The loop test of the descent: the count of the cell has reached its threshold
(VHCT: the cell's `tau`; HCT: the entry of `tau_h` at the depth of the cell). -/
def pullCont (cfg : HCTCfg R S) (tauH : List S) (nd : Node α (TBSt R S)) : Except Err Bool :=
  if cfg.variance then .ok (cfg.countGE nd.st.count nd.st.tau)
  else match tauH[nd.depth]? with
    | none => .error .indexError
    | some t => .ok (cfg.countGE nd.st.count t)

theorem pullCont_isOk {cfg : HCTCfg R S} {tauH : List S} {nd : Node α (TBSt R S)}
    (h : cfg.variance = false → nd.depth < tauH.length) : ∃ b, pullCont cfg tauH nd = .ok b := by
  unfold pullCont
  cases hv : cfg.variance with
  | true => exact ⟨_, rfl⟩
  | false =>
    simp only [Bool.false_eq_true, if_false, List.getElem?_eq_getElem (h hv)]
    exact ⟨_, rfl⟩

/-- `tau_h` as an HCT `pull` recomputes it. -/
def newTauH (cfg : HCTCfg R S) (s : HCT α R S) : List S :=
  cfg.zero :: (List.range' 1 s.P.depth).map (cfg.tauH (cfg.dtHalf (tPlus s.iteration)))

theorem length_newTauH (cfg : HCTCfg R S) (s : HCT α R S) :
    (newTauH cfg s).length = s.P.depth + 1 := by
  rw [newTauH, List.length_cons, List.length_map, List.length_range']

/-- `pull` first rewrites the thresholds (VHCT: every cell's `tau`; HCT: the table `tau_h`),
then descends. -/
theorem pull_eq_ok {cfg : HCTCfg R S} {s s1 : HCT α R S} {v : Nat} :
    pull cfg s = .ok (s1, v) ↔
      ∃ P1 tauH path,
        ((cfg.variance = true ∧
            refreshTau cfg (cfg.dtHalf (tPlus s.iteration)) s.P = .ok P1 ∧ tauH = s.tauH) ∨
          (cfg.variance = false ∧ P1 = s.P ∧ tauH = newTauH cfg s)) ∧
        descend P1 (pullCont cfg tauH) (P1.nodes.length + 1) 0 [0] = .ok path ∧
        path.getLast? = some v ∧ s1 = { s with P := P1, tauH := tauH, path := some path } := by
  unfold pull
  dsimp only
  rw [bind_eq_ok]
  constructor
  · rintro ⟨⟨P1, tauH⟩, h1, h2⟩
    obtain ⟨path, e1, e2, e3⟩ := bind_getLast_eq_ok.1 h2
    refine ⟨P1, tauH, path, ?_, e1, e2, e3⟩
    rcases Bool.eq_false_or_eq_true cfg.variance with hv | hv
    · rw [if_pos hv] at h1
      obtain ⟨Q, q1, q2⟩ := bind_eq_ok.1 h1
      cases q2
      exact Or.inl ⟨hv, q1, rfl⟩
    · rw [if_neg (Bool.eq_false_iff.1 hv)] at h1
      cases h1
      exact Or.inr ⟨hv, rfl, rfl⟩
  · rintro ⟨P1, tauH, path, hstage, e1, e2, e3⟩
    refine ⟨(P1, tauH), ?_, bind_getLast_eq_ok.2 ⟨path, e1, e2, e3⟩⟩
    rcases hstage with ⟨hv, q1, rfl⟩ | ⟨hv, rfl, rfl⟩
    · rw [if_pos hv]
      exact bind_eq_ok.2 ⟨P1, q1, rfl⟩
    · rw [if_neg (Bool.eq_false_iff.1 hv)]
      rfl

/-- The payload of a cell after one reward has been credited to it. -/
def credit (cfg : HCTCfg R S) (r : R) (st : TBSt R S) : TBSt R S :=
  let rs := st.rewards ++ [r]
  let st' := { st with count := st.count + 1, rewards := rs, mean := cfg.meanOf rs (st.count + 1) }
  if cfg.variance then { st' with var := cfg.varOf rs } else st'

theorem updateReward_eq (cfg : HCTCfg R S) (P : Part α (TBSt R S)) (id : Nat) (r : R) :
    updateReward cfg P id r = P.modifySt id (credit cfg r) := rfl

/-- The optional refresh of all U- and B-values at the start of `receive` (rounds whose
counter `it` is a power of two). -/
def refreshPass (cfg : HCTCfg R S) (it : Nat) (P : Part α (TBSt R S)) :
    Except Err (Part α (TBSt R S)) :=
  if it = tPlus it then backward cfg.negInf (forListed P (computeU cfg (cfg.dtOne (tPlus it))))
  else .ok P

/-- Credit the pulled cell, then recompute its mean and U-value. -/
def creditOne (cfg : HCTCfg R S) (dt : S) (P : Part α (TBSt R S)) (last : Nat) (r : R) :
    Part α (TBSt R S) :=
  (updateReward cfg P last r).modifyNode last (fun nd => { nd with st := computeU cfg dt nd })

/-- A successful `receive`: the refresh of power-of-two rounds, the reward credited to the pulled
cell `last` alone, a `backward` pass, and a split of `last` iff it is a leaf whose count has
reached `thr`, the threshold it is tested against: its own `tau` for VHCT, the entry of `tau_h`
at its depth for HCT. -/
theorem receive_eq_ok {cfg : HCTCfg R S} {s s' : HCT α R S} {r : R} {ds ds' : List (Draw α)} :
    receive cfg s r ds = .ok (s', ds') ↔
      ∃ path last P1 P4 nd thr P5, s.path = some path ∧ path.getLast? = some last ∧
        refreshPass cfg s.iteration s.P = .ok P1 ∧
        backward cfg.negInf (creditOne cfg (cfg.dtOne (tPlus s.iteration)) P1 last r) = .ok P4 ∧
        P4.nodes[last]? = some nd ∧
        (cfg.variance = true → thr = nd.st.tau) ∧
        (cfg.variance = false → s.tauH[nd.depth]? = some thr) ∧
        (if (nd.children.isNone && cfg.countGE nd.st.count thr) = true
          then P4.expand (st0 cfg) last ds else .ok (P4, ds)) = .ok (P5, ds') ∧
        s' = { s with P := P5, iteration := s.iteration + 1 } := by
  have hP3 : ∀ (P1 : Part α (TBSt R S)) (last : Nat),
      (match (updateReward cfg P1 last r).nodes[last]? with
        | none => updateReward cfg P1 last r
        | some nd => (updateReward cfg P1 last r).modifySt last
            (fun _ => computeU cfg (cfg.dtOne (tPlus s.iteration)) nd)) =
      creditOne cfg (cfg.dtOne (tPlus s.iteration)) P1 last r := fun P1 last =>
    Part.guarded_modifySt (fun nd _ => computeU cfg (cfg.dtOne (tPlus s.iteration)) nd)
      (fun h => by simp only [h]) (fun nd h => by simp only [h])
  have hthr : ∀ (nd : Node α (TBSt R S)) (thr : S),
      ((if cfg.variance = true then (.ok nd.st.tau : Except Err S)
        else match s.tauH[nd.depth]? with
          | none => .error .indexError
          | some t => .ok t) = .ok thr) ↔
      (cfg.variance = true → thr = nd.st.tau) ∧
        (cfg.variance = false → s.tauH[nd.depth]? = some thr) := by
    intro nd thr
    cases cfg.variance with
    | true =>
      exact ⟨fun h => ⟨fun _ => (Except.ok.inj h).symm, nofun⟩, fun h => by rw [h.1 rfl]; rfl⟩
    | false =>
      rw [if_neg Bool.false_ne_true]
      cases s.tauH[nd.depth]? with
      | none => exact ⟨nofun, fun h => nomatch h.2 rfl⟩
      | some t =>
        exact ⟨fun h => ⟨nofun, fun _ => congrArg some (Except.ok.inj h)⟩,
          fun h => congrArg Except.ok (Option.some.inj (h.2 rfl))⟩
  unfold receive refreshPass
  dsimp only
  constructor
  · intro h
    split at h
    · cases h
    · next path hp =>
      obtain ⟨P1, h1, h2⟩ := bind_eq_ok.1 h
      split at h2
      · cases h2
      · next last hl =>
        obtain ⟨P4, h3, h4⟩ := bind_eq_ok.1 h2
        have h3 := (congrArg (backward cfg.negInf) (hP3 P1 last)).symm.trans h3
        split at h4
        · cases h4
        · next nd hn =>
          obtain ⟨thr, h5, h6⟩ := bind_eq_ok.1 h4
          obtain ⟨⟨P5, ds1⟩, h7, h8⟩ := bind_eq_ok.1 h6
          cases h8
          exact ⟨path, last, P1, P4, nd, thr, P5, hp, hl, h1, h3, hn, ((hthr nd thr).1 h5).1,
            ((hthr nd thr).1 h5).2, h7, rfl⟩
  · rintro ⟨path, last, P1, P4, nd, thr, P5, hp, hl, h1, h3, hn, t1, t2, h7, rfl⟩
    simp only [hp]
    refine bind_eq_ok.2 ⟨P1, h1, ?_⟩
    simp only [hl]
    refine bind_eq_ok.2 ⟨P4, (congrArg (backward cfg.negInf) (hP3 P1 last)).trans h3, ?_⟩
    simp only [hn]
    exact bind_eq_ok.2 ⟨thr, (hthr nd thr).2 ⟨t1, t2⟩, bind_eq_ok.2 ⟨(P5, ds'), h7, rfl⟩⟩

end HCT
end PyXAB
