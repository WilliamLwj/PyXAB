/-
  Consequences of `Cover` (non-empty arm list, the cells of the arms tile the domain), `receive`
  from a `Cover` state after a `pull` (total, keeps `Cover`), and `Cover` along good runs.
-/
import PyXABProofs.Lemmas.ZM_Main
import PyXABProofs.Lemmas.ZM_Inv

set_option linter.unusedSectionVars false

namespace PyXAB
namespace ZM
open Zooming _root_.PyXAB.Tree

/-- Filtering positions and mapping them is filtering and mapping the list, when the tests and
the values agree position by position. -/
theorem filter_range'_map {β γ : Type} (p : β → Bool) (f : β → γ) (q : Nat → Bool)
    (g : Nat → γ) : ∀ (l : List β) (k : Nat),
      (∀ i x, l[i]? = some x → q (k + i) = p x ∧ g (k + i) = f x) →
      ((List.range' k l.length).filter q).map g = (l.filter p).map f
  | [], _, _ => rfl
  | x :: l, k, h => by
    have h0 : q k = p x ∧ g k = f x := h 0 x rfl
    have ih := filter_range'_map p f q g l (k + 1) fun i y hy => by
      rw [Nat.add_assoc, Nat.add_comm 1 i]; exact h (i + 1) y hy
    rw [List.length_cons, List.range'_succ, List.filter_cons, List.filter_cons, h0.1]
    cases p x
    · exact ih
    · rw [if_pos rfl, if_pos rfl, List.map_cons, List.map_cons, h0.2, ih]

/-- in an increasing list, what is below an element stands before it -/
theorem lt_mem_left {l₁ l₂ : List Nat} {c x : Nat} (h : (l₁ ++ c :: l₂).Pairwise (· < ·))
    (hx : x ∈ l₁ ++ c :: l₂) (hlt : x < c) : x ∈ l₁ := by
  rcases List.mem_append.1 hx with hx | hx
  · exact hx
  · rcases List.mem_cons.1 hx with rfl | hx
    · exact absurd hlt (Nat.lt_irrefl _)
    · exact absurd hlt
        (Nat.lt_asymm ((List.pairwise_cons.1 (List.pairwise_append.1 h).2.1).1 x hx))

section cover
variable {α R S : Type} [LinearOrder α]

theorem leafIds_boxes (P : Part α Unit) : (leafIds P).map (cellBox P) = leafBoxes P := by
  unfold leafIds leafBoxes
  rw [List.range_eq_range']
  refine filter_range'_map isLeafNode (·.box) _ _ P.nodes 0 ?_
  intro i x hx
  simp [Part.isLeaf, cellBox, hx, isLeafNode]

/-- **(1c)** the cells of the active arms tile the domain. -/
theorem Cover.arm_cells_tile {root : Box α} {s : Zooming α S} (hC : Cover root s) :
    Tiles (s.arms.map (fun a => cellBox s.P a.cell)) root := by
  have h1 : s.arms.map (fun a => cellBox s.P a.cell) =
      (s.arms.map (·.cell)).map (cellBox s.P) := by rw [List.map_map]; rfl
  rw [h1]
  refine Tiles.perm ?_ hC.tiles
  rw [← leafIds_boxes]
  exact (hC.cells_perm.map _).symm

theorem Cover.arms_ne_nil {root : Box α} {s : Zooming α S} (hC : Cover root s) :
    s.arms ≠ [] := by
  have W := hC.wf
  obtain ⟨_, hne, hmem⟩ := W.layers_mem _ _ W.lastLayer_spec
  obtain ⟨c, hc⟩ := List.exists_mem_of_ne_nil _ hne
  obtain ⟨nd, h1, h2⟩ := (hmem c).1 hc
  obtain ⟨a, ha, _⟩ := hC.leaf_arm c nd ⟨h1, W.leaf_of_deepest h1 h2⟩
  exact List.ne_nil_of_mem ha

theorem Cover.with_best {root : Box α} {s : Zooming α S} (hC : Cover root s) (b : Option Nat) :
    Cover root { s with best := b } :=
  ⟨hC.wf, hC.root_box, hC.tiles, hC.arm_leaf, hC.leaf_arm, hC.nodup⟩

/-- For `BinaryPartition` the NumPy guarantee is just "the split dimension is in range". -/
theorem recvDrawsOK_binary (cfg : ZoomCfg R S) {root : Box α} {s : Zooming α S}
    (hC : Cover root s) (hk : s.P.kind = .binary) {d : Draw α} {ds' : List (Draw α)}
    (hd : d.dim < dimn s.P) : RecvDrawsOK cfg s (d :: ds') := by
  intro i a nd _ _ hn _
  refine ⟨d, ds', rfl, ?_, ?_⟩
  · rw [hk]; exact hd
  · rw [hk]; show d.dim < nd.box.length
    rw [hC.wf.boxlen _ _ hn]; exact hd

end cover

section run
variable {α R S : Type} [Field α] [LinearOrder α] [IsStrictOrderedRing α]

/-- After a `pull` (`best = some i`) `receive` never raises and keeps the invariant (and the
kind and dimension of the partition). -/
theorem receive_total (cfg : ZoomCfg R S) {root : Box α} {s : Zooming α S} (hC : Cover root s)
    {i : Nat} {a : Arm α S} (hb : s.best = some i) (ha : s.arms[i]? = some a) (r : R)
    {ds : List (Draw α)} (hds : RecvDrawsOK cfg s ds) :
    ∃ s' ds', receive cfg s r ds = .ok (s', ds') ∧ Cover root s' ∧ s'.P.kind = s.P.kind ∧
      dimn s'.P = dimn s.P := by
  obtain ⟨nd, hn, _, h⟩ := receive_cases cfg hC hb ha r hds
  rcases h with ⟨_, e, hC'⟩ | ⟨_, d, ds'', P2, l₁, c, l₂, cn, _, _, _, St, _, _, _, _, e, hC'⟩
  · exact ⟨_, _, e, hC', rfl, rfl⟩
  · exact ⟨_, _, e, hC', St.kind_eq, St.dimn_eq hC.wf hn.1⟩

variable [LinearOrder S]

theorem goodRun_cover {cfg : ZoomCfg R S} {k : Kind} {domain : Box α} (hv : Box.Valid domain)
    {s : Zooming α S} {H : List (Nat × R)} (hG : GoodRun cfg k domain s H) :
    Cover domain s ∧ Run cfg k domain s H ∧ s.P.kind = k ∧ dimn s.P = domain.length := by
  induction hG with
  | @init d ds ds' s hdl hd hi =>
    obtain ⟨s0, e, hC, hk, hdim, _⟩ := init_cover cfg k domain d ds hv hdl hd
    rw [e] at hi
    cases hi
    exact ⟨hC, Run.init e, hk, hdim⟩
  | round _ _ hp hds hr ih =>
    obtain ⟨hC, hRun, hk, hdim⟩ := ih
    obtain ⟨rfl, a, ha, _⟩ := pull_inv hp
    obtain ⟨hC', hk', hdim'⟩ :=
      ListAux.of_eq_ok₂ (receive_total cfg (hC.with_best _) rfl ha _ hds) hr
    exact ⟨hC', Run.round hRun hp hr, hk'.trans hk, hdim'.trans hdim⟩

end run
end ZM
end PyXAB
