/-
  Optimism of DOO, geometry part: the invariant `GInv` ("every cell is a valid sub-box of the
  domain, the boxes of the leaves tile the domain, every cell is a cell box of the partition of
  the domain at its own depth") is established by `Part.init`, kept by payload-only updates and
  by every `make_children` on a leaf whose draw fits, hence by every replay (`TT.Replays`) of
  expansions of leaves; it also holds in the tree `ev.before` of every expansion event.
-/
import PyXABProofs.Spec.OptSpec
import PyXABProofs.Lemmas.TT_SW

set_option linter.unusedSectionVars false
set_option linter.unusedVariables false

namespace PyXAB
namespace OPT
open _root_.PyXAB.Tree TBA SW TT ZM

section plain
variable {α σ : Type}

theorem leafBoxes_prel {ρ : Nat → Node α σ → Node α σ → Prop} {P P' : Part α σ}
    (h : PRel ρ P P') : leafBoxes P' = leafBoxes P := by
  have key : P'.nodes.map (fun nd => (isLeafNode nd, nd.box)) =
      P.nodes.map (fun nd => (isLeafNode nd, nd.box)) := by
    apply List.ext_getElem?
    intro i
    simp only [List.getElem?_map]
    cases hi : P.nodes[i]? with
    | none =>
      have : P'.nodes[i]? = none := by
        rw [List.getElem?_eq_none_iff] at hi ⊢; rw [h.len]; exact hi
      simp [this]
    | some nd =>
      obtain ⟨nd', a1, a2, _⟩ := h.node i nd hi
      simp [a1, isLeafNode, a2.children, a2.box]
  have e : ∀ Q : Part α σ, leafBoxes Q =
      ((Q.nodes.map (fun nd => (isLeafNode nd, nd.box))).filter (·.1)).map (·.2) := by
    intro Q
    simp only [leafBoxes, List.filter_map, List.map_map]
    rfl
  rw [e, e, key]

end plain

section field
variable {α σ : Type} [Field α] [LinearOrder α] [IsStrictOrderedRing α]

/-- The geometric invariant of the tree of a run on the domain `root`. -/
structure GInv (k : Kind) (root : Box α) (P : Part α σ) : Prop where
  dom : DomInv k root P
  tiles : Tiles (leafBoxes P) root
  cells : CellsOf k root P

theorem GInv.init {k : Kind} {root : Box α} (hroot : Box.Valid root) (s0 : σ) :
    GInv k root (Part.init k root s0) := by
  refine ⟨DomInv.init hroot s0, by rw [leafBoxes_init]; exact Tiles.self hroot, fun i nd hi => ?_⟩
  obtain ⟨-, rfl⟩ := Part.getElem?_init.1 hi
  exact CellAt.root

theorem GInv.of_prel {ρ : Nat → Node α σ → Node α σ → Prop} {k : Kind} {root : Box α}
    {P P' : Part α σ} (hG : GInv k root P) (h : PRel ρ P P') : GInv k root P' := by
  refine ⟨DomInv.of_prel h hG.dom, by rw [leafBoxes_prel h]; exact hG.tiles, ?_⟩
  intro i nd' hi
  obtain ⟨nd, a1, a2, _⟩ := h.bwd hi
  rw [a2.box, a2.depth]
  exact hG.cells i nd a1

theorem GInv.makeChildren {k : Kind} {root : Box α} {P P' : Part α σ} {s0 : σ} {p : Nat}
    {nd : Node α σ} {nl : Bool} {d : Draw α} (hG : GInv k root P)
    (hp : P.nodes[p]? = some nd) (hleaf : nd.children = none)
    (hd : DrawFits k root nd.box d) (h : P.makeChildren s0 p nl d = .ok P') :
    GInv k root P' := by
  obtain ⟨ps, pv, pl⟩ := hG.dom.box p nd hp
  have hok : DrawOK k nd.box d := hd pv ps
  refine ⟨(makeChildren_dom hG.dom hp hd h).1,
    (tiles_step hG.tiles hp hleaf (hG.dom.kind ▸ hok) h).1, fun i x hi => ?_⟩
  rcases makeChildren_cases hp h hi with ⟨y, c, hy, rfl⟩ | ⟨hx, hdep⟩
  · exact hG.cells i y hy
  · rw [hdep]
    exact CellAt.child (hG.cells p nd hp) hok (hG.dom.kind ▸ hx)

/-- A replay of expansions of leaves with fitting draws keeps the invariant, and the invariant
holds in the tree of every expansion event. -/
theorem GInv.replays {S : Type} {k : Kind} {root : Box α} {s0 : σ} {P P' : Part α σ}
    {ds ds' : List (Draw α)} {tr : List (Ev α σ S)} (hG : GInv k root P)
    (h : Replays s0 P ds tr P' ds')
    (hleaf : ∀ ev ∈ tr, ∃ nd, ev.before.nodes[ev.id]? = some nd ∧ nd.children = none)
    (hE : EvDraws k root ds tr) : GInv k root P' ∧ ∀ ev ∈ tr, GInv k root ev.before := by
  refine h.inv (fun _ _ g hG => hG.of_prel g) (fun ev hev nd nl d P2 hG hp hd hm => ?_) hG hE
  obtain ⟨nd', hp', hlf⟩ := hleaf ev hev
  obtain rfl := getElem?_inj hp hp'
  exact hG.makeChildren hp hlf hd hm

end field
end OPT
end PyXAB
