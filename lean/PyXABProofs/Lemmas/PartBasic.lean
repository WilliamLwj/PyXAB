/-
  What the operations of the arena `Part` compute, for an arbitrary payload type `σ`:
  `modifyNode`/`modifySt` pointwise, `init`, the result of a successful `makeChildren`, and how a
  relation that holds across one `makeChildren` carries over to `makeChildrenD`, `expand` and
  `deepen`.  Also the few facts about `List` and `Except` these need.
-/
import PyXABModel.Model.TreeBandit
import PyXABProofs.Spec.Tree

namespace PyXAB

namespace ListAux

theorem bind_eq_ok {ε β γ : Type} {x : Except ε β} {f : β → Except ε γ} {y : γ} :
    (x >>= f) = .ok y ↔ ∃ a, x = .ok a ∧ f a = .ok y := by
  cases x with
  | error e => exact ⟨nofun, fun ⟨_, h, _⟩ => nomatch h⟩
  | ok a => exact ⟨fun h => ⟨a, rfl, h⟩, fun ⟨_, h, g⟩ => by cases h; exact g⟩

/-- What is known of the result of a computation that succeeds holds of whatever it returned. -/
theorem of_eq_ok₂ {ε β γ : Type} {x : Except ε (β × γ)} {Q : β → γ → Prop}
    (h : ∃ b c, x = .ok (b, c) ∧ Q b c) {b : β} {c : γ} (hb : x = .ok (b, c)) : Q b c := by
  obtain ⟨b', c', h1, h2⟩ := h
  cases h1.symm.trans hb
  exact h2

theorem foldl_inv {β γ : Type} (I : β → Prop) (f : β → γ → β) :
    ∀ (l : List γ) (b : β), I b → (∀ b x, x ∈ l → I b → I (f b x)) → I (l.foldl f b)
  | [], _, hb, _ => hb
  | x :: l, b, hb, hf =>
    foldl_inv I f l (f b x) (hf b x (List.mem_cons_self ..) hb)
      (fun b y hy => hf b y (List.mem_cons_of_mem _ hy))

theorem foldlM_inv {ε β γ : Type} (I : β → Prop) (f : β → γ → Except ε β) :
    ∀ (l : List γ) (b : β), I b → (∀ b x, x ∈ l → I b → ∃ b', f b x = .ok b' ∧ I b') →
      ∃ b', l.foldlM f b = .ok b' ∧ I b'
  | [], b, hb, _ => ⟨b, rfl, hb⟩
  | x :: l, b, hb, hf => by
    obtain ⟨b1, h1, h2⟩ := hf b x (List.mem_cons_self ..) hb
    obtain ⟨b2, h3, h4⟩ :=
      foldlM_inv I f l b1 h2 (fun b y hy => hf b y (List.mem_cons_of_mem _ hy))
    exact ⟨b2, by rw [List.foldlM_cons, h1]; exact h3, h4⟩

theorem foldlM_ok_inv {ε β γ : Type} (I : β → Prop) (f : β → γ → Except ε β) :
    ∀ (l : List γ) (b b' : β), I b → (∀ b x b', x ∈ l → I b → f b x = .ok b' → I b') →
      l.foldlM f b = .ok b' → I b'
  | [], b, b', hb, _, h => by cases h; exact hb
  | x :: l, b, b', hb, hf, h => by
    rw [List.foldlM_cons] at h
    obtain ⟨b1, h1, h2⟩ := bind_eq_ok.1 h
    exact foldlM_ok_inv I f l b1 b' (hf b x b1 (List.mem_cons_self ..) hb h1)
      (fun b y b' hy => hf b y b' (List.mem_cons_of_mem _ hy)) h2

theorem length_flatMap_const {β γ : Type} (f : β → List γ) (n : Nat) :
    ∀ l : List β, (∀ x ∈ l, (f x).length = n) → (l.flatMap f).length = n * l.length
  | [], _ => rfl
  | x :: l, h => by
    rw [List.flatMap_cons, List.length_append, h x (List.mem_cons_self ..),
      length_flatMap_const f n l (fun y hy => h y (List.mem_cons_of_mem _ hy)), List.length_cons,
      Nat.mul_succ, Nat.add_comm]

theorem getElem?_eq_none_of_length_eq {β γ : Type} {l : List β} {l' : List γ} {i : Nat}
    (hlen : l'.length = l.length) (h : l[i]? = none) : l'[i]? = none := by
  rw [List.getElem?_eq_none_iff] at h ⊢
  rw [hlen]; exact h

theorem split_at {β : Type} {l : List β} {p : Nat} {x : β} (h : l[p]? = some x) :
    ∃ t d, l = t ++ x :: d ∧ ∀ y, l.set p y = t ++ y :: d := by
  obtain ⟨hp, rfl⟩ := List.getElem?_eq_some_iff.1 h
  refine ⟨l.take p, l.drop (p + 1), by simp, fun y => ?_⟩
  rw [List.set_eq_take_append_cons_drop, if_pos hp]

end ListAux

namespace Tree

theorem lt_length_of_getElem? {β : Type} {l : List β} {i : Nat} {x : β} (h : l[i]? = some x) :
    i < l.length := (List.getElem?_eq_some_iff.1 h).1

theorem getElem?_inj {β : Type} {l : List β} {i : Nat} {x y : β} (hx : l[i]? = some x)
    (hy : l[i]? = some y) : x = y := by
  rw [hx] at hy; exact Option.some.inj hy

theorem eq_ok_getOk {β : Type} [Inhabited β] {x : Except Err β} (h : x.isOk = true) :
    x = .ok (getOk x) := by
  cases x with
  | ok a => rfl
  | error e => cases h

theorem isLeaf_iff {α σ : Type} {P : Part α σ} {i : Nat} :
    P.isLeaf i = true ↔ ∃ nd, P.nodes[i]? = some nd ∧ nd.children = none := by
  unfold Part.isLeaf
  cases P.nodes[i]? with
  | none => exact ⟨nofun, fun ⟨_, h, _⟩ => nomatch h⟩
  | some nd =>
    exact ⟨fun h => ⟨nd, rfl, Option.isNone_iff_eq_none.1 h⟩,
      fun ⟨_, h, g⟩ => by cases h; exact Option.isNone_iff_eq_none.2 g⟩

theorem isLeaf_eq_false_iff {α σ : Type} {P : Part α σ} {i : Nat} {nd : Node α σ}
    (h : P.nodes[i]? = some nd) : P.isLeaf i = false ↔ ∃ cs, nd.children = some cs := by
  unfold Part.isLeaf
  rw [h]
  show nd.children.isNone = false ↔ _
  cases nd.children with
  | none => exact ⟨nofun, fun ⟨_, h⟩ => nomatch h⟩
  | some cs => exact ⟨fun _ => ⟨cs, rfl⟩, fun _ => rfl⟩

end Tree

namespace Part
open Tree
variable {α σ : Type}

theorem modifyNode_kind (P : Part α σ) (i : Nat) (F : Node α σ → Node α σ) :
    (P.modifyNode i F).kind = P.kind := rfl

theorem modifyNode_layers (P : Part α σ) (i : Nat) (F : Node α σ → Node α σ) :
    (P.modifyNode i F).layers = P.layers := rfl

theorem modifyNode_depth (P : Part α σ) (i : Nat) (F : Node α σ → Node α σ) :
    (P.modifyNode i F).depth = P.depth := rfl

theorem length_modifyNode (P : Part α σ) (i : Nat) (F : Node α σ → Node α σ) :
    (P.modifyNode i F).nodes.length = P.nodes.length := List.length_modify ..

theorem getElem?_modifyNode (P : Part α σ) (i : Nat) (F : Node α σ → Node α σ) (j : Nat) :
    (P.modifyNode i F).nodes[j]? = (P.nodes[j]?).map (fun nd => if i = j then F nd else nd) :=
  List.getElem?_modify ..

theorem modifyNode_of_none {P : Part α σ} {i : Nat} (h : P.nodes[i]? = none)
    (F : Node α σ → Node α σ) : P.modifyNode i F = P := by
  unfold modifyNode
  rw [List.modify_eq_self (List.getElem?_eq_none_iff.1 h)]

/-- Only the value at the node stored at `i` matters. -/
theorem modifyNode_congr {P : Part α σ} {i : Nat} {F G : Node α σ → Node α σ}
    (h : ∀ nd, P.nodes[i]? = some nd → F nd = G nd) : P.modifyNode i F = P.modifyNode i G := by
  unfold modifyNode
  congr 1
  apply List.ext_getElem?
  intro j
  rw [List.getElem?_modify, List.getElem?_modify]
  cases hj : P.nodes[j]? with
  | none => rfl
  | some nd =>
    by_cases e : i = j
    · subst e; simp only [if_true, Option.map_eq_map, Option.map_some, h nd hj]
    · simp only [e, if_false]

theorem modifySt_kind (P : Part α σ) (i : Nat) (f : σ → σ) : (P.modifySt i f).kind = P.kind := rfl

theorem modifySt_layers (P : Part α σ) (i : Nat) (f : σ → σ) :
    (P.modifySt i f).layers = P.layers := rfl

theorem modifySt_depth (P : Part α σ) (i : Nat) (f : σ → σ) :
    (P.modifySt i f).depth = P.depth := rfl

theorem length_modifySt (P : Part α σ) (i : Nat) (f : σ → σ) :
    (P.modifySt i f).nodes.length = P.nodes.length := length_modifyNode ..

theorem getElem?_modifySt (P : Part α σ) (i : Nat) (f : σ → σ) (j : Nat) :
    (P.modifySt i f).nodes[j]? =
      (P.nodes[j]?).map (fun nd => if i = j then { nd with st := f nd.st } else nd) :=
  getElem?_modifyNode ..

theorem getElem?_modifySt_of {P : Part α σ} {i j : Nat} {nd : Node α σ}
    (h : P.nodes[j]? = some nd) (f : σ → σ) :
    (P.modifySt i f).nodes[j]? = some (if i = j then { nd with st := f nd.st } else nd) := by
  rw [getElem?_modifySt, h]; rfl

theorem getElem?_modifySt_ne (P : Part α σ) {i j : Nat} (h : i ≠ j) (f : σ → σ) :
    (P.modifySt i f).nodes[j]? = P.nodes[j]? := by
  rw [getElem?_modifySt]
  cases P.nodes[j]? with
  | none => rfl
  | some nd => simp only [h, if_false, Option.map_some]

theorem modifySt_of_none {P : Part α σ} {i : Nat} (h : P.nodes[i]? = none) (f : σ → σ) :
    P.modifySt i f = P := modifyNode_of_none h _

theorem modifySt_congr {P : Part α σ} {i : Nat} {f g : σ → σ}
    (h : ∀ nd, P.nodes[i]? = some nd → f nd.st = g nd.st) : P.modifySt i f = P.modifySt i g :=
  modifyNode_congr (fun nd hnd => by rw [h nd hnd])

theorem modifySt_const {P : Part α σ} {i : Nat} {nd : Node α σ} (h : P.nodes[i]? = some nd)
    (f : σ → σ) : P.modifySt i (fun _ => f nd.st) = P.modifySt i f :=
  modifySt_congr (fun x hx => by rw [getElem?_inj hx h])

/-- The guarded update `match P.nodes[i]? with | none => P | some nd => P.modifySt i (g nd)` of
`forListed`, `backwardLayer` and `refreshTau` is one `modifyNode`. -/
theorem guarded_modifySt {P Q : Part α σ} {i : Nat} (g : Node α σ → σ → σ)
    (hnone : P.nodes[i]? = none → Q = P)
    (hsome : ∀ nd, P.nodes[i]? = some nd → Q = P.modifySt i (g nd)) :
    Q = P.modifyNode i (fun nd => { nd with st := g nd nd.st }) := by
  cases hi : P.nodes[i]? with
  | none => rw [hnone hi, modifyNode_of_none hi]
  | some nd =>
    rw [hsome nd hi]
    exact modifyNode_congr (fun x hx => by rw [getElem?_inj hx hi])

theorem isLeaf_modifySt (P : Part α σ) (i : Nat) (f : σ → σ) (j : Nat) :
    (P.modifySt i f).isLeaf j = P.isLeaf j := by
  unfold isLeaf
  rw [getElem?_modifySt]
  cases P.nodes[j]? with
  | none => rfl
  | some nd => by_cases e : i = j <;> simp only [e, if_true, if_false, Option.map_some]

theorem stOf_eq [Inhabited σ] {P : Part α σ} {i : Nat} {nd : Node α σ}
    (h : P.nodes[i]? = some nd) : P.stOf i = nd.st := by
  simp only [stOf, h]

theorem stOf_congr [Inhabited σ] {P Q : Part α σ} {i : Nat} (h : Q.nodes[i]? = P.nodes[i]?) :
    Q.stOf i = P.stOf i := by
  simp only [stOf, h]

theorem stOf_of_nodes [Inhabited σ] {P : Part α σ} {Q : Nat → σ → Prop}
    (h : ∀ (i : Nat) (nd : Node α σ), P.nodes[i]? = some nd → Q i nd.st) {i : Nat}
    (hi : i < P.nodes.length) : Q i (P.stOf i) := by
  rw [stOf_eq (List.getElem?_eq_getElem hi)]
  exact h i _ (List.getElem?_eq_getElem hi)

theorem stOf_modifySt_ne [Inhabited σ] (P : Part α σ) {i j : Nat} (h : i ≠ j) (f : σ → σ) :
    (P.modifySt i f).stOf j = P.stOf j :=
  stOf_congr (getElem?_modifySt_ne P h f)

theorem stOf_modifySt [Inhabited σ] {P : Part α σ} {j : Nat} (hj : j < P.nodes.length) (i : Nat)
    (f : σ → σ) : (P.modifySt i f).stOf j = if i = j then f (P.stOf j) else P.stOf j := by
  have h := List.getElem?_eq_getElem hj
  rw [stOf_eq (getElem?_modifySt_of h f), stOf_eq h]
  split <;> rfl

theorem getElem?_init {k : Kind} {dom : Box α} {s0 : σ} {i : Nat} {nd : Node α σ} :
    (init k dom s0).nodes[i]? = some nd ↔
      i = 0 ∧ nd =
        { depth := 0, index := 1, parent := none, children := none, box := dom, st := s0 } := by
  cases i with
  | zero => exact ⟨fun h => ⟨rfl, (Option.some.inj h).symm⟩, fun h => h.2 ▸ rfl⟩
  | succ i => exact ⟨nofun, nofun⟩

theorem foldl_modifyNode_skeleton {γ : Type} (ix : γ → Nat) (F : γ → Node α σ → Node α σ) :
    ∀ (l : List γ) (P : Part α σ),
      (l.foldl (fun P x => P.modifyNode (ix x) (F x)) P).kind = P.kind ∧
      (l.foldl (fun P x => P.modifyNode (ix x) (F x)) P).layers = P.layers ∧
      (l.foldl (fun P x => P.modifyNode (ix x) (F x)) P).depth = P.depth ∧
      (l.foldl (fun P x => P.modifyNode (ix x) (F x)) P).nodes.length = P.nodes.length
  | [], _ => ⟨rfl, rfl, rfl, rfl⟩
  | x :: l, P => by
    rw [List.foldl_cons]
    obtain ⟨h1, h2, h3, h4⟩ := foldl_modifyNode_skeleton ix F l (P.modifyNode (ix x) (F x))
    exact ⟨h1, h2, h3, h4.trans (length_modifyNode ..)⟩

/-- Updating along a duplicate-free id list touches each listed node once, the others never. -/
theorem getElem?_foldl_modifyNode (F : Node α σ → Node α σ) :
    ∀ (l : List Nat) (P : Part α σ), l.Nodup → ∀ j,
      (l.foldl (fun P id => P.modifyNode id F) P).nodes[j]? =
        (P.nodes[j]?).map (fun nd => if j ∈ l then F nd else nd)
  | [], P, _, j => by
    rw [List.foldl_nil]
    cases P.nodes[j]? with
    | none => rfl
    | some nd => simp only [List.not_mem_nil, if_false, Option.map_some]
  | x :: l, P, hn, j => by
    rw [List.nodup_cons] at hn
    rw [List.foldl_cons, getElem?_foldl_modifyNode F l _ hn.2 j, getElem?_modifyNode]
    cases P.nodes[j]? with
    | none => rfl
    | some nd =>
      by_cases e : x = j
      · subst e
        simp only [hn.1, if_true, if_false, Option.map_some, List.mem_cons, true_or]
      · have e' : ¬ j = x := fun h => e h.symm
        simp only [e, e', if_false, Option.map_some, List.mem_cons, false_or]

theorem getElem?_foldl_modifySt (g : σ → σ) (l : List Nat) (P : Part α σ) (hn : l.Nodup)
    (j : Nat) :
    (l.foldl (fun P id => P.modifySt id g) P).nodes[j]? =
      (P.nodes[j]?).map (fun nd => if j ∈ l then { nd with st := g nd.st } else nd) :=
  getElem?_foldl_modifyNode _ l P hn j

theorem forListed_eq (P : Part α σ) (f : Node α σ → σ) :
    forListed P f =
      P.layers.flatten.foldl (fun P id => P.modifyNode id (fun nd => { nd with st := f nd })) P := by
  unfold forListed
  congr 1
  funext Q id
  exact guarded_modifySt (fun nd _ => f nd) (fun h => by simp only [h])
    (fun nd h => by simp only [h])

theorem forListed_skeleton (P : Part α σ) (f : Node α σ → σ) :
    (forListed P f).kind = P.kind ∧ (forListed P f).layers = P.layers ∧
      (forListed P f).depth = P.depth ∧ (forListed P f).nodes.length = P.nodes.length := by
  rw [forListed_eq]
  exact foldl_modifyNode_skeleton id _ _ P

/-- When the per-depth lists have no duplicates, `forListed P f` overwrites the payload of each
listed node by `f` of that node as it stands in `P`. -/
theorem getElem?_forListed {P : Part α σ} (hn : P.layers.flatten.Nodup) (f : Node α σ → σ)
    (j : Nat) :
    (forListed P f).nodes[j]? =
      (P.nodes[j]?).map (fun nd => if j ∈ P.layers.flatten then { nd with st := f nd } else nd) := by
  rw [forListed_eq]
  exact getElem?_foldl_modifyNode _ _ P hn j

section mk
variable [Add α] [Sub α] [Mul α] [Div α] [OfNat α 2] [NatCast α]

theorem length_newKids (k : Kind) (p : Nat) (nd : Node α σ) (s0 : σ) (d : Draw α) :
    (newKids k p nd s0 d).length = (childBoxes k nd.box d).length := List.length_mapIdx

theorem getElem?_newKids (k : Kind) (p : Nat) (nd : Node α σ) (s0 : σ) (d : Draw α) (j : Nat) :
    (newKids k p nd s0 d)[j]? = ((childBoxes k nd.box d)[j]?).map (fun b =>
      { depth := nd.depth + 1, index := childIndex k nd.box.length nd.index j, parent := some p,
        children := none, box := b, st := s0 }) := List.getElem?_mapIdx

theorem newKids_map_box (k : Kind) (p : Nat) (nd : Node α σ) (s0 : σ) (d : Draw α) :
    (newKids k p nd s0 d).map (·.box) = childBoxes k nd.box d := by
  apply List.ext_getElem?
  intro j
  rw [List.getElem?_map, getElem?_newKids]
  cases (childBoxes k nd.box d)[j]? <;> rfl

theorem of_getElem?_newKids {k : Kind} {p : Nat} {nd : Node α σ} {s0 : σ} {d : Draw α} {j : Nat}
    {cn : Node α σ} (h : (newKids k p nd s0 d)[j]? = some cn) :
    cn.depth = nd.depth + 1 ∧ cn.index = childIndex k nd.box.length nd.index j ∧
      cn.parent = some p ∧ cn.children = none ∧ (childBoxes k nd.box d)[j]? = some cn.box ∧
      cn.st = s0 := by
  rw [getElem?_newKids] at h
  cases hb : (childBoxes k nd.box d)[j]? with
  | none => rw [hb] at h; cases h
  | some b =>
    rw [hb] at h
    cases Option.some.inj h
    exact ⟨rfl, rfl, rfl, rfl, rfl, rfl⟩

theorem of_mem_newKids {k : Kind} {p : Nat} {nd : Node α σ} {s0 : σ} {d : Draw α}
    {cn : Node α σ} (h : cn ∈ newKids k p nd s0 d) :
    cn.depth = nd.depth + 1 ∧ cn.parent = some p ∧ cn.children = none ∧
      cn.box ∈ childBoxes k nd.box d ∧ cn.st = s0 := by
  obtain ⟨j, hj⟩ := List.mem_iff_getElem?.1 h
  obtain ⟨h1, _, h3, h4, h5, h6⟩ := of_getElem?_newKids hj
  exact ⟨h1, h3, h4, List.mem_of_getElem? h5, h6⟩

/-- `makeChildren` raises only for a dangling id, or when told not to open a layer that does
not exist yet. -/
theorem makeChildren_isOk {P : Part α σ} {p : Nat} {nd : Node α σ} (hp : P.nodes[p]? = some nd)
    {nl : Bool} (hnl : nl = false → nd.depth + 1 < P.layers.length) (s0 : σ) (d : Draw α) :
    ∃ P', P.makeChildren s0 p nl d = .ok P' := by
  unfold makeChildren
  simp only [hp]
  cases nl with
  | true => exact ⟨_, rfl⟩
  | false =>
    simp only [Bool.false_eq_true, if_false, hnl rfl, if_true]
    exact ⟨_, rfl⟩

/-- The state after a successful `makeChildren`: `nd` gets the new ids as its child list, the
new nodes are appended, and their ids are filed in a fresh last layer (`nl`) or appended to
layer `nd.depth + 1`. -/
theorem makeChildren_ok {P P' : Part α σ} {s0 : σ} {p : Nat} {nd : Node α σ} {nl : Bool}
    {d : Draw α} (hp : P.nodes[p]? = some nd) (h : P.makeChildren s0 p nl d = .ok P') :
    P'.kind = P.kind ∧
    P'.nodes = P.nodes.set p
        { nd with children := some (List.range' P.nodes.length (newKids P.kind p nd s0 d).length) }
      ++ newKids P.kind p nd s0 d ∧
    ((nl = true ∧
        P'.layers = P.layers ++ [List.range' P.nodes.length (newKids P.kind p nd s0 d).length] ∧
        P'.depth = P.depth + 1) ∨
      (nl = false ∧ nd.depth + 1 < P.layers.length ∧
        P'.layers = P.layers.modify (nd.depth + 1)
          (· ++ List.range' P.nodes.length (newKids P.kind p nd s0 d).length) ∧
        P'.depth = P.depth)) := by
  unfold makeChildren at h
  simp only [hp] at h
  cases nl with
  | true => cases h; exact ⟨rfl, rfl, Or.inl ⟨rfl, rfl, rfl⟩⟩
  | false =>
    simp only [Bool.false_eq_true, if_false] at h
    split at h
    · next hlt => cases h; exact ⟨rfl, rfl, Or.inr ⟨rfl, hlt, rfl, rfl⟩⟩
    · cases h

theorem makeChildren_valid {P P' : Part α σ} {s0 : σ} {p : Nat} {nl : Bool} {d : Draw α}
    (h : P.makeChildren s0 p nl d = .ok P') : ∃ nd, P.nodes[p]? = some nd := by
  cases hp : P.nodes[p]? with
  | none => unfold makeChildren at h; simp only [hp] at h; cases h
  | some nd => exact ⟨nd, rfl⟩

/-- The arena after a successful `makeChildren`, by index: old nodes other than `p` are kept,
`p` has the new child list, and the new nodes follow. -/
theorem makeChildren_getElem? {P P' : Part α σ} {s0 : σ} {p : Nat} {nd : Node α σ} {nl : Bool}
    {d : Draw α} (hp : P.nodes[p]? = some nd) (h : P.makeChildren s0 p nl d = .ok P') :
    P'.nodes.length = P.nodes.length + (newKids P.kind p nd s0 d).length ∧
    (∀ i, i ≠ p → i < P.nodes.length → P'.nodes[i]? = P.nodes[i]?) ∧
    P'.nodes[p]? = some
      { nd with children := some (List.range' P.nodes.length (newKids P.kind p nd s0 d).length) } ∧
    ∀ j, P'.nodes[P.nodes.length + j]? = (newKids P.kind p nd s0 d)[j]? := by
  obtain ⟨_, hn, _⟩ := makeChildren_ok hp h
  have hpl := lt_length_of_getElem? hp
  rw [hn]
  refine ⟨by rw [List.length_append, List.length_set], fun i hip hi => ?_, ?_, fun j => ?_⟩
  · rw [List.getElem?_append_left (by rw [List.length_set]; exact hi),
      List.getElem?_set_ne (Ne.symm hip)]
  · rw [List.getElem?_append_left (by rw [List.length_set]; exact hpl), List.getElem?_set_self hpl]
  · rw [List.getElem?_append_right (by rw [List.length_set]; exact Nat.le_add_right ..),
      List.length_set, Nat.add_sub_cancel_left]

theorem makeChildren_old {P P' : Part α σ} {s0 : σ} {p : Nat} {nd : Node α σ} {nl : Bool}
    {d : Draw α} (hp : P.nodes[p]? = some nd) (h : P.makeChildren s0 p nl d = .ok P') {i : Nat}
    {x : Node α σ} (hi : P.nodes[i]? = some x) :
    P'.nodes[i]? = some (if i = p then
      { x with children := some (List.range' P.nodes.length (newKids P.kind p nd s0 d).length) }
      else x) := by
  obtain ⟨_, hold, hat, _⟩ := makeChildren_getElem? hp h
  by_cases e : i = p
  · subst e; rw [if_pos rfl, hat, getElem?_inj hp hi]
  · rw [if_neg e, hold i e (lt_length_of_getElem? hi), hi]

theorem makeChildrenD_cons (P : Part α σ) (s0 : σ) (p : Nat) (nl : Bool) (d : Draw α)
    (ds : List (Draw α)) :
    P.makeChildrenD s0 p nl (d :: ds) = (P.makeChildren s0 p nl d).map (fun P' => (P', ds)) := by
  simp only [makeChildrenD, popDraw, bind, Except.bind]
  cases P.makeChildren s0 p nl d <;> rfl

theorem makeChildrenD_eq_ok {P P' : Part α σ} {s0 : σ} {p : Nat} {nl : Bool}
    {ds ds' : List (Draw α)} :
    P.makeChildrenD s0 p nl ds = .ok (P', ds') ↔
      ∃ d, ds = d :: ds' ∧ P.makeChildren s0 p nl d = .ok P' := by
  cases ds with
  | nil => exact ⟨nofun, fun ⟨_, h, _⟩ => nomatch h⟩
  | cons d ds =>
    rw [makeChildrenD_cons]
    cases hm : P.makeChildren s0 p nl d with
    | error e => exact ⟨nofun, fun ⟨_, h, g⟩ => by cases h; rw [hm] at g; cases g⟩
    | ok Q =>
      constructor
      · intro h; cases h; exact ⟨d, rfl, hm⟩
      · rintro ⟨_, h, g⟩; cases h; rw [hm] at g; cases g; rfl

theorem expand_eq {P : Part α σ} {p : Nat} {nd : Node α σ} (hp : P.nodes[p]? = some nd) (s0 : σ)
    (ds : List (Draw α)) :
    P.expand s0 p ds = P.makeChildrenD s0 p (decide (nd.depth ≥ P.depth)) ds := by
  unfold expand; simp only [hp]

theorem expand_eq_ok {P P' : Part α σ} {s0 : σ} {p : Nat} {ds ds' : List (Draw α)} :
    P.expand s0 p ds = .ok (P', ds') ↔
      ∃ nd d, P.nodes[p]? = some nd ∧ ds = d :: ds' ∧
        P.makeChildren s0 p (decide (nd.depth ≥ P.depth)) d = .ok P' := by
  cases hp : P.nodes[p]? with
  | none =>
    unfold expand
    simp only [hp]
    exact ⟨nofun, fun ⟨_, _, h, _⟩ => nomatch h⟩
  | some nd =>
    rw [expand_eq hp, makeChildrenD_eq_ok]
    exact ⟨fun ⟨d, h, g⟩ => ⟨nd, d, rfl, h, g⟩, fun ⟨_, d, e, h, g⟩ => by cases e; exact ⟨d, h, g⟩⟩

section lift
variable {R : Part α σ → Part α σ → Prop} {s0 : σ}
  (hmk : ∀ (P P' : Part α σ) (p : Nat) (nl : Bool) (d : Draw α),
    P.makeChildren s0 p nl d = .ok P' → R P P')
include hmk

theorem lift_makeChildrenD {P P' : Part α σ} {p : Nat} {nl : Bool} {ds ds' : List (Draw α)}
    (h : P.makeChildrenD s0 p nl ds = .ok (P', ds')) : R P P' := by
  obtain ⟨d, _, hm⟩ := makeChildrenD_eq_ok.1 h
  exact hmk P P' p nl d hm

theorem lift_expand {P P' : Part α σ} {p : Nat} {ds ds' : List (Draw α)}
    (h : P.expand s0 p ds = .ok (P', ds')) : R P P' := by
  obtain ⟨nd, d, _, _, hm⟩ := expand_eq_ok.1 h
  exact hmk P P' p _ d hm

variable (hrefl : ∀ P, R P P)
include hrefl

/-- The conditional expansion of the three `receive_reward`s. -/
theorem lift_expand_if {P P' : Part α σ} {p : Nat} {c : Bool} {ds ds' : List (Draw α)}
    (h : (if c = true then P.expand s0 p ds else .ok (P, ds)) = .ok (P', ds')) : R P P' := by
  cases c with
  | true => exact lift_expand hmk (by simpa only [if_true] using h)
  | false =>
    simp only [Bool.false_eq_true, if_false, Except.ok.injEq, Prod.mk.injEq] at h
    exact h.1 ▸ hrefl P

variable (htrans : ∀ P Q T, R P Q → R Q T → R P T)
include htrans

theorem lift_deepenLoop (depth0 : Nat) :
    ∀ (fuel i : Nat) (P P' : Part α σ) (ds ds' : List (Draw α)),
      deepenLoop s0 depth0 fuel i P ds = .ok (P', ds') → R P P'
  | 0, _, P, P', ds, ds', h => by
    simp only [deepenLoop, Except.ok.injEq, Prod.mk.injEq] at h
    exact h.1 ▸ hrefl P
  | fuel + 1, i, P, P', ds, ds', h => by
    unfold deepenLoop at h
    split at h
    · cases h
    · split at h
      · cases h
      · obtain ⟨⟨P1, ds1⟩, h1, h2⟩ := ListAux.bind_eq_ok.1 h
        exact htrans _ _ _ (lift_makeChildrenD hmk h1)
          (lift_deepenLoop depth0 fuel (i + 1) P1 P' ds1 ds' h2)

theorem lift_deepen {P P' : Part α σ} {ds ds' : List (Draw α)}
    (h : P.deepen s0 ds = .ok (P', ds')) : R P P' := by
  unfold deepen at h
  split at h
  · cases h
  · exact lift_deepenLoop hmk hrefl htrans _ _ _ _ _ _ _ h

end lift

end mk
end Part
end PyXAB
