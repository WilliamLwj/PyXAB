/-
  Tree-level facts for VROOM: growth relation, layer sizes from "all shallow cells are
  internal", geometry of one expansion, `deepen`, and the construction `VROOM.init`.
-/
import PyXABProofs.Spec.VroomSpec
import PyXABProofs.Lemmas.TBA_Rel
import PyXABProofs.Props.C02
import Mathlib.Data.List.Nodup

set_option linter.unusedSectionVars false

namespace PyXAB
namespace VR
open _root_.PyXAB.Tree TBA

section grow
variable {α σ : Type} {s0 : σ} {d : Nat} {P P' P'' : Part α σ}

theorem Grow.refl (s0 : σ) (d : Nat) (P : Part α σ) : Grow s0 d P P where
  kind := rfl
  dimn := rfl
  len := Nat.le_refl _
  old := fun _ nd h => ⟨nd, h, rfl, rfl, rfl, rfl, rfl, fun _ => rfl⟩
  new := fun _ _ h hi => absurd (lt_length_of_getElem? h) (Nat.not_lt_of_le hi)
  layers := fun _ _ => rfl
  depth := Nat.le_refl _

theorem Grow.inv (h : Grow s0 d P P') {i : Nat} {x' : Node α σ} (hx : P'.nodes[i]? = some x') :
    (∃ x, P.nodes[i]? = some x ∧ x'.depth = x.depth ∧ x'.st = x.st ∧
      (x.children ≠ none → x'.children = x.children)) ∨
    (P.nodes.length ≤ i ∧ d < x'.depth ∧ x'.st = s0) := by
  by_cases hi : i < P.nodes.length
  · obtain ⟨y, y0, y1, _, _, _, y5, y6⟩ := h.old i _ (List.getElem?_eq_getElem hi)
    obtain rfl := getElem?_inj y0 hx
    exact Or.inl ⟨_, List.getElem?_eq_getElem hi, y1, y5, y6⟩
  · exact Or.inr ⟨Nat.le_of_not_lt hi, h.new i x' hx (Nat.le_of_not_lt hi)⟩

theorem Grow.trans (h1 : Grow s0 d P P') (h2 : Grow s0 d P' P'') : Grow s0 d P P'' where
  kind := h2.kind.trans h1.kind
  dimn := h2.dimn.trans h1.dimn
  len := Nat.le_trans h1.len h2.len
  old := by
    intro i nd hi
    obtain ⟨b, b0, b1, b2, b3, b4, b5, b6⟩ := h1.old i nd hi
    obtain ⟨c, c0, c1, c2, c3, c4, c5, c6⟩ := h2.old i b b0
    refine ⟨c, c0, c1.trans b1, c2.trans b2, c3.trans b3, c4.trans b4, c5.trans b5, fun hn => ?_⟩
    have := b6 hn
    rw [c6 (by rw [this]; exact hn), this]
  new := by
    intro i nd'' hi hle
    rcases h2.inv hi with ⟨x, x0, x1, x5, _⟩ | ⟨_, hn⟩
    · obtain ⟨e1, e2⟩ := h1.new i x x0 hle
      exact ⟨x1 ▸ e1, x5.trans e2⟩
    · exact hn
  layers := fun h hh => (h2.layers h hh).trans (h1.layers h hh)
  depth := Nat.le_trans h1.depth h2.depth

theorem Grow.mono {d' : Nat} (h : Grow s0 d P P') (hd : d' ≤ d) : Grow s0 d' P P' where
  kind := h.kind
  dimn := h.dimn
  len := h.len
  old := h.old
  new := fun i nd' hi hle => by
    obtain ⟨e1, e2⟩ := h.new i nd' hi hle
    exact ⟨Nat.lt_of_le_of_lt hd e1, e2⟩
  layers := fun k hk => h.layers k (Nat.le_trans hk hd)
  depth := h.depth

theorem Grow.K_eq (h : Grow s0 d P P') : K P' = K P := by
  simp only [K, h.dimn, h.kind]

theorem Grow.of_step {p : Nat} {nd : Node α σ} (W : WF P) (S : Step P P' s0 p nd)
    (hp : P.nodes[p]? = some nd) (hleaf : nd.children = none) (hd : d ≤ nd.depth) :
    Grow s0 d P P' where
  kind := S.kind_eq
  dimn := S.dimn_eq W hp
  len := S.len ▸ Nat.le_add_right _ _
  old := by
    intro i x hx
    obtain ⟨x', g0, g1, g2, g3, g4, g5, g6, g7⟩ := S.pres hp hx
    refine ⟨x', g0, g1, g2, g3, g4, g5, fun hn => g6 fun hip => ?_⟩
    subst hip
    exact hn (getElem?_inj hp hx ▸ hleaf)
  new := by
    intro i x' hx hle
    rcases S.inv hp hx with ⟨x, h0, _⟩ | ⟨j, _, _, hdep, _, _, _, _, hst⟩
    · exact absurd (lt_length_of_getElem? h0) (Nat.not_lt_of_le hle)
    · exact ⟨hdep ▸ Nat.lt_succ_of_le hd, hst⟩
  layers := fun h hh => S.layers_keep (Nat.le_trans hh hd)
    (W.layers_len ▸ Nat.lt_succ_of_le (Nat.le_trans (Nat.le_trans hh hd) (W.depth_le p nd hp)))
  depth := S.depth_eq ▸ Nat.le_max_left _ _

theorem Grow.children (h : Grow s0 d P P') {i : Nat} {nd : Node α σ} {cs : List Nat}
    (hi : P.nodes[i]? = some nd) (hc : nd.children = some cs) :
    ∃ nd', P'.nodes[i]? = some nd' ∧ nd'.children = some cs := by
  obtain ⟨nd', g0, _, _, _, _, _, g6⟩ := h.old i nd hi
  exact ⟨nd', g0, by rw [g6 (by rw [hc]; exact Option.some_ne_none cs), hc]⟩

theorem boxOf_eq {c : Nat} {nd : Node α σ} (h : P.nodes[c]? = some nd) : boxOf P c = nd.box := by
  simp only [boxOf, h]

theorem Grow.boxOf_eq (h : Grow s0 d P P') {i : Nat} (hi : i < P.nodes.length) :
    boxOf P' i = boxOf P i := by
  obtain ⟨nd', g0, _, _, _, g4, _⟩ := h.old i _ (List.getElem?_eq_getElem hi)
  rw [VR.boxOf_eq g0, VR.boxOf_eq (List.getElem?_eq_getElem hi), g4]

theorem Internal.grow {sd : Nat} (hI : Internal sd P) (Gr : Grow s0 sd P P') : Internal sd P' := by
  intro i x' hx hdep
  rcases Gr.inv hx with ⟨x, x0, x1, _, x6⟩ | ⟨_, hn, _⟩
  · have hn := hI i x x0 (x1 ▸ hdep)
    rw [x6 hn]; exact hn
  · exact absurd hdep (Nat.lt_asymm hn)

end grow

section count
variable {α σ : Type} {P : Part α σ}

/-- the child list of `p` (empty for a leaf or a dangling id) -/
def kids (P : Part α σ) (p : Nat) : List Nat := ((P.nodes[p]?).bind (·.children)).getD []

theorem kids_eq {p : Nat} {pn : Node α σ} {cs : List Nat} (hp : P.nodes[p]? = some pn)
    (hcs : pn.children = some cs) : kids P p = cs := by
  simp [kids, hp, hcs]

theorem kids_cases (P : Part α σ) (p : Nat) :
    kids P p = [] ∨ ∃ pn cs, P.nodes[p]? = some pn ∧ pn.children = some cs ∧ kids P p = cs := by
  unfold kids
  cases hp : P.nodes[p]? with
  | none => exact Or.inl rfl
  | some pn =>
    cases hcs : pn.children with
    | none => exact Or.inl (congrArg (·.getD []) hcs)
    | some cs => exact Or.inr ⟨pn, cs, rfl, hcs, congrArg (·.getD []) hcs⟩

theorem layer_succ_perm (W : WF P) {h : Nat} {l l' : List Nat} (hl : P.layers[h]? = some l)
    (hl' : P.layers[h + 1]? = some l') : l'.Perm (l.flatMap (kids P)) := by
  have w3 := W.mem_layer_iff hl
  have hkids : ∀ p, p ∈ l → ∀ c, c ∈ kids P p → ∃ pn cs, P.nodes[p]? = some pn ∧ pn.depth = h ∧
      pn.children = some cs ∧ c ∈ cs := by
    intro p hp c hc
    rcases kids_cases P p with e | ⟨pn, cs, p1, p3, e⟩
    · exact absurd (e ▸ hc) List.not_mem_nil
    · obtain ⟨pn', p1', p2⟩ := (w3 p).1 hp
      obtain rfl := getElem?_inj p1 p1'
      exact ⟨pn, cs, p1, p2, p3, e ▸ hc⟩
  refine (List.perm_ext_iff_of_nodup (W.layer_nodup hl') ?_).2 fun c => ?_
  · refine List.nodup_flatMap.2 ⟨fun p _ => ?_, (W.layer_nodup hl).imp_of_mem ?_⟩
    · rcases kids_cases P p with e | ⟨pn, cs, p1, p3, e⟩
      · exact e ▸ List.nodup_nil
      · obtain ⟨_, a, _, rfl, _⟩ := W.children p pn cs p1 p3
        exact e ▸ List.nodup_range' (h := Nat.one_pos)
    · intro p q hp hq hpq c hc hc'
      obtain ⟨pn, cs, p1, _, p3, p4⟩ := hkids p hp c hc
      obtain ⟨qn, cs', q1, _, q3, q4⟩ := hkids q hq c hc'
      exact W.children_disjoint p1 q1 p3 q3 hpq c p4 q4
  · rw [W.mem_layer_iff hl', List.mem_flatMap]
    constructor
    · rintro ⟨cn, c1, c2⟩
      have hc0 : 0 < c := Nat.pos_of_ne_zero fun e => by
        subst e
        obtain ⟨r, r1, r2, _⟩ := W.root
        obtain rfl := getElem?_inj r1 c1
        exact Nat.succ_ne_zero h (c2.symm.trans r2)
      obtain ⟨p, pn, cs, _, _, p3, p4, p5, p6⟩ := W.parent c cn hc0 c1
      exact ⟨p, (w3 p).2 ⟨pn, p3, Nat.succ.inj (p6.symm.trans c2)⟩, (kids_eq p3 p4).symm ▸ p5⟩
    · rintro ⟨p, hp, hc⟩
      obtain ⟨pn, cs, p1, p2, p3, p4⟩ := hkids p hp c hc
      obtain ⟨_, cn, _, _, _, _, g1, _, _, g4⟩ := W.child_facts p1 p3 p4
      exact ⟨cn, g1, p2 ▸ g4⟩

theorem layer_succ_length (W : WF P) {h : Nat} {l l' : List Nat} (hl : P.layers[h]? = some l)
    (hl' : P.layers[h + 1]? = some l')
    (hint : ∀ p pn, p ∈ l → P.nodes[p]? = some pn → pn.children ≠ none) :
    l'.length = K P * l.length := by
  have hk : ∀ p ∈ l, (kids P p).length = K P := by
    intro p hp
    obtain ⟨pn, p1, _⟩ := (W.mem_layer_iff hl p).1 hp
    cases hcs : pn.children with
    | none => exact absurd hcs (hint p pn hp p1)
    | some cs => rw [kids_eq p1 hcs]; exact (W.children_indices p1 hcs).1
  rw [(layer_succ_perm W hl hl').length_eq, List.length_flatMap, List.map_congr_left hk,
    List.map_const', List.sum_replicate_nat, Nat.mul_comm]

/-- **Layer sizes**: in a tree deepened to `sd` in which every cell above depth `sd` is
internal, layer `h ≤ sd` has exactly `K^h` cells. -/
theorem layersPow_of_internal (W : WF P) {sd : Nat} (hdeep : sd ≤ P.depth)
    (hint : Internal sd P) : LayersPow sd P := by
  intro h
  induction h with
  | zero => exact fun _ => ⟨[0], W.layer_zero, rfl⟩
  | succ h ih =>
    intro hh
    obtain ⟨l, hl, hlen⟩ := ih (Nat.le_of_succ_le hh)
    have hlt : h + 1 < P.layers.length :=
      W.layers_len ▸ Nat.lt_succ_of_le (Nat.le_trans hh hdeep)
    refine ⟨_, List.getElem?_eq_getElem hlt, ?_⟩
    rw [layer_succ_length W hl (List.getElem?_eq_getElem hlt), hlen, Nat.pow_succ, Nat.mul_comm]
    intro p pn hp p1
    obtain ⟨pn', p1', p2⟩ := (W.mem_layer_iff hl p).1 hp
    obtain rfl := getElem?_inj p1 p1'
    exact hint p pn p1 (p2 ▸ hh)

end count

section geo
variable {α σ : Type} [Field α] [LinearOrder α] [IsStrictOrderedRing α]

theorem Geo.step {P P' : Part α σ} {s0 : σ} {p : Nat} {nd : Node α σ} {nl : Bool}
    {d : Draw α} (W : WF P) (G : Geo P) (hp : P.nodes[p]? = some nd)
    (S : Step P P' s0 p nd) (hd : DrawOK P.kind nd.box d)
    (hm : P.makeChildren s0 p nl d = .ok P') : Geo P' := by
  have hT := (C02.childBoxes_tiles P.kind nd.box d (G.valid p nd hp) hd).1.1
  have hnew : ∀ {j : Nat} {cn : Node α σ}, P'.nodes[P.nodes.length + j]? = some cn →
      cn.box ∈ childBoxes P.kind nd.box d := fun {j cn} hj =>
    (Part.of_mem_newKids (List.mem_of_getElem?
      (((Part.makeChildren_getElem? hp hm).2.2.2 j).symm.trans hj))).2.2.2.1
  constructor
  · intro i x' hx
    rcases S.inv hp hx with ⟨x, h0, _, _, _, hb, _⟩ | ⟨j, _, rfl, _⟩
    · rw [hb]; exact G.valid i x h0
    · exact (hT _ (hnew hx)).2
  · intro c cn p0 pn0 hc hpar hp0
    rcases S.inv hp hc with ⟨x, h0, _, _, hpar', hb, _⟩ | ⟨j, _, rfl, _, _, hpar', _⟩
    · have hc0 : 0 < c := by
        apply Nat.pos_of_ne_zero
        rintro rfl
        obtain ⟨r, r1, _, _, r4⟩ := W.root
        obtain rfl := getElem?_inj r1 h0
        rw [hpar', r4] at hpar; cases hpar
      obtain ⟨q, qn, cs, q1, _, q3, _⟩ := W.parent c x hc0 h0
      obtain rfl : q = p0 := by
        rw [hpar', q1] at hpar; exact Option.some.inj hpar
      obtain ⟨qn', g0, _, _, _, gb, _⟩ := S.pres hp q3
      obtain rfl := getElem?_inj g0 hp0
      rw [hb, gb]
      exact G.sub c x q qn h0 q1 q3
    · obtain rfl : p = p0 := by rw [hpar'] at hpar; exact Option.some.inj hpar
      obtain rfl := getElem?_inj S.atp hp0
      exact (hT _ (hnew hc)).1

omit [Field α] [IsStrictOrderedRing α] in
theorem Geo.init (k : Kind) (domain : Box α) (s0 : σ) (hv : Box.Valid domain) :
    Geo (Part.init k domain s0) := by
  constructor
  · intro i nd h
    obtain ⟨rfl, rfl⟩ := Part.getElem?_init.1 h
    exact hv
  · intro c cn p pn hc hpar _
    obtain ⟨rfl, rfl⟩ := Part.getElem?_init.1 hc
    cases hpar

omit [Field α] [IsStrictOrderedRing α] in
theorem Geo.of_PRel {ρ : Nat → Node α σ → Node α σ → Prop} {P P' : Part α σ}
    (h : PRel ρ P P') (G : Geo P) : Geo P' := by
  constructor
  · intro i nd' hi
    obtain ⟨nd, h1, h2, _⟩ := h.bwd hi
    rw [h2.box]; exact G.valid i nd h1
  · intro c cn' p pn' hc hpar hp
    obtain ⟨cn, c1, c2, _⟩ := h.bwd hc
    obtain ⟨pn, p1, p2, _⟩ := h.bwd hp
    rw [c2.box, p2.box]
    exact G.sub c cn p pn c1 (c2.parent.symm.trans hpar) p1

omit [Field α] [IsStrictOrderedRing α] in
theorem TInv.of_PRel {ρ : Nat → Node α σ → Node α σ → Prop} {sd : Nat} {P P' : Part α σ}
    (h : PRel ρ P P') (T : TInv sd P) : TInv sd P' where
  wf := h.wf T.wf
  deep := h.depth ▸ T.deep
  internal := fun i nd' hi hd => by
    obtain ⟨nd, h1, h2, _⟩ := h.bwd hi
    rw [h2.children]
    exact T.internal i nd h1 (h2.depth ▸ hd)
  geo := Geo.of_PRel h T.geo

theorem makeChildren_leaf {P : Part α σ} (W : WF P) (G : Geo P) (s0 : σ) {d p : Nat} {nd : Node α σ}
    {dr : Draw α} {nl : Bool} (hp : P.nodes[p]? = some nd) (hleaf : nd.children = none)
    (hfl : nl = decide (nd.depth ≥ P.depth)) (hdl : DrawOKLen P.kind (dimn P) dr)
    (hdk : DrawOK P.kind nd.box dr) (hd : d ≤ nd.depth) :
    ∃ P', P.makeChildren s0 p nl dr = .ok P' ∧ WF P' ∧ Geo P' ∧ Grow s0 d P P' ∧
      Step P P' s0 p nd := by
  obtain ⟨P', m, W', S⟩ := makeChildren_WF_step W s0 hp hleaf hfl hdl
  exact ⟨P', m, W', Geo.step W G hp S hdk m, Grow.of_step W S hp hleaf hd, S⟩

/-- Loop invariant of `deepen()` started in `P`, when the first `i` cells of the deepest layer
of `P` have been split: exactly those are internal. -/
structure DeepenInv (s0 : σ) (P : Part α σ) (i : Nat) (Q : Part α σ) : Prop where
  wf : WF Q
  geo : Geo Q
  grow : Grow s0 P.depth P Q
  depth : Q.depth = if i = 0 then P.depth else P.depth + 1
  leaf : ∀ j q, (lastLayer P)[j]? = some q →
    ∃ qn, Q.nodes[q]? = some qn ∧ (qn.children = none ↔ i ≤ j)

theorem DeepenInv.step {s0 : σ} {P Q : Part α σ} {i q : Nat} {ds : List (Draw α)} {d : Draw α}
    (W : WF P) (hds : DeepenDrawsOK P ds) (H : DeepenInv s0 P i Q)
    (hq : (lastLayer P)[i]? = some q) (hd : ds[i]? = some d) :
    ∃ Q', Q.makeChildren s0 q (i == 0) d = .ok Q' ∧ DeepenInv s0 P (i + 1) Q' := by
  obtain ⟨nd, p1, p2⟩ := (W.mem_layer_iff W.lastLayer_spec q).1 (List.mem_of_getElem? hq)
  obtain ⟨qn, q1, hleaf⟩ := H.leaf i q hq
  obtain ⟨qn', q1', hdep, _, _, hbox, _⟩ := H.grow.old q nd p1
  obtain rfl := getElem?_inj q1 q1'
  obtain ⟨hdl, hdk⟩ := hds.2 i q nd d hq p1 hd
  have hQ := H.depth
  have hfl : (i == 0) = decide (qn.depth ≥ Q.depth) := by
    rw [hdep, p2, hQ]
    by_cases h0 : i = 0
    · rw [if_pos h0, h0]; exact (decide_eq_true (Nat.le_refl _)).symm
    · rw [if_neg h0, beq_eq_false_iff_ne.2 h0]
      exact (decide_eq_false (Nat.not_succ_le_self _)).symm
  obtain ⟨Q', m, W', G', Gr', S⟩ := makeChildren_leaf H.wf H.geo s0 (d := P.depth) q1
    (hleaf.2 (Nat.le_refl i)) hfl (by rw [H.grow.kind, H.grow.dimn]; exact hdl)
    (by rw [H.grow.kind, hbox]; exact hdk) (Nat.le_of_eq (hdep.trans p2).symm)
  refine ⟨Q', m, W', G', H.grow.trans Gr', ?_, fun j q' hq' => ?_⟩
  · rw [if_neg (Nat.succ_ne_zero i)]
    rcases S.layers with ⟨e1, _, e3⟩ | ⟨e1, _, e3⟩
    · rw [e3, ← e1, hdep, p2]
    · rw [e3, hQ]
      rw [hdep, p2, hQ] at e1
      by_cases h0 : i = 0
      · rw [if_pos h0] at e1; exact absurd e1 (Nat.lt_irrefl _)
      · rw [if_neg h0]
  · by_cases hj : j = i
    · subst hj
      obtain rfl := getElem?_inj hq hq'
      exact ⟨_, S.atp, fun h => absurd h (Option.some_ne_none _),
        fun h => absurd h (Nat.not_succ_le_self j)⟩
    · obtain ⟨x, x1, x2⟩ := H.leaf j q' hq'
      have hne : q' ≠ q := fun e => hj ((List.getElem?_inj (lt_length_of_getElem? hq')
        (W.layer_nodup W.lastLayer_spec)).1 (hq'.trans ((congrArg some e).trans hq.symm)))
      obtain ⟨x', b1, _, _, _, _, _, b3, _⟩ := S.pres q1 x1
      exact ⟨x', b1, by
        rw [b3 hne, x2]; exact ⟨fun h => Nat.lt_of_le_of_ne h (Ne.symm hj), Nat.le_of_succ_le⟩⟩

theorem deepenLoop_inv {s0 : σ} {P : Part α σ} {ds : List (Draw α)} (W : WF P)
    (hds : DeepenDrawsOK P ds) (fuel : Nat) : ∀ (i : Nat) (Q : Part α σ),
    i + fuel = (lastLayer P).length → DeepenInv s0 P i Q →
    ∃ Q', Part.deepenLoop s0 P.depth fuel i Q (ds.drop i) = .ok (Q', ds.drop (i + fuel)) ∧
      DeepenInv s0 P (i + fuel) Q' := by
  induction fuel with
  | zero => exact fun i Q _ H => ⟨Q, rfl, H⟩
  | succ fuel ih =>
    intro i Q hlen H
    have hi : i < (lastLayer P).length := hlen ▸ Nat.lt_add_of_pos_right (Nat.succ_pos _)
    have hid : i < ds.length := Nat.lt_of_lt_of_le hi hds.1
    obtain ⟨Q1, m, H1⟩ := H.step W hds (List.getElem?_eq_getElem hi) (List.getElem?_eq_getElem hid)
    obtain ⟨Q', m', H'⟩ := ih (i + 1) Q1 (by rw [Nat.add_right_comm]; exact hlen) H1
    rw [Nat.add_right_comm] at m' H'
    refine ⟨Q', ?_, H'⟩
    simp only [Part.deepenLoop, H.grow.layers P.depth (Nat.le_refl _), W.lastLayer_spec,
      List.getElem?_eq_getElem hi, List.drop_eq_getElem_cons hid, makeChildrenD_cons m]
    exact m'

theorem deepen_inv {P : Part α σ} (W : WF P) (G : Geo P) (s0 : σ) (ds : List (Draw α))
    (hds : DeepenDrawsOK P ds) :
    ∃ P', P.deepen s0 ds = .ok (P', ds.drop (lastLayer P).length) ∧ WF P' ∧ Geo P' ∧
      P'.depth = P.depth + 1 ∧ Grow s0 P.depth P P' ∧
      (∀ q, q ∈ lastLayer P → ∃ qn, P'.nodes[q]? = some qn ∧ qn.children ≠ none) := by
  obtain ⟨P', m, H⟩ := deepenLoop_inv W hds (lastLayer P).length 0 P (Nat.zero_add _)
    ⟨W, G, Grow.refl _ _ _, rfl, fun j q hq => by
      obtain ⟨nd, a1, a2⟩ := (W.mem_layer_iff W.lastLayer_spec q).1 (List.mem_of_getElem? hq)
      exact ⟨nd, a1, fun _ => Nat.zero_le j, fun _ => W.leaf_of_deepest a1 a2⟩⟩
  rw [Nat.zero_add] at m H
  have hpos : (lastLayer P).length ≠ 0 :=
    fun e => W.layer_ne_nil W.lastLayer_spec (List.length_eq_zero_iff.1 e)
  refine ⟨P', by simp only [Part.deepen, W.lastLayer_spec]; exact m, H.wf, H.geo,
    by rw [H.depth, if_neg hpos], H.grow, fun q hq => ?_⟩
  obtain ⟨j, hj⟩ := List.mem_iff_getElem?.1 hq
  obtain ⟨qn, q1, q2⟩ := H.leaf j q hj
  exact ⟨qn, q1, fun e => absurd (q2.1 e) (Nat.not_le_of_lt (lt_length_of_getElem? hj))⟩

theorem Internal.deepen {P P' : Part α σ} {s0 : σ} (W : WF P) (hI : Internal P.depth P)
    (Gr : Grow s0 P.depth P P')
    (hlast : ∀ q, q ∈ lastLayer P → ∃ qn, P'.nodes[q]? = some qn ∧ qn.children ≠ none) :
    Internal (P.depth + 1) P' := by
  intro i x' hx hdep
  by_cases hlt : x'.depth < P.depth
  · exact hI.grow Gr i x' hx hlt
  · rcases Gr.inv hx with ⟨x, x0, x1, _⟩ | ⟨_, hn, _⟩
    · obtain ⟨qn, q0, q1⟩ := hlast i ((W.mem_layer_iff W.lastLayer_spec i).2
        ⟨x, x0, Nat.le_antisymm (W.depth_le i x x0) (x1 ▸ Nat.le_of_not_lt hlt)⟩)
      obtain rfl := getElem?_inj q0 hx
      exact q1
    · exact absurd (Nat.lt_of_lt_of_le hn (Nat.le_of_lt_succ hdep)) (Nat.lt_irrefl _)

end geo

section init
variable {α R S : Type} [Field α] [LinearOrder α] [IsStrictOrderedRing α]

omit [Field α] [LinearOrder α] [IsStrictOrderedRing α] in
theorem AllSt0.grow {d : Nat} {P P' : Part α (VrSt R S)} (hA : AllSt0 P)
    (Gr : Grow VROOM.st0 d P P') : AllSt0 P' := by
  intro i x' hx
  rcases Gr.inv hx with ⟨x, x0, _, x5, _⟩ | ⟨_, _, hn⟩
  · exact x5.trans (hA i x x0)
  · exact hn

/-- the loop `while depth < search_depth: deepen()`; `TInv P.depth P` says that `P` is
complete down to its deepest layer -/
theorem deepenTo_tinv (sd : Nat) (fuel : Nat) : ∀ (P : Part α (VrSt R S)) (ds : List (Draw α)),
    TInv P.depth P → sd - P.depth ≤ fuel →
    InitDrawsOK (VROOM.st0 (R := R) (S := S)) sd fuel P ds →
    ∃ P' ds', VROOM.deepenTo sd fuel P ds = .ok (P', ds') ∧ TInv P'.depth P' ∧
      Grow VROOM.st0 P.depth P P' ∧ P'.depth = max P.depth sd := by
  induction fuel with
  | zero =>
    intro P ds T hf _
    have h : ¬ P.depth < sd := Nat.not_lt_of_le (Nat.sub_eq_zero_iff_le.1 (Nat.le_zero.1 hf))
    exact ⟨P, ds, by rw [VROOM.deepenTo, if_neg h], T, Grow.refl _ _ _,
      (Nat.max_eq_left (Nat.le_of_not_lt h)).symm⟩
  | succ fuel ih =>
    intro P ds T hf hds
    by_cases hlt : P.depth < sd
    · obtain ⟨hd1, hd2⟩ := hds hlt
      obtain ⟨P1, m1, W1, G1, hdep, Gr, hlast⟩ := deepen_inv T.wf T.geo VROOM.st0 ds hd1
      obtain ⟨P2, ds2, m2, T2, Gr2, hdep2⟩ := ih P1 _
        ⟨W1, Nat.le_refl _, hdep ▸ Internal.deepen T.wf T.internal Gr hlast, G1⟩
        (by rw [hdep, Nat.sub_add_eq]; exact Nat.sub_le_of_le_add hf) (hd2 _ _ m1)
      refine ⟨P2, ds2, ?_, T2, Gr.trans (Gr2.mono (hdep ▸ Nat.le_succ _)), ?_⟩
      · rw [VROOM.deepenTo, if_pos hlt, m1]; exact m2
      · rw [hdep2, hdep, Nat.max_eq_right hlt, Nat.max_eq_right (Nat.le_of_lt hlt)]
    · exact ⟨P, ds, by rw [VROOM.deepenTo, if_neg hlt], T, Grow.refl _ _ _,
        (Nat.max_eq_left (Nat.le_of_not_lt hlt)).symm⟩

/-- **Construction**: with a valid domain and draws satisfying the NumPy guarantees,
`VROOM.__init__` succeeds and establishes the tree invariant; the tree has depth exactly `sd`
and every payload is empty; the arity is the documented one. -/
theorem init_tinv (cfg : VrCfg R S) (k : Kind) (domain : Box α) (ds : List (Draw α))
    (hv : Box.Valid domain)
    (hds : InitDrawsOK (VROOM.st0 (R := R) (S := S)) cfg.sd (cfg.sd + 1)
      (Part.init k domain VROOM.st0) ds) :
    ∃ s ds', VROOM.init cfg k domain ds = .ok (s, ds') ∧ TInv cfg.sd s.P ∧ AllSt0 s.P ∧
      s.P.depth = cfg.sd ∧ s.P.kind = k ∧ K s.P = k.arity domain.length ∧ boxOf s.P 0 = domain ∧
      s.prob = [] ∧ s.curr = none ∧ s.updateList = [] := by
  obtain ⟨P', ds', m, T, Gr, hdep⟩ := deepenTo_tinv cfg.sd (cfg.sd + 1)
    (Part.init k domain (VROOM.st0 (R := R) (S := S))) ds
    ⟨init_WF' k domain _, Nat.le_refl _, fun _ _ _ h => absurd h (Nat.not_lt_zero _),
      Geo.init k domain _ hv⟩ (Nat.le_succ_of_le (Nat.sub_le _ _)) hds
  have hdep' : P'.depth = cfg.sd := hdep.trans (Nat.zero_max _)
  refine ⟨{ P := P', iteration := 0, prob := [], curr := none, updateList := [] }, ds', ?_,
    hdep' ▸ T, AllSt0.grow (fun i nd h => by obtain ⟨rfl, rfl⟩ := Part.getElem?_init.1 h; rfl) Gr, hdep',
    Gr.kind, Gr.K_eq, Gr.boxOf_eq (Nat.zero_lt_one), rfl, rfl, rfl⟩
  simp only [VROOM.init, m, bind, Except.bind, pure, Except.pure]

end init

end VR
end PyXAB
