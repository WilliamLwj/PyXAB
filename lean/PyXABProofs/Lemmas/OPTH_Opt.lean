/-
  Optimism of T-HOO / HCT, order part (no runs): in a well-formed tree whose B-values satisfy the
  recursion at every non-root cell and in which the children of every split cell cover the cell,
  an optimistic state (`U ≥ fstar` on the cells containing `xstar`) has

  (1) `B ≥ fstar` on every non-root cell containing `xstar`   (`BOptimistic.of_optimistic`),
  (2) `U ≥ fstar`, and `B ≥ fstar` below the root, on every cell of every greedy path
      (`PathOptimistic.of_greedyPath`) — whatever the stop condition of the descent.
-/
import PyXABProofs.Lemmas.OPTH_Geo

set_option linter.unusedSectionVars false
set_option linter.unusedVariables false

namespace PyXAB
namespace OPTH
open _root_.PyXAB.Tree TBB

variable {α R S : Type} [LinearOrder α] [LinearOrder S] [Inhabited S] [Inhabited R]

theorem b_le_u {P : Part α (TBSt R S)} {v : Nat} (hB : BRec P v) {nd : Node α (TBSt R S)}
    (hnd : P.nodes[v]? = some nd) : nd.st.b ≤ nd.st.u := by
  obtain ⟨h1, h2⟩ := hB nd hnd
  cases hc : nd.children with
  | none => exact le_of_eq (h1 hc)
  | some cs =>
    obtain ⟨M, hM, _⟩ := h2 cs hc
    rw [hM]
    exact min_le_left _ _

/-- Unvisited cells are optimistic for free when they carry `U = inf` and `inf` is a top
element: it is enough to look at the visited cells. -/
theorem optimistic_of_visited {P : Part α (TBSt R S)} {inf : S} (htop : ∀ x, x ≤ inf)
    (hun : ∀ (v : Nat) (nd : Node α (TBSt R S)), P.nodes[v]? = some nd → nd.st.count = 0 →
      nd.st.u = inf) {xstar : List α} {fstar : S}
    (h : ∀ (v : Nat) (nd : Node α (TBSt R S)), P.nodes[v]? = some nd → 0 < nd.st.count →
      Box.Mem nd.box xstar → fstar ≤ nd.st.u) :
    Optimistic P xstar fstar := by
  intro v nd hnd hm
  by_cases hc : nd.st.count = 0
  · rw [hun v nd hnd hc]
    exact htop _
  · exact h v nd hnd (Nat.pos_of_ne_zero hc) hm

/-- **(1)** by induction over the tree (children have larger ids than their parent). -/
theorem BOptimistic.of_optimistic {k : Kind} {root : Box α} {P : Part α (TBSt R S)} (W : WF P)
    (hB : ∀ v, 0 < v → BRec P v) (hT : TInv k root P) {xstar : List α} {fstar : S}
    (hO : Optimistic P xstar fstar) : BOptimistic P xstar fstar := by
  have key : ∀ (n v : Nat) (nd : Node α (TBSt R S)), P.nodes.length - v ≤ n → 0 < v →
      P.nodes[v]? = some nd → Box.Mem nd.box xstar → fstar ≤ nd.st.b := by
    intro n
    induction n with
    | zero =>
      intro v nd hn _ hnd _
      exact absurd hn (Nat.not_le_of_lt (Nat.sub_pos_of_lt (lt_length_of_getElem? hnd)))
    | succ n ih =>
      intro v nd hn hv hnd hm
      obtain ⟨h1, h2⟩ := hB v hv nd hnd
      cases hc : nd.children with
      | none =>
        rw [h1 hc]
        exact hO v nd hnd hm
      | some cs =>
        obtain ⟨M, hM, hle, _⟩ := h2 cs hc
        obtain ⟨c, hcm, cn, hcn, hcx⟩ := hT.child_mem hnd hc hm
        obtain ⟨_, _, _, _, _, hlt, _⟩ := W.child_facts hnd hc hcm
        have hcb : fstar ≤ cn.st.b :=
          ih c cn (Nat.le_of_lt_succ (Nat.lt_of_lt_of_le
            (Nat.sub_lt_sub_left (lt_length_of_getElem? hnd) hlt) hn)) (Nat.zero_lt_of_lt hlt)
            hcn hcx
        have hcM : cn.st.b ≤ M := by
          have := hle c hcm
          rwa [Part.stOf_eq hcn] at this
        rw [hM]
        exact le_min (hO v nd hnd hm) (le_trans hcb hcM)
  intro v nd hv hnd hm
  exact key _ v nd (Nat.le_refl _) hv hnd hm

/-- One greedy step: if the parent contains `xstar` or (is not the root and) has `B ≥ fstar`, the
selected child has `B ≥ fstar`. -/
theorem step_b_ge {k : Kind} {root : Box α} {P : Part α (TBSt R S)} (W : WF P)
    (hB : ∀ v, 0 < v → BRec P v) (hT : TInv k root P) {xstar : List α} {fstar : S}
    (hO : Optimistic P xstar fstar) {p c : Nat} {nd : Node α (TBSt R S)} {cs : List Nat}
    (hnd : P.nodes[p]? = some nd) (hcs : nd.children = some cs)
    (hmax : LastMax (fun j => (P.stOf j).b) cs c)
    (hp : Box.Mem nd.box xstar ∨ (0 < p ∧ fstar ≤ nd.st.b)) :
    fstar ≤ (P.stOf c).b := by
  have hex : ∃ c' ∈ cs, fstar ≤ (P.stOf c').b := by
    rcases hp with hm | ⟨hp0, hb⟩
    · obtain ⟨c', hcm, cn, hcn, hcx⟩ := hT.child_mem hnd hcs hm
      obtain ⟨_, _, _, _, _, hlt, _⟩ := W.child_facts hnd hcs hcm
      refine ⟨c', hcm, ?_⟩
      rw [Part.stOf_eq hcn]
      exact BOptimistic.of_optimistic W hB hT hO c' cn (Nat.zero_lt_of_lt hlt) hcn hcx
    · obtain ⟨_, h2⟩ := hB p hp0 nd hnd
      obtain ⟨M, hM, _, c', hcm, hcM⟩ := h2 cs hcs
      refine ⟨c', hcm, ?_⟩
      rw [hcM]
      exact le_trans (hM ▸ hb) (min_le_right _ _)
  obtain ⟨c', hcm, hc'⟩ := hex
  exact le_trans hc' (hmax.max c' hcm)

/-- **(2)** along a greedy path, whatever its stop condition. -/
theorem PathOptimistic.of_greedyPath {k : Kind} {root : Box α} {P : Part α (TBSt R S)} (W : WF P)
    (hB : ∀ v, 0 < v → BRec P v) (hT : TInv k root P) {xstar : List α} {fstar : S}
    (hx : Box.Mem root xstar) (hO : Optimistic P xstar fstar)
    {stop : Node α (TBSt R S) → Prop} {path : List Nat} {v : Nat}
    (G : GreedyPath P stop path v) : PathOptimistic P path fstar := by
  have key : ∀ (i p : Nat), path[i]? = some p → ∃ nd, P.nodes[p]? = some nd ∧
      (Box.Mem nd.box xstar ∨ (0 < p ∧ fstar ≤ nd.st.b)) := by
    intro i
    induction i with
    | zero =>
      intro p hp
      have h0 := G.head
      rw [List.head?_eq_getElem?, hp] at h0
      obtain rfl : p = 0 := Option.some.inj h0
      obtain ⟨r, hr, hb⟩ := hT.root_box
      exact ⟨r, hr, Or.inl (hb ▸ hx)⟩
    | succ i ih =>
      intro c hc
      have hi : i < path.length := Nat.lt_of_succ_lt (lt_length_of_getElem? hc)
      obtain ⟨nd, hnd, hor⟩ := ih _ (List.getElem?_eq_getElem hi)
      obtain ⟨nd', cs, a1, a2, a3⟩ := G.step i _ c (List.getElem?_eq_getElem hi) hc
      obtain rfl := getElem?_inj a1 hnd
      obtain ⟨_, cn, _, _, _, hlt, hcn, _⟩ := W.child_facts hnd a2 a3.mem
      have := step_b_ge W hB hT hO hnd a2 a3 hor
      rw [Part.stOf_eq hcn] at this
      exact ⟨cn, hcn, Or.inr ⟨Nat.zero_lt_of_lt hlt, this⟩⟩
  intro p hp
  obtain ⟨i, hi⟩ := List.mem_iff_getElem?.1 hp
  obtain ⟨nd, hnd, hor⟩ := key i p hi
  refine ⟨nd, hnd, ?_, ?_⟩
  · rcases hor with hm | ⟨hp0, hb⟩
    · exact hO p nd hnd hm
    · exact le_trans hb (b_le_u (hB p hp0) hnd)
  · intro hp0
    rcases hor with hm | ⟨_, hb⟩
    · exact BOptimistic.of_optimistic W hB hT hO p nd hp0 hnd hm
    · exact hb

end OPTH
end PyXAB
