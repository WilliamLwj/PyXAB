/-
  The containment test `Zooming.contains` and the distribution `Zooming.assign` of the children
  of a refined cell.
-/
import PyXABProofs.Spec.ZoomSpec
import Mathlib.Order.Defs.LinearOrder

set_option linter.unusedSectionVars false

namespace PyXAB
namespace ZM
open Zooming

section contains
variable {α : Type} [LinearOrder α]

/-- For a point with the right number of coordinates the executable test is closed membership. -/
theorem contains_iff {b : Box α} {x : List α} (hl : b.length = x.length) :
    contains b x = true ↔ Box.Mem b x := by
  induction b generalizing x with
  | nil =>
    cases x with
    | nil => exact ⟨fun _ => List.Forall₂.nil, fun _ => rfl⟩
    | cons _ _ => cases hl
  | cons iv b ih =>
    cases x with
    | nil => cases hl
    | cons c xs =>
      have e : contains (iv :: b) (c :: xs) =
          ((decide (iv.lo ≤ c) && decide (c ≤ iv.hi)) && contains b xs) := rfl
      rw [e, Box.Mem, List.forall₂_cons, ← Box.Mem, ← ih (Nat.succ.inj hl), Bool.and_eq_true,
        Bool.and_eq_true, decide_eq_true_iff, decide_eq_true_iff]
      rfl

end contains

section assign
variable {α R S : Type} [Add α] [Div α] [OfNat α 2] [LE α] [DecidableLE α]

/-- the executable test "child `c` contains `pt`" -/
def inCell (P : Part α Unit) (pt : List α) (c : Nat) : Bool :=
  match P.nodes[c]? with
  | some nd => contains nd.box pt
  | none => false

theorem inCell_eq {P : Part α Unit} {c : Nat} {nd : Node α Unit} (hnd : P.nodes[c]? = some nd)
    (pt : List α) : inCell P pt c = contains nd.box pt := by
  rw [inCell, hnd]

variable (cfg : ZoomCfg R S) (P : Part α Unit) (pt : List α)

/-- A child that does not take the arm (it is already assigned, or the child does not contain
the point) gets a fresh arm. -/
theorem assign_cons_fresh {c : Nat} {nd : Node α Unit} (hnd : P.nodes[c]? = some nd) {asg : Bool}
    (h : asg = true ∨ inCell P pt c = false) (cs : List Nat) (cell : Option Nat)
    (fresh : List (Arm α S)) :
    assign cfg P pt (c :: cs) asg cell fresh =
      assign cfg P pt cs asg cell (fresh ++ [newArm cfg P c]) := by
  have e : (contains nd.box pt && !asg) = false := by
    rcases h with rfl | h
    · exact Bool.and_false _
    · rw [← inCell_eq hnd, h]; rfl
  rw [assign, hnd]
  simp only [e, Bool.false_eq_true, if_false]

theorem assign_all_fresh {cs : List Nat} (hv : ∀ c ∈ cs, ∃ nd, P.nodes[c]? = some nd)
    {asg : Bool} (h : asg = true ∨ ∀ c ∈ cs, inCell P pt c = false) (cell : Option Nat)
    (fresh : List (Arm α S)) :
    assign cfg P pt cs asg cell fresh = (cell, fresh ++ cs.map (newArm cfg P)) := by
  induction cs generalizing fresh with
  | nil => rw [assign, List.map_nil, List.append_nil]
  | cons c cs ih =>
    obtain ⟨nd, hnd⟩ := hv c List.mem_cons_self
    rw [assign_cons_fresh cfg P pt hnd (h.imp_right (· c List.mem_cons_self)),
      ih (fun x hx => hv x (List.mem_cons_of_mem _ hx))
        (h.imp_right fun h x hx => h x (List.mem_cons_of_mem _ hx)),
      List.append_assoc]
    rfl

theorem assign_false_none {cs : List Nat} (hv : ∀ c ∈ cs, ∃ nd, P.nodes[c]? = some nd)
    (hn : ∀ c ∈ cs, inCell P pt c = false) (cell : Option Nat) (fresh : List (Arm α S)) :
    assign cfg P pt cs false cell fresh = (cell, fresh ++ cs.map (newArm cfg P)) :=
  assign_all_fresh cfg P pt hv (.inr hn) cell fresh

/-- The FIRST child containing the point keeps the arm; every other child
(before or after it, containing the point or not) gets a fresh arm. -/
theorem assign_false_some {l₁ l₂ : List Nat} {c : Nat}
    (hv : ∀ x ∈ l₁ ++ c :: l₂, ∃ nd, P.nodes[x]? = some nd)
    (h1 : ∀ x ∈ l₁, inCell P pt x = false) (hc : inCell P pt c = true)
    (cell : Option Nat) (fresh : List (Arm α S)) :
    assign cfg P pt (l₁ ++ c :: l₂) false cell fresh =
      (some c, fresh ++ (l₁ ++ l₂).map (newArm cfg P)) := by
  induction l₁ generalizing fresh with
  | nil =>
    obtain ⟨nd, hnd⟩ := hv c List.mem_cons_self
    rw [inCell_eq hnd] at hc
    rw [List.nil_append, assign, hnd]
    simp only [hc, Bool.not_false, Bool.and_self, if_true]
    exact assign_all_fresh cfg P pt (fun x hx => hv x (List.mem_cons_of_mem _ hx)) (.inl rfl) _ _
  | cons a l₁ ih =>
    obtain ⟨nd, hnd⟩ := hv a List.mem_cons_self
    rw [List.cons_append, assign_cons_fresh cfg P pt hnd (.inr (h1 a List.mem_cons_self)),
      ih (fun x hx => hv x (List.mem_cons_of_mem _ hx))
        (fun x hx => h1 x (List.mem_cons_of_mem _ hx)),
      List.append_assoc]
    rfl

theorem assign_fresh (cs : List Nat) :
    ∀ (asg : Bool) (cell : Option Nat) (fresh : List (Arm α S)),
      (∀ f ∈ fresh, f.pulls = 0 ∧ f.avg = cfg.zero) →
      ∀ f ∈ (assign cfg P pt cs asg cell fresh).2, f.pulls = 0 ∧ f.avg = cfg.zero := by
  induction cs with
  | nil => exact fun _ _ _ h => h
  | cons c cs ih =>
    intro asg cell fresh h
    rw [assign]
    split
    · exact ih _ _ _ h
    · split
      · exact ih _ _ _ h
      · refine ih _ _ _ fun f hf => ?_
        rcases List.mem_append.1 hf with hf | hf
        · exact h f hf
        · rw [List.mem_singleton.1 hf]; exact ⟨rfl, rfl⟩

end assign

theorem first_split {β : Type} (f : β → Bool) (l : List β) :
    (∀ x ∈ l, f x = false) ∨
    ∃ l₁ c l₂, l = l₁ ++ c :: l₂ ∧ (∀ x ∈ l₁, f x = false) ∧ f c = true := by
  cases h : l.find? f with
  | none => exact .inl fun x hx => Bool.eq_false_iff.2 (List.find?_eq_none.1 h x hx)
  | some c =>
    obtain ⟨hc, l₁, l₂, e, h1⟩ := List.find?_eq_some_iff_append.1 h
    exact .inr ⟨l₁, c, l₂, e, fun x hx => by simpa using h1 x hx, hc⟩

end ZM
end PyXAB
