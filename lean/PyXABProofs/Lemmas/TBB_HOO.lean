/-
  T-HOO: the invariant `HOOInv` node by node, and the stages `HOOStages` of a `receive` after
  `pull`, which never raises and re-establishes `HOOInv`.
-/
import PyXABProofs.Lemmas.TBB_Expand

set_option linter.unusedSectionVars false

namespace PyXAB
namespace TBB

open Tree

variable {α R S : Type} [Add α] [Sub α] [Mul α] [Div α] [OfNat α 2] [NatCast α]
variable [LinearOrder S] [Inhabited S] [Inhabited R]

/-- the part of `HOOInv` that speaks about one node and does not read its B-value -/
def HOONode (cfg : HOOCfg R S) (i : Nat) (nd : Node α (TBSt R S)) : Prop :=
  (nd.st.count = 0 → nd.st.u = cfg.inf) ∧
  (0 < nd.st.count → nd.st.mean = cfg.meanOf nd.st.rewards nd.st.count ∧
    nd.st.u = cfg.uOf (cfg.meanOf nd.st.rewards nd.st.count) nd.st.count nd.depth) ∧
  (0 < i → nd.children ≠ none → 0 < nd.st.count)

theorem HOOInv.nodes {cfg : HOOCfg R S} {s : HOO α R S} (I : HOOInv cfg s) :
    AllNodes s.P (HOONode cfg) :=
  fun i nd h => ⟨fun c => (I.unvisited i nd h c).1, I.visited i nd h, I.inner_visited i nd h⟩

/-- `B = inf` at the unvisited cells follows from the B-recursion below the root (they are
leaves with `U = inf`); at the root it is a clause of its own. -/
theorem HOOInv.of_nodes {cfg : HOOCfg R S} {s : HOO α R S} (W : WF s.P)
    (hroot : ∃ r cs, s.P.nodes[0]? = some r ∧ r.children = some cs)
    (hn : AllNodes s.P (HOONode cfg))
    (h0 : ∀ r, s.P.nodes[0]? = some r → r.st.count = 0 → r.st.b = cfg.inf)
    (hb : ∀ v, 0 < v → BRec s.P v) : HOOInv cfg s where
  wf := W
  root_split := hroot
  unvisited := by
    intro v nd hnd hc
    obtain ⟨h1, _, h3⟩ := hn v nd hnd
    refine ⟨h1 hc, ?_⟩
    rcases Nat.eq_zero_or_pos v with rfl | hv
    · exact h0 nd hnd hc
    · have hleaf : nd.children = none :=
        Classical.byContradiction (fun hne => Nat.lt_irrefl 0 (hc ▸ h3 hv hne))
      rw [(hb v hv nd hnd).1 hleaf]
      exact h1 hc
  visited := fun v nd hnd => (hn v nd hnd).2.1
  inner_visited := fun v nd hnd => (hn v nd hnd).2.2
  brec := hb

theorem init_expand {s0 : TBSt R S} {k : Kind} {domain : Box α} {ds ds' : List (Draw α)}
    {P1 : Part α (TBSt R S)}
    (hds : ∀ d ∈ ds, DrawOKLen k domain.length d)
    (h : (Part.init k domain s0).expand s0 0 ds = .ok (P1, ds')) :
    WF P1 ∧ (∃ r cs, P1.nodes[0]? = some r ∧ r.children = some cs) ∧
      AllNodes P1 (fun i nd => nd.st = s0 ∧ (0 < i → nd.children = none)) := by
  cases ds with
  | nil => cases h
  | cons d ds =>
    obtain ⟨Q, e, W, _, _, hroot, hall⟩ := TBA.init_expand_ok k domain s0 ds
      (hds d (List.mem_cons_self ..))
    obtain ⟨rfl, _⟩ := Prod.mk.inj (Except.ok.inj (h.symm.trans e))
    exact ⟨W, hroot, fun i nd hi => ⟨(hall i nd hi).1, (hall i nd hi).2.2⟩⟩

/-- payload of node `j` after the first two phases of `receive` -/
def hooF (cfg : HOOCfg R S) (r : R) (path : List Nat) (j : Nat) (nd : Node α (TBSt R S)) :
    TBSt R S :=
  HOO.computeU cfg { nd with st := if j ∈ path then HOO.credit cfg r nd.st else nd.st }

theorem creditPass_upd {cfg : HOOCfg R S} {P : Part α (TBSt R S)} (W : WF P) (r : R)
    {path : List Nat} (hnd : path.Nodup) :
    Upd P (HOO.creditPass cfg P path r) (hooF cfg r path) := by
  have U1 : Upd P (path.foldl (fun P id => HOO.updateReward cfg P id r) P) _ :=
    foldl_modifyNode_upd (fun nd => HOO.credit cfg r nd.st) hnd P
  exact U1.comp (forListed_upd (U1.prel.wf W) (HOO.computeU cfg))

theorem HOO_computeU_zero (cfg : HOOCfg R S) {nd : Node α (TBSt R S)} (h : nd.st.count = 0) :
    HOO.computeU cfg nd = { nd.st with b := cfg.inf } := by
  unfold HOO.computeU; rw [if_pos h]

theorem HOO_computeU_pos (cfg : HOOCfg R S) {nd : Node α (TBSt R S)} (h : nd.st.count ≠ 0) :
    HOO.computeU cfg nd = { nd.st with
      mean := cfg.meanOf nd.st.rewards nd.st.count
      u := cfg.uOf (cfg.meanOf nd.st.rewards nd.st.count) nd.st.count nd.depth } := by
  unfold HOO.computeU; rw [if_neg h]

/-- The payload pass keeps the node-wise invariant; the cells of the path are visited now. -/
theorem hooF_node {cfg : HOOCfg R S} (r : R) (path : List Nat) {j : Nat}
    {nd : Node α (TBSt R S)} (h : HOONode cfg j nd) :
    HOONode cfg j { nd with st := hooF cfg r path j nd } ∧
      (j ∈ path → 0 < (hooF cfg r path j nd).count) := by
  obtain ⟨h1, _, h3⟩ := h
  unfold hooF
  by_cases hj : j ∈ path
  · rw [if_pos hj, HOO_computeU_pos cfg (Nat.succ_ne_zero _)]
    exact ⟨⟨fun h => absurd h (Nat.succ_ne_zero _), fun _ => ⟨rfl, rfl⟩,
      fun _ _ => Nat.succ_pos _⟩, fun _ => Nat.succ_pos _⟩
  · rw [if_neg hj]
    refine ⟨?_, fun h => absurd h hj⟩
    by_cases h0 : nd.st.count = 0
    · rw [HOO_computeU_zero cfg h0]
      exact ⟨fun _ => h1 h0, fun hc => absurd h0 (Nat.ne_of_gt hc), h3⟩
    · rw [HOO_computeU_pos cfg h0]
      exact ⟨fun hc => absurd hc h0, fun _ => ⟨rfl, rfl⟩, h3⟩

/-- The payload pass keeps the B-value of a visited cell and sets `B = inf` at the others. -/
theorem hooF_b (cfg : HOOCfg R S) (r : R) (path : List Nat) (j : Nat) (nd : Node α (TBSt R S)) :
    (hooF cfg r path j nd).b = cfg.inf ∨
      (0 < (hooF cfg r path j nd).count ∧ (hooF cfg r path j nd).b = nd.st.b) := by
  unfold hooF
  generalize hx : ({ nd with st := if j ∈ path then HOO.credit cfg r nd.st else nd.st } :
    Node α (TBSt R S)) = x
  have hb : x.st.b = nd.st.b := by
    rw [← hx]
    show (if _ then _ else _ : TBSt R S).b = _
    split <;> rfl
  by_cases h0 : x.st.count = 0
  · rw [HOO_computeU_zero cfg h0]
    exact Or.inl rfl
  · rw [HOO_computeU_pos cfg h0]
    exact Or.inr ⟨Nat.pos_of_ne_zero h0, hb⟩

/-- The stages of `receive` in a state ready for it: the payload pass `HOO.creditPass` (an
`Upd`), the conditional split `P3` of the pulled leaf `v`, the B-values. -/
structure HOOStages (cfg : HOOCfg R S) (s s' : HOO α R S) (v : Nat) (r : R)
    (ds ds' : List (Draw α)) (path : List Nat) (nd : Node α (TBSt R S))
    (P3 : Part α (TBSt R S)) : Prop where
  mem : v ∈ path
  upd : Upd s.P (HOO.creditPass cfg s.P path r) (hooF cfg r path)
  leaf : s.P.nodes[v]? = some nd ∧ nd.children = none
  exp : (if cfg.expandOK nd.depth = true then
      (HOO.creditPass cfg s.P path r).expand (HOO.st0 cfg) v ds
    else .ok (HOO.creditPass cfg s.P path r, ds)) = .ok (P3, ds')
  wf3 : WF P3
  grow : Grow (HOO.creditPass cfg s.P path r) P3 (HOO.st0 cfg) v
  onlyB : OnlyB P3 s'.P
  root : s'.P.nodes[0]? = P3.nodes[0]?
  brec : ∀ w, 0 < w → BRec s'.P w
  iter : s'.iteration = s.iteration + 1

/-- **`receive` after `pull`** never raises (given a well-formed draw). -/
theorem HOO_receive_stages {cfg : HOOCfg R S} (hbot : ∀ x, cfg.negInf ≤ x) {s : HOO α R S}
    {v : Nat} (Rd : HOOReady cfg s v) (r : R) (d : Draw α) (ds : List (Draw α))
    (hd : DrawOKLen s.P.kind (dimn s.P) d) :
    ∃ s' ds', HOO.receive cfg s r (d :: ds) = .ok (s', ds') ∧
      ∃ path nd P3, HOOStages cfg s s' v r (d :: ds) ds' path nd P3 := by
  obtain ⟨I, path, hpath, G⟩ := Rd
  have U := creditPass_upd (cfg := cfg) I.wf r (G.nodup I.wf)
  obtain ⟨ndv, hv1, hv2⟩ := G.stop
  have hnd2 := U.get hv1
  obtain ⟨P3, ds', hexp, W3, Gr, _⟩ := expand_if_ok (cfg.expandOK ndv.depth) (U.prel.wf I.wf)
    (HOO.st0 cfg) hnd2 (fun _ => hv2) ds (by rw [U.kind, U.prel.dimn_eq]; exact hd)
  obtain ⟨P4, hback, OB, hroot4, hbrec⟩ := backward_spec hbot W3
  exact ⟨_, ds', HOO.receive_eq_ok.2 ⟨path, v, _, P3, P4, hpath, G.last, hnd2, hexp, hback, rfl⟩,
    path, ndv, P3, List.mem_of_getLast? G.last, U, ⟨hv1, hv2⟩, hexp, W3, Gr, OB, hroot4,
    hbrec, rfl⟩

theorem HOOStages.inv {cfg : HOOCfg R S} {s s' : HOO α R S} {v : Nat} {r : R}
    {ds ds' : List (Draw α)} {path : List Nat} {nd : Node α (TBSt R S)}
    {P3 : Part α (TBSt R S)} (T : HOOStages cfg s s' v r ds ds' path nd P3)
    (I : HOOInv cfg s) : HOOInv cfg s' := by
  -- the pulled leaf is visited before it is split, fresh leaves are unvisited
  have hn3 : AllNodes P3 (HOONode cfg) := by
    refine T.grow.all (A := fun i x => HOONode cfg i x ∧ (i = v → 0 < x.st.count))
      (T.upd.all I.nodes (fun i x _ hx => ?_)) (fun i x x' hd hs hc hx => ?_)
      (fun i x' hs hc _ => ?_)
    · obtain ⟨h1, h2⟩ := hooF_node r path hx
      exact ⟨h1, fun e => h2 (e ▸ T.mem)⟩
    · obtain ⟨⟨h1, h2, h3⟩, h4⟩ := hx
      rw [HOONode, hs, hd]
      refine ⟨h1, h2, fun hi hne => ?_⟩
      by_cases hiv : i = v
      · exact h4 hiv
      · exact h3 hi (hc (Or.inl hiv) ▸ hne)
    · rw [HOONode, hs, hc]
      exact ⟨fun _ => rfl, fun h => absurd h (Nat.lt_irrefl 0), fun _ h => absurd rfl h⟩
  obtain ⟨r0, cs, q1, q2⟩ := I.root_split
  have h0v : (0 : Nat) ≠ v := Nat.ne_of_lt (pos_of_leaf I.root_split T.leaf.1 T.leaf.2)
  obtain ⟨x3, g1, _, g3, g4⟩ := T.grow.old 0 _ (T.upd.get q1)
  refine HOOInv.of_nodes (T.onlyB.prel.wf T.wf3) ?_ (setR_all T.onlyB.prel (fun _ _ _ h => h) hn3)
    (fun r4 hr4 hc => ?_) T.brec
  · obtain ⟨b, hb⟩ := T.onlyB.node 0 x3 g1
    exact ⟨_, cs, hb, (g4 (Or.inl h0v)).trans q2⟩
  · rw [T.root, g1] at hr4
    obtain rfl := Option.some.inj hr4
    rw [g3] at hc ⊢
    exact (hooF_b cfg r path 0 r0).elim id (fun h => absurd hc (Nat.ne_of_gt h.1))

end TBB
end PyXAB
