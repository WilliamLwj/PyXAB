/-
  HCT / VHCT: `receive` after `pull` never raises and goes through the stages `HCTStages`, which
  re-establish `HCTInv` and maintain the U-formula with the ghost time stamps `tsStep`.
-/
import PyXABProofs.Lemmas.TBB_HCTPull

set_option linter.unusedSectionVars false

namespace PyXAB
namespace TBB

open Tree
open TBA (PRel)
open Part (stOf_eq)

variable {α R S : Type} [Add α] [Sub α] [Mul α] [Div α] [OfNat α 2] [NatCast α]
variable [LinearOrder S] [Inhabited S] [Inhabited R]

/-- payload of a node after the global refresh of `receive` at counter `it` -/
def hctA (cfg : HCTCfg R S) (it : Nat) (nd : Node α (TBSt R S)) : TBSt R S :=
  if it = tPlus it then HCT.computeU cfg (cfg.dtOne (tPlus it)) nd else nd.st

/-- payload of node `j` after the reward has been recorded at `v` and its U-value recomputed -/
def hctB (cfg : HCTCfg R S) (r : R) (dt : S) (v j : Nat) (nd : Node α (TBSt R S)) : TBSt R S :=
  if j = v then HCT.computeU cfg dt { nd with st := HCT.credit cfg r nd.st } else nd.st

/-- payload (up to the B-value) of node `j` of the pre-state after `receive` at counter `it`
with pulled node `v` -/
def hctF (cfg : HCTCfg R S) (r : R) (it v j : Nat) (nd : Node α (TBSt R S)) : TBSt R S :=
  hctB cfg r (cfg.dtOne (tPlus it)) v j { nd with st := hctA cfg it nd }

theorem creditOne_upd (cfg : HCTCfg R S) (dt : S) (P1 : Part α (TBSt R S)) (v : Nat) (r : R) :
    Upd P1 (HCT.creditOne cfg dt P1 v r) (hctB cfg r dt v) := by
  have U2 : Upd P1 (HCT.updateReward cfg P1 v r) _ :=
    modifyNode_upd P1 v (fun nd => HCT.credit cfg r nd.st)
  refine (U2.comp (modifyNode_upd _ v (HCT.computeU cfg dt))).congr (fun j nd _ => ?_)
  unfold hctB
  by_cases hjv : j = v <;> simp only [hjv, if_true, if_false]

theorem computeU_b (cfg : HCTCfg R S) (dt : S) (nd : Node α (TBSt R S)) (st : TBSt R S) (b : S) :
    HCT.computeU cfg dt { nd with st := { st with b := b } } =
      { HCT.computeU cfg dt { nd with st := st } with b := b } := by
  unfold HCT.computeU
  split <;> rfl

theorem credit_b (cfg : HCTCfg R S) (r : R) (st : TBSt R S) (b : S) :
    HCT.credit cfg r { st with b := b } = { HCT.credit cfg r st with b := b } := by
  unfold HCT.credit
  cases cfg.variance <;> rfl

theorem hctB_b (cfg : HCTCfg R S) (r : R) (dt : S) (v j : Nat) (nd : Node α (TBSt R S))
    (st : TBSt R S) (b : S) :
    hctB cfg r dt v j { nd with st := { st with b := b } } =
      { hctB cfg r dt v j { nd with st := st } with b := b } := by
  unfold hctB
  split
  · rw [credit_b, computeU_b]
  · rfl

omit [Add α] [Sub α] [Mul α] [Div α] [OfNat α 2] [NatCast α] [LinearOrder S] [Inhabited R]
  [Inhabited S] in
/-- A payload pass which commutes with setting the B-value keeps the B-value. -/
theorem b_of_comm {G : Node α (TBSt R S) → TBSt R S}
    (hG : ∀ (nd : Node α (TBSt R S)) (st : TBSt R S) (x : S),
      G { nd with st := { st with b := x } } = { G { nd with st := st } with b := x })
    (nd : Node α (TBSt R S)) : (G nd).b = nd.st.b :=
  (congrArg TBSt.b (hG nd nd.st nd.st.b) :)

theorem hctF_b (cfg : HCTCfg R S) (r : R) (it v j : Nat) (nd : Node α (TBSt R S)) :
    (hctF cfg r it v j nd).b = nd.st.b := by
  refine (b_of_comm (hctB_b cfg r _ v j) _).trans ?_
  show (hctA cfg it nd).b = _
  unfold hctA
  split
  · exact b_of_comm (computeU_b cfg _) nd
  · rfl

/-- Node relation "the payload becomes `F j a` up to the B-value, which at the root is the
one of `F j a`" (`backward` does not write the root). -/
def ModB (F : Nat → Node α (TBSt R S) → TBSt R S) :
    Nat → Node α (TBSt R S) → Node α (TBSt R S) → Prop :=
  fun j a b => ∃ x, b = { a with st := { F j a with b := x } } ∧ (j = 0 → x = (F j a).b)

omit [Add α] [Sub α] [Mul α] [Div α] [OfNat α 2] [NatCast α] [Inhabited R] [Inhabited S] in
theorem ModB.refl (P : Part α (TBSt R S)) : PRel (ModB fun _ nd => nd.st) P P :=
  PRel.refl (fun _ nd => ⟨nd.st.b, rfl, fun _ => rfl⟩) P

omit [Add α] [Sub α] [Mul α] [Div α] [OfNat α 2] [NatCast α] in
/-- A payload pass `G` which does not read the B-value, then `backward`. -/
theorem ModB.step {P P1 P3 P4 : Part α (TBSt R S)} {F G : Nat → Node α (TBSt R S) → TBSt R S}
    (h1 : PRel (ModB F) P P1) (U : Upd P1 P3 G) (OB : OnlyB P3 P4)
    (hroot : P4.nodes[0]? = P3.nodes[0]?)
    (hG : ∀ (j : Nat) (nd : Node α (TBSt R S)) (st : TBSt R S) (x : S),
      G j { nd with st := { st with b := x } } = { G j { nd with st := st } with b := x }) :
    PRel (ModB fun j nd => G j { nd with st := F j nd }) P P4 :=
  ⟨(OB.kind.trans U.kind).trans h1.kind, (OB.layers.trans U.layers).trans h1.layers,
    (OB.depth.trans U.depth).trans h1.depth, (OB.len.trans U.prel.len).trans h1.len,
    fun j nd hj => by
      obtain ⟨_, e1, _, x1, rfl, hx1⟩ := h1.node j nd hj
      obtain ⟨x4, e4⟩ := OB.node j _ (U.get e1)
      refine ⟨_, e4, ⟨rfl, rfl, rfl, rfl, rfl⟩, x4, by rw [hG], ?_⟩
      -- `backward` leaves the root as `G` made it, and `G` hands the B-value through (`hG`):
      -- the B-value found at the root of `P4` is still the one of `F 0 nd`
      rintro rfl
      rw [e4, U.get e1, hG] at hroot
      have hx4 := congrArg (fun o => o.map (fun nd => nd.st.b)) hroot
      exact (Option.some.inj hx4).trans
        ((hx1 rfl).trans (b_of_comm (hG 0) { nd with st := F 0 nd }).symm)⟩

/-- the U-formula for one payload, last refreshed at counter `t` -/
def HCTNodeU (cfg : HCTCfg R S) (t depth : Nat) (st : TBSt R S) : Prop :=
  0 < st.count → st.u = cfg.uOf (cfg.dtOne (tPlus t)) depth
    (cfg.meanOf st.rewards st.count) st.count st.var

theorem computeU_count (cfg : HCTCfg R S) (dt : S) (nd : Node α (TBSt R S)) :
    (HCT.computeU cfg dt nd).count = nd.st.count := by
  unfold HCT.computeU; split <;> rfl

theorem computeU_inv (cfg : HCTCfg R S) (dt : S) (nd : Node α (TBSt R S))
    (h : HCTNodeInv cfg nd.st) : HCTNodeInv cfg (HCT.computeU cfg dt nd) := by
  obtain ⟨h1, h2, h3⟩ := h
  unfold HCT.computeU
  by_cases h0 : nd.st.count = 0
  · rw [if_pos h0]
    exact ⟨fun _ => rfl, fun hc => absurd h0 (Nat.ne_of_gt hc), h3⟩
  · rw [if_neg h0]
    exact ⟨fun hc => absurd hc h0, fun _ => rfl, h3⟩

theorem computeU_U (cfg : HCTCfg R S) (t : Nat) (nd : Node α (TBSt R S)) :
    HCTNodeU cfg t nd.depth (HCT.computeU cfg (cfg.dtOne (tPlus t)) nd) := by
  unfold HCT.computeU HCTNodeU
  by_cases h0 : nd.st.count = 0
  · rw [if_pos h0]
    exact fun hc => absurd h0 (Nat.ne_of_gt hc)
  · rw [if_neg h0]
    exact fun _ => rfl

theorem credit_inv (cfg : HCTCfg R S) (r : R) (st : TBSt R S) (h : HCTNodeInv cfg st) :
    HCTNodeInv cfg (HCT.credit cfg r st) := by
  obtain ⟨_, _, h3⟩ := h
  unfold HCT.credit HCTNodeInv
  cases hv : cfg.variance with
  -- the credited payload has count `count + 1 > 0`, and its `mean` and (VHCT) `var` are by
  -- definition `meanOf`, `varOf` of the extended reward list
  | true => simp
  | false =>
    rw [hv] at h3
    simp only [Bool.false_eq_true, false_and, if_false] at h3 ⊢
    exact ⟨nofun, fun _ => trivial, h3⟩

theorem hctF_inv (cfg : HCTCfg R S) (r : R) (it v j : Nat) (nd : Node α (TBSt R S))
    (h : HCTNodeInv cfg nd.st) : HCTNodeInv cfg (hctF cfg r it v j nd) := by
  have h1 : HCTNodeInv cfg (hctA cfg it nd) := by
    unfold hctA
    split
    · exact computeU_inv cfg _ nd h
    · exact h
  unfold hctF hctB
  split
  · exact computeU_inv cfg _ _ (credit_inv cfg r _ h1)
  · exact h1

theorem hctF_U (cfg : HCTCfg R S) (r : R) (it v j t : Nat) (nd : Node α (TBSt R S))
    (hu : HCTNodeU cfg t nd.depth nd.st) :
    HCTNodeU cfg (if j = v then it else if it = tPlus it ∧ 0 < nd.st.count then it else t)
      nd.depth (hctF cfg r it v j nd) := by
  unfold hctF hctB
  by_cases hjv : j = v
  · rw [if_pos hjv, if_pos hjv]
    exact computeU_U cfg it _
  · rw [if_neg hjv, if_neg hjv]
    unfold hctA
    by_cases hit : it = tPlus it
    · rw [if_pos hit]
      by_cases hc : 0 < nd.st.count
      · rw [if_pos ⟨hit, hc⟩]
        exact computeU_U cfg it nd
      · intro hc'
        rw [computeU_count] at hc'
        exact absurd hc' hc
    · rw [if_neg hit, if_neg (fun h => hit h.1)]
      exact hu

omit [Add α] [Sub α] [Mul α] [Div α] [OfNat α 2] [NatCast α] in
theorem BRec_step {P P' : Part α (TBSt R S)} {s0 : TBSt R S} {p : Nat}
    {nd : Node α (TBSt R S)} (St : Step P P' s0 p nd) (W : WF P) (W' : WF P')
    (hp : P.nodes[p]? = some nd) (hleaf : nd.children = none)
    (hs0 : s0.b = s0.u) (htop : ∀ x, x ≤ s0.b) (hp0 : 0 < p)
    (hall : ∀ j, 0 < j → BRec P j) : ∀ j, 0 < j → BRec P' j := by
  intro j hj nd' hnd'
  have hK : 1 ≤ K P := by
    have := (W'.children p _ _ St.atp rfl).1
    rwa [St.K_eq W hp] at this
  rcases St.inv hp hnd' with ⟨x, h0, _, _, _, _, hst, hne, heq⟩ | ⟨i, hi, rfl, _, _, _, hch, _, hst⟩
  · by_cases hjp : j = p
    · -- the split cell: `B = U = min U inf`, every child is new and carries `B = inf`
      subst hjp
      obtain rfl := getElem?_inj hp h0
      have hc := heq rfl
      refine ⟨fun h => (by rw [hc] at h; cases h), fun cs hcs => ?_⟩
      rw [hc] at hcs
      obtain rfl := Option.some.inj hcs
      have hnew : ∀ c ∈ List.range' P.nodes.length (K P), P'.stOf c = s0 := by
        intro c hc
        obtain ⟨i, hi, rfl⟩ := List.mem_range'.1 hc
        obtain ⟨cn, c1, _, _, _, _, _, c2⟩ := St.new i hi
        rw [Nat.one_mul, stOf_eq c1, c2]
      have hmem : P.nodes.length ∈ List.range' P.nodes.length (K P) :=
        List.mem_range'.2 ⟨0, hK, rfl⟩
      refine ⟨s0.b, ?_, fun c hc => by rw [hnew c hc], P.nodes.length, hmem, by rw [hnew _ hmem]⟩
      rw [hst, ((hall j hp0) nd hp).1 hleaf]
      exact (min_eq_left (htop _)).symm
    · obtain ⟨l1, l2⟩ := hall j hj x h0
      rw [hst, hne hjp]
      refine ⟨l1, fun cs hcs => ?_⟩
      obtain ⟨M, m1, m2, c, m3, m4⟩ := l2 cs hcs
      have hsame : ∀ c ∈ cs, P'.stOf c = P.stOf c := by
        intro c hc
        obtain ⟨_, cn, _, _, _, _, c1, _⟩ := W.child_facts h0 hcs hc
        obtain ⟨cn', d1, _, _, _, _, d2, _⟩ := St.pres hp c1
        rw [stOf_eq d1, stOf_eq c1, d2]
      exact ⟨M, m1, fun c hc => by rw [hsame c hc]; exact m2 c hc, c, m3,
        by rw [hsame c m3]; exact m4⟩
  · refine ⟨fun _ => by rw [hst]; exact hs0, fun cs hcs => ?_⟩
    rw [hch] at hcs; cases hcs

/-- The global refresh never raises; up to B-values it is the payload pass `hctA`. -/
theorem refreshPass_ok {cfg : HCTCfg R S} {s : HCT α R S} (hbot : ∀ x, cfg.negInf ≤ x)
    (W : WF s.P) : ∃ P1, HCT.refreshPass cfg s.iteration s.P = .ok P1 ∧
      PRel (ModB fun _ nd => hctA cfg s.iteration nd) s.P P1 := by
  unfold HCT.refreshPass
  by_cases h : s.iteration = tPlus s.iteration
  · have e : ∀ nd : Node α (TBSt R S),
        hctA cfg s.iteration nd = HCT.computeU cfg (cfg.dtOne (tPlus s.iteration)) nd :=
      fun nd => if_pos h
    have U := forListed_upd W (HCT.computeU cfg (cfg.dtOne (tPlus s.iteration)))
    obtain ⟨Q, hQ, OB, hroot, _⟩ := backward_spec hbot (U.prel.wf W)
    simp only [if_pos h, e]
    exact ⟨Q, hQ, ModB.step (ModB.refl s.P) U OB hroot (fun _ => computeU_b cfg _)⟩
  · have e : ∀ nd : Node α (TBSt R S), hctA cfg s.iteration nd = nd.st := fun nd => if_neg h
    simp only [if_neg h, e]
    exact ⟨_, rfl, ModB.refl s.P⟩

/-- The stages of `receive` in a state ready for it: the payload passes and `backward` lead to
`P4`, a payload-only update of `s.P`; then the pulled cell `v` is split if the test `c` says
so. -/
structure HCTStages (cfg : HCTCfg R S) (s s' : HCT α R S) (v : Nat) (r : R)
    (ds ds' : List (Draw α)) (P4 : Part α (TBSt R S)) (c : Bool) : Prop where
  upd : PRel (ModB (hctF cfg r s.iteration v)) s.P P4
  leaf : c = true → ∀ x, P4.nodes[v]? = some x → x.children = none
  exp : (if c = true then P4.expand (HCT.st0 cfg) v ds else .ok (P4, ds)) = .ok (s'.P, ds')
  wf : WF s'.P
  grow : Grow P4 s'.P (HCT.st0 cfg) v
  brec : ∀ w, 0 < w → BRec s'.P w
  iter : s'.iteration = s.iteration + 1

/-- **`receive` after `pull`** (HCT / VHCT) never raises (given a well-formed draw). -/
theorem HCT_receive_stages {cfg : HCTCfg R S} (hbot : ∀ x, cfg.negInf ≤ x)
    (htop : ∀ x, x ≤ cfg.inf) {s : HCT α R S} {v : Nat} (Rd : HCTReady cfg s v) (r : R)
    (d : Draw α) (ds : List (Draw α)) (hd : DrawOKLen s.P.kind (dimn s.P) d) :
    ∃ s' ds', HCT.receive cfg s r (d :: ds) = .ok (s', ds') ∧
      ∃ P4 c, HCTStages cfg s s' v r (d :: ds) ds' P4 c := by
  obtain ⟨I, ⟨path, hpath, G⟩, hlen⟩ := Rd
  have W := I.wf
  obtain ⟨ndv, hv1, _⟩ := G.stop
  obtain ⟨P1, hP1, hA⟩ := refreshPass_ok (s := s) hbot W
  -- the reward is recorded at `v` and its U-value recomputed, then `backward`
  have U3 := creditOne_upd cfg (cfg.dtOne (tPlus s.iteration)) P1 v r
  obtain ⟨P4, hback, OB, hroot4, hbrec4⟩ := backward_spec hbot (U3.prel.wf (hA.wf W))
  have h4 : PRel (ModB (hctF cfg r s.iteration v)) s.P P4 :=
    ModB.step (F := fun _ nd => hctA cfg s.iteration nd) hA U3 OB hroot4 (hctB_b cfg r _ v)
  have W4 : WF P4 := h4.wf W
  obtain ⟨_, hnd4, _, bv, rfl, _⟩ := h4.node v ndv hv1
  obtain ⟨t, ht1, ht2⟩ : ∃ t,
      (cfg.variance = true → t = (hctF cfg r s.iteration v v ndv).tau) ∧
      (cfg.variance = false → s.tauH[ndv.depth]? = some t) := by
    cases hvar : cfg.variance with
    | true => exact ⟨_, fun _ => rfl, nofun⟩
    | false =>
      have hlt : ndv.depth < s.tauH.length :=
        hlen hvar ▸ Nat.lt_succ_of_le (W.depth_le v ndv hv1)
      exact ⟨_, nofun, fun _ => List.getElem?_eq_getElem hlt⟩
  have hleaf : ∀ {c : Bool}, (ndv.children.isNone && c) = true → ndv.children = none :=
    fun h => Option.isNone_iff_eq_none.1 (Bool.and_eq_true _ _ ▸ h).1
  obtain ⟨P5, ds', hexp, W5, Gr, hor⟩ := expand_if_ok (ndv.children.isNone && cfg.countGE
      ({ hctF cfg r s.iteration v v ndv with b := bv } : TBSt R S).count t) W4 (HCT.st0 cfg) hnd4
    hleaf ds (by rw [h4.kind, h4.dimn_eq]; exact hd)
  refine ⟨_, ds', HCT.receive_eq_ok.2 ⟨path, v, P1, P4, _, t, P5, hpath, G.last, hP1, hback,
    hnd4, ht1, ht2, hexp, rfl⟩, P4, _, h4, fun hc x hx => ?_, hexp, W5, Gr, ?_, rfl⟩
  · obtain rfl := getElem?_inj hnd4 hx
    exact hleaf hc
  · rcases hor with ⟨_, rfl⟩ | ⟨hc, St⟩
    · exact hbrec4
    · exact BRec_step St W4 W5 hnd4 (hleaf hc) rfl htop
        (pos_of_leaf I.root_split hv1 (hleaf hc)) hbrec4

theorem HCTStages.inv {cfg : HCTCfg R S} {s s' : HCT α R S} {v : Nat} {r : R}
    {ds ds' : List (Draw α)} {P4 : Part α (TBSt R S)} {c : Bool}
    (T : HCTStages cfg s s' v r ds ds' P4 c) (I : HCTInv cfg s) :
    HCTInv cfg s' ∧
      ∀ ts, HCTU cfg s.P ts → HCTU cfg s'.P (tsStep s.iteration s.P v ts) := by
  constructor
  · obtain ⟨r0, cs, q1, q2⟩ := I.root_split
    obtain ⟨r4, g1, g2, _⟩ := T.upd.node 0 r0 q1
    obtain ⟨x', g3, _, _, g4⟩ := T.grow.old 0 r4 g1
    have hc4 : r4.children = some cs := g2.children.trans q2
    refine HCTInv.of_nodes T.wf ⟨x', cs, g3, (g4 (Or.inr (by rw [hc4]; nofun))).trans hc4⟩
      (T.iter ▸ Nat.le_add_left 1 _) ?_ T.brec
    refine T.grow.all (I.nodes.prel T.upd (fun j a b _ _ ⟨x, e, _⟩ ha => ?_))
      (fun _ _ _ _ hs _ h => hs ▸ h) (fun _ _ hs _ _ => hs ▸ st0_inv cfg)
    rw [e]
    exact hctF_inv cfg r s.iteration v j a ha
  · intro ts hU
    have hU4 : AllNodes P4 (fun j nd =>
        HCTNodeU cfg (tsStep s.iteration s.P v ts j) nd.depth nd.st) := by
      refine AllNodes.prel (Q := fun j nd => HCTNodeU cfg (ts j) nd.depth nd.st) hU T.upd
        (fun j a b hj _ ⟨x, e, _⟩ ha => ?_)
      rw [e]
      simp only [tsStep, stOf_eq hj]
      exact hctF_U cfg r s.iteration v j (ts j) a ha
    exact T.grow.all hU4 (fun _ _ _ hd hs _ h => hs ▸ hd ▸ h)
      (fun _ _ hs _ _ hc => by rw [hs] at hc; exact absurd hc (Nat.lt_irrefl 0))

end TBB
end PyXAB
