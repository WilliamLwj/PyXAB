/-
  StoSOO: totality of `pull`, one round `pull; receive` (`round_spec`) and the ask/tell loop.
-/
import PyXABProofs.Lemmas.SW_Sto
import PyXABProofs.Lemmas.SW_Loop

set_option linter.unusedSectionVars false

namespace PyXAB
namespace StoSOO
open Tree TBA SW

variable {α R S : Type} [Add α] [Sub α] [Mul α] [Div α] [OfNat α 2] [NatCast α]
variable [LinearOrder S] [Inhabited S] [Inhabited R]

theorem loopT_handout (cfg : StoCfg S R) {time fuel h : Nat} {bmax : S} {P P1 : Part α (TBSt R S)}
    {ds : List (Draw α)} {l : List Nat} {j id : Nat} {b : S} {nd : Node α (TBSt R S)}
    (hh : h ≤ min (P.depth + 1) cfg.hmax) (ht : time ≤ cfg.n) (hl : P.layers[h]? = some l)
    (hsc : scan cfg l 0 P none = (P1, some (j, id, b))) (hb : bmax ≤ b)
    (hm : P1.nodes[id]? = some nd) (hc : cfg.countLT nd.st.count = true) :
    loopT cfg time (fuel + 1) h bmax P ds = .ok (P1, ds, bmax, h, j, id, []) := by
  rw [loopT, if_pos hh, if_pos ht, hl]
  dsimp only
  rw [hsc]
  dsimp only
  rw [if_pos hb, hm]
  dsimp only
  rw [if_pos hc]

/-- The best leaf `id` of layer `h` exists.  If it is expanded, layer `h + 1` ends with its last
child, a fresh leaf whose refreshed `b` is `inf`: the loop hands it out. -/
theorem loopT_expand_handout (cfg : StoCfg S R) (htop : ∀ x, x ≤ cfg.inf)
    (hk0 : cfg.countLT 0 = true) {time : Nat} (ht : time ≤ cfg.n) {fuel h : Nat}
    {P P1 : Part α (TBSt R S)} {ds : List (Draw α)} {l : List Nat} {j0 id : Nat} {b : S}
    (hI : PInv cfg P) (hcap : P.depth + 1 ≤ cfg.hmax) (hfuel : 0 < fuel) (hlen : 1 ≤ ds.length)
    (hds : ∀ d ∈ ds, DrawOKLen P.kind (dimn P) d) (hl : P.layers[h]? = some l)
    (hsc : scan cfg l 0 P none = (P1, some (j0, id, b))) :
    P1.depth = P.depth ∧ ∃ nd, P1.nodes[id]? = some nd ∧ ∃ P2 ds0 P3 j v,
      P1.makeChildrenD (st0 cfg) id (decide (h ≥ P1.depth)) ds = .ok (P2, ds0) ∧
      loopT cfg time fuel (h + 1) b P2 ds0 = .ok (P3, ds0, b, h + 1, j, v, []) ∧
      P3.depth ≤ P.depth + 1 := by
  have hp := scan_spec0 cfg hsc
  have hI1 : PInv cfg P1 := hI.refresh hp.prel
  have hl1 : P1.layers[h]? = some l := by rw [hp.prel.layers]; exact hl
  have hdep1 := hp.prel.depth
  rcases hp.best with ⟨e, _⟩ | ⟨k, m, x, e, hk, hmax⟩
  · cases e
  cases e
  obtain ⟨nd, hm, hleaf, hx, hdep⟩ := hmax.node_of_layer hI1.wf hl1
  obtain ⟨d, ds0, P2, rfl, hmk, St, W2, hK⟩ := expand_total hI1.wf (st0 cfg) hm hleaf
    (fl := decide (h ≥ P1.depth)) (by rw [hdep]) hlen
    (hp.prel.draws hds)
  obtain ⟨l2, hl2, hd2, hd2', hlast, hnew⟩ := Step_new_layer St hI1.wf hK
  rw [hdep] at hl2 hd2
  obtain ⟨_, cn, c1, c5, c7⟩ := hnew (K P1 - 1) (by omega)
  have hzl := List.mem_of_getLast? hlast
  cases hsc2 : scan cfg l2 0 P2 none with
  | mk P3 res =>
    have hq := scan_spec0 cfg hsc2
    obtain ⟨cn3, d1, d2⟩ := hq.refreshed _ hzl cn c1 c5
    rw [c7, computeB_st0] at d2
    have d3 : cn3.children = none := by
      obtain ⟨cn3', e1, e2, _⟩ := hq.prel.node _ cn c1
      obtain rfl := getElem?_inj d1 e1
      rw [e2.children]; exact c5
    have hscore : leafScore P3 (·.b) (P1.nodes.length + (K P1 - 1)) = some cfg.inf :=
      leafScore_eq_some_iff.2 ⟨cn3, d1, d3, by rw [d2]; rfl⟩
    rcases hq.best with ⟨_, e2⟩ | ⟨k2, m2, x2, e, _, hmax2⟩
    · rw [e2 _ hzl] at hscore; cases hscore
    · obtain rfl := hmax2.eq_last hlast hscore htop
      obtain rfl : x2 = cfg.inf := by
        have := hmax2.score; rw [hscore] at this; cases this; rfl
      obtain ⟨fuel', rfl⟩ := Nat.exists_eq_add_one_of_ne_zero (Nat.pos_iff_ne_zero.1 hfuel)
      exact ⟨hdep1, nd, hm, P2, ds0, P3, k2, _, hmk,
        loopT_handout cfg (by omega) ht hl2 (e ▸ hsc2) (htop _) d1 (by rw [d2]; exact hk0),
        by rw [hq.prel.depth]; omega⟩

/-- Below the depth cap and within the budget the loop hands out a cell: the best leaf of a
layer if it may still be evaluated, and otherwise, after its expansion, its last child. -/
theorem loopT_total (cfg : StoCfg S R) (htop : ∀ x, x ≤ cfg.inf)
    (hk0 : cfg.countLT 0 = true) {time : Nat} (ht : time ≤ cfg.n) (fuel h : Nat) (bmax : S)
    (P : Part α (TBSt R S)) (ds : List (Draw α)) (hv : ∀ x, bmax ≤ x) (hI : PInv cfg P)
    (hcap : P.depth + 1 ≤ cfg.hmax) (hh : h ≤ P.depth) (hf : P.depth - h + 3 ≤ fuel)
    (hlen : 1 ≤ ds.length) (hds : ∀ d ∈ ds, DrawOKLen P.kind (dimn P) d) :
    ∃ P' ds' bm h' j v tr,
      loopT cfg time fuel h bmax P ds = .ok (P', ds', bm, h', j, v, tr) ∧
      P'.depth ≤ P.depth + 1 := by
  fun_induction loopT cfg time fuel h bmax P ds
  case case1 => omega
  case case2 fuel h bmax P ds _ _ hl =>
    obtain ⟨l, hl'⟩ := hI.wf.layer_exists hh
    rw [hl] at hl'; cases hl'
  case case10 ht' => exact absurd ht ht'
  case case11 hh' => exact absurd (by omega) hh'
  case case9 hc _ => exact absurd (hv _) hc
  case case3 fuel h bmax P ds _ _ l hl P1 hsc ih =>
    -- no leaf in this layer: it is not the deepest one
    have hp := scan_spec0 cfg hsc
    have hI1 : PInv cfg P1 := hI.refresh hp.prel
    have hdep1 := hp.prel.depth
    have hlt : h < P1.depth := by
      rcases hp.best with ⟨_, e2⟩ | ⟨_, _, _, e, _⟩
      · exact lt_depth_of_all_none hI1.wf (by omega) (by rw [hp.prel.layers]; exact hl) e2
      · cases e
    obtain ⟨P', ds', bm, h', j, v, tr, e, hle⟩ := ih hv hI1 (by omega) (by omega) (by omega) hlen
      (hp.prel.draws hds)
    exact ⟨P', ds', bm, h', j, v, tr, e, by omega⟩
  case case5 fuel h bmax P ds _ _ l hl P1 j0 id b hsc hc nd hm hcl =>
    exact ⟨_, _, _, _, _, _, _, rfl, by rw [(scan_spec0 cfg hsc).prel.depth]; omega⟩
  case case4 fuel h bmax P ds _ _ l hl P1 j0 id b hsc hc hm =>
    obtain ⟨_, _, hm', _⟩ := loopT_expand_handout cfg htop hk0 ht (fuel := fuel + 1) hI hcap
      (Nat.succ_pos _) hlen hds hl hsc
    rw [hm] at hm'; cases hm'
  case case6 fuel h bmax P ds _ _ l hl P1 j0 id b hsc hc nd hm hcl e hmk =>
    obtain ⟨_, _, _, _, _, _, _, _, hmk', _⟩ := loopT_expand_handout cfg htop hk0 ht
      (fuel := fuel + 1) hI hcap (Nat.succ_pos _) hlen hds hl hsc
    rw [hmk] at hmk'; cases hmk'
  case case7 fuel h bmax P ds _ _ l hl P1 j0 id b hsc hc nd hm hcl P2 ds1 hmk e hrec _ =>
    obtain ⟨_, _, _, _, _, _, _, _, hmk', e', _⟩ := loopT_expand_handout cfg htop hk0 ht
      (fuel := fuel) hI hcap (by omega) hlen hds hl hsc
    rw [hmk] at hmk'; cases hmk'
    rw [hrec] at e'; cases e'
  case case8 fuel h bmax P ds _ _ l hl P1 j0 id b hsc hc nd hm hcl P2 ds1 hmk P3 ds3 bm3 h3 j3 v3
      tr3 hrec _ =>
    obtain ⟨_, _, _, _, _, _, _, _, hmk', e', hd⟩ := loopT_expand_handout cfg htop hk0 ht
      (fuel := fuel) hI hcap (by omega) hlen hds hl hsc
    rw [hmk] at hmk'; cases hmk'
    rw [hrec] at e'; cases e'
    exact ⟨_, _, _, _, _, _, _, rfl, hd⟩

theorem pullT_total (cfg : StoCfg S R) (hbot : ∀ x, cfg.negInf ≤ x) (htop : ∀ x, x ≤ cfg.inf)
    (hk0 : cfg.countLT 0 = true) {s : StoSOO α R S} {time : Nat} {ds : List (Draw α)}
    (hI : Inv cfg s) (hcap : s.P.depth + 1 ≤ cfg.hmax) (ht : time ≤ cfg.n)
    (hlen : 1 ≤ ds.length) (hds : ∀ d ∈ ds, DrawOKLen s.P.kind (dimn s.P) d) :
    ∃ s' ds' v tr, pullT cfg s time ds = .ok (s', ds', v, tr) ∧
      s'.P.depth ≤ s.P.depth + 1 := by
  obtain ⟨P', ds', bm, h', j, v, tr, e, hd⟩ := loopT_total cfg htop hk0 ht
    (s.P.depth + 4) 0 cfg.negInf s.P ds hbot hI hcap (Nat.zero_le _) (by omega) hlen hds
  refine ⟨{ s with P := P', iteration := time, bmax := bm, sel := some (h', j) }, ds', v, tr,
    ?_, hd⟩
  unfold pullT
  simp only [e]

theorem init_inv (cfg : StoCfg S R) (k : Kind) (domain : Box α) :
    Inv cfg (init cfg k domain) ∧ (init cfg k domain).P.kind = k ∧
      dimn (init cfg k domain).P = domain.length ∧ (init cfg k domain).P.depth = 0 :=
  ⟨PInv.init cfg k domain, rfl, rfl, rfl⟩

theorem round_post (cfg : StoCfg S R) {s s' : StoSOO α R S} {x : Input α R} {v : Nat}
    (hI : Inv cfg s) (hds : ∀ d ∈ x.2.1, DrawOKLen s.P.kind (dimn s.P) d)
    (hrun : round cfg s x = .ok (s', v)) :
    ∃ s1 ds1 tr h j, pullT cfg s x.1 x.2.1 = .ok (s1, ds1, v, tr) ∧
      LoopPost cfg 0 cfg.negInf s.P x.2.1 s1.P ds1 h j v tr ∧ Ready cfg s1 v ∧ Inv cfg s' ∧
      s'.P = s1.P.modifySt v (recvSt cfg x.2.2) := by
  unfold round at hrun
  cases hp : pull cfg s x.1 x.2.1 with
  | error e => rw [hp] at hrun; cases hrun
  | ok res =>
    obtain ⟨s1, ds1, v1⟩ := res
    obtain ⟨tr, hpT⟩ := (pull_ok_iff cfg s x.1 x.2.1 s1 ds1 v1).1 hp
    obtain ⟨⟨h, j, _, hpost⟩, hR, _⟩ := pullT_spec cfg hI hds hpT
    obtain ⟨s2, e2, hI2, hP2, _⟩ := receive_total cfg x.2.2 hR
    rw [hp] at hrun
    dsimp only at hrun
    rw [e2] at hrun
    cases hrun
    exact ⟨s1, ds1, tr, h, j, hpT, hpost, hR, hI2, hP2⟩

theorem round_inv (cfg : StoCfg S R) {s s' : StoSOO α R S} {x : Input α R} {v : Nat}
    (hI : Inv cfg s) (hds : ∀ d ∈ x.2.1, DrawOKLen s.P.kind (dimn s.P) d)
    (hrun : round cfg s x = .ok (s', v)) :
    Inv cfg s' ∧ s'.P.kind = s.P.kind ∧ dimn s'.P = dimn s.P ∧ s.P.depth ≤ s'.P.depth := by
  obtain ⟨s1, _, _, _, _, _, hpost, _, hI2, hP2⟩ := round_post cfg hI hds hrun
  have hr := PRel_modifySt s1.P v (recvSt cfg x.2.2)
  rw [hP2]
  exact ⟨hI2, hr.kind.trans hpost.ext.kind, hr.dimn_eq.trans hpost.ext.dimn,
    Nat.le_trans hpost.ext.depth (Nat.le_of_eq hr.depth.symm)⟩

theorem round_spec (cfg : StoCfg S R) (hbot : ∀ x, cfg.negInf ≤ x) (htop : ∀ x, x ≤ cfg.inf)
    (hk0 : cfg.countLT 0 = true) {s : StoSOO α R S} {x : Input α R} (hI : Inv cfg s)
    (hcap : s.P.depth + 1 ≤ cfg.hmax) (ht : x.1 ≤ cfg.n) (hlen : 1 ≤ x.2.1.length)
    (hds : ∀ d ∈ x.2.1, DrawOKLen s.P.kind (dimn s.P) d) :
    ∃ s' v, round cfg s x = .ok (s', v) ∧ Inv cfg s' ∧ s'.P.kind = s.P.kind ∧
      dimn s'.P = dimn s.P ∧ s'.P.depth ≤ s.P.depth + 1 := by
  obtain ⟨s1, ds1, v, tr, hpT, hd⟩ := pullT_total cfg hbot htop hk0 hI hcap ht hlen hds
  have hp : pull cfg s x.1 x.2.1 = .ok (s1, ds1, v) :=
    (pull_ok_iff cfg s x.1 x.2.1 s1 ds1 v).2 ⟨tr, hpT⟩
  obtain ⟨_, hR, _⟩ := pullT_spec cfg hI hds hpT
  obtain ⟨s2, e2, _, hP2, _⟩ := receive_total cfg x.2.2 hR
  have hrun : round cfg s x = .ok (s2, v) := by
    unfold round; simp only [hp, e2]
  obtain ⟨a, b, c, _⟩ := round_inv cfg hI hds hrun
  refine ⟨s2, v, hrun, a, b, c, ?_⟩
  have hP2' : s2.P = s1.P.modifySt v (recvSt cfg x.2.2) := hP2
  rw [hP2']
  exact hd

theorem isLoop (cfg : StoCfg S R) : IsLoop (·.2.2) (round (α := α) cfg) (runRounds cfg) :=
  ⟨fun _ => rfl, fun s x rest => by
    rw [runRounds]
    cases round cfg s x with
    | error e => rfl
    | ok r =>
      obtain ⟨s1, v⟩ := r
      dsimp only
      cases runRounds cfg s1 rest <;> rfl⟩

theorem runRounds_ok (cfg : StoCfg S R) (hbot : ∀ x, cfg.negInf ≤ x) (htop : ∀ x, x ≤ cfg.inf)
    (hk0 : cfg.countLT 0 = true) (inputs : List (Input α R)) (s : StoSOO α R S)
    (hI : Inv cfg s) (hin : InputsOK s.P.kind (dimn s.P) inputs) (hn : ∀ x ∈ inputs, x.1 ≤ cfg.n)
    (hcap : s.P.depth + inputs.length ≤ cfg.hmax) :
    ∃ s' H, runRounds cfg s inputs = .ok (s', H) ∧ Inv cfg s' ∧
      H.map (·.2) = inputs.map (·.2.2) ∧ s'.P.depth ≤ s.P.depth + inputs.length ∧
      s'.P.kind = s.P.kind ∧ dimn s'.P = dimn s.P := by
  obtain ⟨s', H, e, ⟨a, b, c, d⟩, f⟩ := (isLoop (α := α) cfg).total
    (I := fun t _ n => Inv cfg t ∧ t.P.kind = s.P.kind ∧ dimn t.P = dimn s.P ∧
      t.P.depth + n ≤ s.P.depth + inputs.length)
    (OK := fun x => (1 ≤ x.2.1.length ∧ ∀ d ∈ x.2.1, DrawOKLen s.P.kind (dimn s.P) d) ∧
      x.1 ≤ cfg.n)
    (fun t _ n x ⟨hIt, hk, hd, hdep⟩ ⟨⟨hl, hds⟩, hx⟩ => by
      rw [← hk, ← hd] at hds
      obtain ⟨t2, v, hr, a, b, c, d⟩ := round_spec cfg hbot htop hk0 hIt (by omega) hx hl hds
      exact ⟨t2, v, hr, a, b.trans hk, c.trans hd, by omega⟩)
    inputs s [] ⟨hI, rfl, rfl, Nat.le_refl _⟩ (fun x hx => ⟨hin x hx, hn x hx⟩)
  exact ⟨s', H, e, a, f, d, b, c⟩

end StoSOO
end PyXAB
