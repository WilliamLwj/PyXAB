/-
  POO: rounds and runs (the ghost-instrumented loop of `Spec/MetaSpec.lean`).
  Core Lean only.
-/
import PyXABProofs.Lemmas.MT_POOStep

namespace PyXAB.MT
open PyXAB POO
variable {L α R S Pt ρ : Type} {ops : LearnerOps L α R Pt ρ} {cfg : POOCfg R S ρ} {s s' s2 : POO L S}
  {x : RoundIn α R} {e : Entry R} {pt : Pt} {xs ys : List (RoundIn α R)} {log : List (Entry R)}

theorem round_ok (h : round ops cfg s x = .ok (s2, e, pt)) :
    ∃ s1 ds1 ds2, pull ops cfg s x.time x.ds = .ok (s1, ds1, e.served, pt) ∧
      receive ops cfg s1 x.time x.r ds1 = .ok (s2, ds2) ∧
      e = { served := e.served, received := recvIdx cfg s1, r := x.r, created := creates cfg s } := by
  unfold round at h
  split at h
  · cases h
  · rename_i s1 ds1 i pt' hp
    split at h
    · cases h
    · rename_i s2' ds2 hr
      cases h
      exact ⟨s1, ds1, ds2, hp, hr, rfl⟩

theorem round_of_ok {s1 : POO L S} {ds1 ds2 : List (Draw α)} {i : Nat}
    (hp : pull ops cfg s x.time x.ds = .ok (s1, ds1, i, pt))
    (hr : receive ops cfg s1 x.time x.r ds1 = .ok (s2, ds2)) :
    round ops cfg s x =
      .ok (s2, { served := i, received := recvIdx cfg s1, r := x.r, created := creates cfg s }, pt) := by
  unfold round
  rw [hp]
  dsimp only
  rw [hr]

/-- One round from an invariant state: the invariant is re-established, the reward goes to the
learner which served the round, and the effects of `pull` and `receive` are as specified. -/
theorem round_spec (hI : Inv cfg s)
    (h : round ops cfg s x = .ok (s2, e, pt)) :
    Inv cfg s2 ∧ e.received = e.served ∧ e.r = x.r ∧ e.created = creates cfg s ∧
    ∃ s1 ds1 ds2, Ready cfg s1 ∧ pull ops cfg s x.time x.ds = .ok (s1, ds1, e.served, pt) ∧
      receive ops cfg s1 x.time x.r ds1 = .ok (s2, ds2) ∧
      PullEffect ops cfg s x.time x.ds s1 ds1 e.served pt ∧
      RecvEffect ops cfg s1 x.time x.r ds1 s2 ds2 e.served := by
  obtain ⟨a, m, hI⟩ := hI
  obtain ⟨s1, ds1, ds2, hp, hr, he⟩ := round_ok h
  obtain ⟨hR, hidx, hpe⟩ := pull_ready hI hp
  obtain ⟨hI2, hre⟩ := receive_inv hR hr
  rw [hidx] at hre
  refine ⟨hI2, ?_, ?_, ?_, s1, ds1, ds2, ⟨a, m, hR⟩, hp, hr, hpe, hre⟩
  · rw [he]; exact hidx
  · rw [he]
  · rw [he]

theorem round_total (hI : Inv cfg s) (hops : OpsTotal ops) (x : RoundIn α R) :
    ∃ s2 e pt, round ops cfg s x = .ok (s2, e, pt) := by
  obtain ⟨a, m, hI⟩ := hI
  obtain ⟨s1, ds1, i, pt, hp⟩ := pull_total hI hops x.time x.ds
  obtain ⟨s2, ds2, hr⟩ := receive_total (pull_ready hI hp).1 hops x.time x.r ds1
  exact ⟨s2, _, pt, round_of_ok hp hr⟩

/-- The effect of one round on the scores and counts, in `getD` form (a learner which does not
exist yet has count `0` and score `zero`): only the serving learner `i` changes; its score is
updated with `k =` its count before the round, and its count is incremented. -/
theorem round_lists (hI : Inv cfg s)
    (h : round ops cfg s x = .ok (s2, e, pt)) :
    (∀ j, (s2.times[j]?).getD 0 = (s.times[j]?).getD 0 + if j = e.served then 1 else 0) ∧
    (∀ j, j ≠ e.served → (s2.V[j]?).getD cfg.zero = (s.V[j]?).getD cfg.zero) ∧
    s2.V[e.served]? = some (cfg.upd ((s.V[e.served]?).getD cfg.zero) ((s.times[e.served]?).getD 0) x.r) ∧
    s2.learners.length = s.learners.length + (if creates cfg s = none then 0 else 1) ∧
    e.served < s2.learners.length := by
  obtain ⟨-, -, -, -, s1, ds1, ds2, -, -, -, hpe, hre⟩ := round_spec hI h
  obtain ⟨-, -, -, -, -, pre, l, l1, hcase, -, -, hl1⟩ := hpe
  obtain ⟨l', l2, v, t, hl', hv, ht, -, hl2, hv2, ht2⟩ := hre
  -- read with defaults, `pull` changes neither scores nor counts
  have hpull : (∀ j : Nat, (s1.V[j]?).getD cfg.zero = (s.V[j]?).getD cfg.zero) ∧
      (∀ j : Nat, (s1.times[j]?).getD 0 = (s.times[j]?).getD 0) ∧
      s1.learners.length = s.learners.length + (if creates cfg s = none then 0 else 1) := by
    rw [hl1, List.length_set]
    rcases hcase with ⟨hcr, rfl, hV1, hT1, -⟩ | ⟨hcr, lnew, -, rfl, hV1, hT1⟩
    · rw [hV1, hT1, hcr]
      exact ⟨fun _ => rfl, fun _ => rfl, rfl⟩
    · rw [hV1, hT1, hcr]
      exact ⟨getD_getElem?_concat s.V cfg.zero, getD_getElem?_concat s.times 0, List.length_append⟩
  obtain ⟨hV1, hT1, hlen1⟩ := hpull
  have hv' := hV1 e.served
  have ht' := hT1 e.served
  rw [hv] at hv'
  rw [ht] at ht'
  rw [hv2, ht2, hl2, List.length_set, ← hv', ← ht']
  refine ⟨fun j => ?_, fun j hj => ?_, ?_, hlen1, (List.getElem?_eq_some_iff.mp hl').1⟩
  · rw [getElem?_set_of_some ht, ← hT1 j]
    split
    · subst j; rw [ht]; rfl
    · rfl
  · rw [getElem?_set_of_some hv, if_neg hj, hV1 j]
  · rw [getElem?_set_of_some hv, if_pos rfl]
    rfl

/-- `round` without the point it returns: the step function of `run` -/
def roundE (ops : LearnerOps L α R Pt ρ) (cfg : POOCfg R S ρ) (s : POO L S) (x : RoundIn α R) :
    Except Err (POO L S × Entry R) :=
  match round ops cfg s x with
  | .error err => .error err
  | .ok (s1, e, _) => .ok (s1, e)

theorem roundE_ok_iff :
    roundE ops cfg s x = .ok (s', e) ↔ ∃ pt, round ops cfg s x = .ok (s', e, pt) := by
  unfold roundE
  cases round ops cfg s x with
  | error _ => exact ⟨nofun, nofun⟩
  | ok o =>
    obtain ⟨s1, e1, pt⟩ := o
    exact ⟨fun h => by cases h; exact ⟨pt, rfl⟩, fun ⟨_, h⟩ => by cases h; rfl⟩

theorem run_eq_runM (s : POO L S) (xs : List (RoundIn α R)) :
    run ops cfg s xs = runM (roundE ops cfg) s xs := by
  induction xs generalizing s with
  | nil => rfl
  | cons x xs ih =>
    rw [run, runM, roundE]
    cases round ops cfg s x with
    | error _ => rfl
    | ok o =>
      obtain ⟨s1, e, pt⟩ := o
      dsimp only [bind, Except.bind]
      rw [ih]
      cases runM (roundE ops cfg) s1 xs <;> rfl

theorem run_cons_ok_iff :
    run ops cfg s (x :: xs) = .ok (s', log) ↔
      ∃ s1 e pt log', round ops cfg s x = .ok (s1, e, pt) ∧ run ops cfg s1 xs = .ok (s', log') ∧
        log = e :: log' := by
  simp only [run_eq_runM, runM_cons_ok_iff, roundE_ok_iff]
  exact ⟨fun ⟨s1, e, log', ⟨pt, hr⟩, h⟩ => ⟨s1, e, pt, log', hr, h⟩,
    fun ⟨s1, e, pt, log', hr, h⟩ => ⟨s1, e, log', ⟨pt, hr⟩, h⟩⟩

/-- A run over `xs ++ ys` is a run over `xs` followed by a run over `ys` ("at every moment"). -/
theorem run_append_ok_iff :
    run ops cfg s (xs ++ ys) = .ok (s', log) ↔
      ∃ s1 log1 log2, run ops cfg s xs = .ok (s1, log1) ∧ run ops cfg s1 ys = .ok (s', log2) ∧
        log = log1 ++ log2 := by
  simp only [run_eq_runM]
  exact runM_append_ok_iff

theorem run_length (h : run ops cfg s xs = .ok (s', log)) : log.length = xs.length :=
  runM_length (run_eq_runM s xs ▸ h)

theorem inv_init (cfg : POOCfg R S ρ) (hc : cfg.cond 2 2 = true) : Inv cfg (POO.init : POO L S) :=
  ⟨1, 1, invAM_init cfg hc⟩

theorem run_inv (hI : Inv cfg s) (h : run ops cfg s xs = .ok (s', log)) : Inv cfg s' :=
  runM_induction (J := fun s _ => Inv cfg s) (log0 := [])
    (fun _ _ _ _ _ hJ hr => let ⟨_, hr⟩ := roundE_ok_iff.mp hr; (round_spec hJ hr).1) hI (run_eq_runM s xs ▸ h)

theorem run_induction {J : POO L S → List (Entry R) → Prop}
    (step : ∀ s log x s' e pt, Inv cfg s → J s log → round ops cfg s x = .ok (s', e, pt) → J s' (log ++ [e]))
    (hI : Inv cfg s) (hJ : J s []) (h : run ops cfg s xs = .ok (s', log)) : J s' log := by
  rw [run_eq_runM] at h
  have := runM_induction (J := fun s log => Inv cfg s ∧ J s log) (fun s log x s' e hJ hr => by
    obtain ⟨pt, hr⟩ := roundE_ok_iff.mp hr
    exact ⟨(round_spec hJ.1 hr).1, step s log x s' e pt hJ.1 hJ.2 hr⟩) ⟨hI, hJ⟩ h
  rw [List.nil_append] at this
  exact this.2

theorem reach_inv (hc : cfg.cond 2 2 = true) (h : Reach ops cfg s) : Inv cfg s := by
  obtain ⟨xs, log, h⟩ := h
  exact run_inv (inv_init cfg hc) h

theorem run_total (hops : OpsTotal ops) (xs : List (RoundIn α R)) (hI : Inv cfg s) :
    ∃ s' log, run ops cfg s xs = .ok (s', log) := by
  simp only [run_eq_runM]
  refine runM_total (I := Inv cfg) (fun s x hI => ?_) xs hI
  obtain ⟨s1, e, pt, hr⟩ := round_total hI hops x
  exact ⟨s1, e, roundE_ok_iff.mpr ⟨pt, hr⟩, (round_spec hI hr).1⟩

theorem recvCount_snoc (log : List (Entry R)) (e : Entry R) (j : Nat) :
    recvCount (log ++ [e]) j = recvCount log j + if j = e.received then 1 else 0 := by
  unfold recvCount
  rw [List.countP_append, List.countP_singleton]
  by_cases h : j = e.received
  · rw [if_pos h, if_pos (beq_iff_eq.mpr h.symm)]
  · rw [if_neg h, if_neg (fun h' => h (beq_iff_eq.mp h').symm)]

/-- `times[j]` grows by the number of log entries whose receiver is `j`. -/
theorem run_counts (hI : Inv cfg s) (h : run ops cfg s xs = .ok (s', log)) :
    ∀ j, (s'.times[j]?).getD 0 = (s.times[j]?).getD 0 + recvCount log j := by
  refine run_induction
    (J := fun s1 log1 => ∀ j, (s1.times[j]?).getD 0 = (s.times[j]?).getD 0 + recvCount log1 j)
    (fun s1 log1 x s2 e pt hI1 hJ hr j => ?_) hI (fun j => rfl) h
  rw [(round_lists hI1 hr).1 j, hJ j, recvCount_snoc, (round_spec hI1 hr).2.1, Nat.add_assoc]

theorem createdPairs_snoc (log : List (Entry R)) (e : Entry R) :
    createdPairs (log ++ [e]) = createdPairs log ++ e.created.toList := by
  unfold createdPairs
  rw [List.filterMap_append]
  cases h : e.created <;> simp [h]

/-- The key `N + phase` never decreases; a round which constructs a learner does so with the pair
`(N, phase)`, whose key is `nextKey` before the round and below `nextKey` after it. -/
theorem round_nextKey (hI : Inv cfg s) (h : round ops cfg s x = .ok (s2, e, pt)) :
    nextKey s ≤ nextKey s2 ∧
    ∀ p, creates cfg s = some p → p = (s.N, s.phase) ∧ nextKey s = p.1 + p.2 ∧ p.1 + p.2 < nextKey s2 ∧
      (∃ a, 1 ≤ a ∧ p.1 = 2 ^ a) ∧ p.2 < p.1 := by
  obtain ⟨-, -, -, -, s1, ds1, ds2, ⟨a1, m1, hR⟩, -, hr, ⟨hN, hn, hph, hcn, -⟩, -⟩ := round_spec hI h
  obtain ⟨a, m, hI⟩ := hI
  have hk : nextKey s1 = nextKey s := by rw [nextKey, hN, hph, hcn]; rfl
  rcases receive_ok hr with ⟨hc, l, v, t, l', -, -, -, -, rfl⟩ | ⟨hc, ac, l, v, t, l', -, -, -, -, -, rfl⟩
  · have hkey : nextKey (recvCreate cfg s1 l' v t x.r) ≥ s1.N + s1.phase + 1 :=
      roll_nextKey (hR.create hc).1 (Nat.succ_ne_zero _)
    rw [hN, hph] at hkey
    rw [hN, hn] at hc
    refine ⟨Nat.le_trans (by unfold nextKey; split <;> omega) hkey, fun p hp => ?_⟩
    unfold creates at hp
    split at hp
    · rename_i hcc
      cases hp
      exact ⟨rfl, by rw [nextKey, if_pos hcc.2]; rfl, hkey, ⟨a, hI.ha, hI.hN⟩, (hI.create hc).1⟩
    · cases hp
  · rw [hN, hn] at hc
    rw [show nextKey (recvRR cfg s1 ac l' v t x.r) = nextKey s1 by unfold recvRR advance; split <;> rfl, hk]
    refine ⟨Nat.le_refl _, fun p hp => ?_⟩
    rw [creates, if_neg (fun h => absurd (hc.symm.trans h.1) (by decide))] at hp
    cases hp

/-- The grid pairs `(N, phase)` handed to `create` along a run are strictly increasing in the
key `N + phase` (hence pairwise distinct), `N` is a power of two `≥ 2`, and `phase < N`; and
exactly one learner is appended per pair. -/
theorem run_created (hI : Inv cfg s) (h : run ops cfg s xs = .ok (s', log)) :
    s'.learners.length = s.learners.length + (createdPairs log).length ∧
    (createdPairs log).Pairwise (fun p q => p.1 + p.2 < q.1 + q.2) ∧
    ∀ p ∈ createdPairs log, nextKey s ≤ p.1 + p.2 ∧ p.1 + p.2 < nextKey s' ∧
      (∃ a, 1 ≤ a ∧ p.1 = 2 ^ a) ∧ p.2 < p.1 := by
  refine (run_induction (J := fun s1 log1 => nextKey s ≤ nextKey s1 ∧
      s1.learners.length = s.learners.length + (createdPairs log1).length ∧
      (createdPairs log1).Pairwise (fun p q => p.1 + p.2 < q.1 + q.2) ∧
      ∀ p ∈ createdPairs log1, nextKey s ≤ p.1 + p.2 ∧ p.1 + p.2 < nextKey s1 ∧
        (∃ a, 1 ≤ a ∧ p.1 = 2 ^ a) ∧ p.2 < p.1) ?_ hI
    ⟨Nat.le_refl _, rfl, List.Pairwise.nil, nofun⟩ h).2
  intro s1 log1 x s2 e pt hI1 ⟨hmono, hlen, hpw, hall⟩ hr
  obtain ⟨-, -, -, hlen2, -⟩ := round_lists hI1 hr
  obtain ⟨hk, hkc⟩ := round_nextKey hI1 hr
  have hold : ∀ q ∈ createdPairs log1, nextKey s ≤ q.1 + q.2 ∧ q.1 + q.2 < nextKey s2 ∧
      (∃ a, 1 ≤ a ∧ q.1 = 2 ^ a) ∧ q.2 < q.1 :=
    fun q hq => ⟨(hall q hq).1, Nat.lt_of_lt_of_le (hall q hq).2.1 hk, (hall q hq).2.2⟩
  rw [createdPairs_snoc, (round_spec hI1 hr).2.2.2.1]
  cases hc : creates cfg s1 with
  | none =>
    rw [hc, if_pos rfl] at hlen2
    rw [Option.toList_none, List.append_nil]
    exact ⟨Nat.le_trans hmono hk, hlen2.trans hlen, hpw, hold⟩
  | some p =>
    rw [hc, if_neg nofun] at hlen2
    obtain ⟨-, hp1, hp2, hp3⟩ := hkc p hc
    rw [Option.toList_some, List.length_append, List.pairwise_append]
    refine ⟨Nat.le_trans hmono hk, by rw [hlen2, hlen]; rfl,
      ⟨hpw, List.pairwise_singleton _ _, fun q hq r hr => ?_⟩, fun q hq => ?_⟩
    · cases List.mem_singleton.mp hr
      exact hp1 ▸ (hall q hq).2.1
    · rcases List.mem_append.mp hq with hq | hq
      · exact hold q hq
      · cases List.mem_singleton.mp hq
        exact ⟨hp1 ▸ hmono, hp2, hp3⟩

end PyXAB.MT
