/-
  `backwardLayer` / `backward` (= `updateBackwardTree`): never raise on a well-formed tree,
  change only B-values, leave the root alone and establish the B-recursion at every non-root
  node.
-/
import PyXABProofs.Lemmas.TBB_Skel
import PyXABProofs.Lemmas.TBB_Order

namespace PyXAB
namespace TBB

open Tree
open TBA (PRel)
open Part (stOf_congr)

variable {α R S : Type} [LinearOrder S] [Inhabited S] [Inhabited R]

/-- The B-value that `backwardLayer` writes into node `nd`, reading the children in `P`. -/
def bNew (negInf : S) (P : Part α (TBSt R S)) (nd : Node α (TBSt R S)) : S :=
  match nd.children with
  | none => nd.st.u
  | some cs => min nd.st.u (cs.foldl (fun t c => max t (P.stOf c).b) negInf)

/-- `Q` differs from `P` in B-values only. -/
structure OnlyB (P Q : Part α (TBSt R S)) : Prop where
  kind : Q.kind = P.kind
  layers : Q.layers = P.layers
  depth : Q.depth = P.depth
  len : Q.nodes.length = P.nodes.length
  node : ∀ (j : Nat) (nd : Node α (TBSt R S)), P.nodes[j]? = some nd →
    ∃ b, Q.nodes[j]? = some { nd with st := { nd.st with b := b } }

namespace OnlyB
variable {P Q T : Part α (TBSt R S)}

omit [LinearOrder S] [Inhabited S] [Inhabited R] in
theorem refl (P : Part α (TBSt R S)) : OnlyB P P :=
  ⟨rfl, rfl, rfl, rfl, fun _ nd h => ⟨nd.st.b, h⟩⟩

omit [LinearOrder S] [Inhabited S] [Inhabited R] in
theorem trans (h1 : OnlyB P Q) (h2 : OnlyB Q T) : OnlyB P T :=
  ⟨h2.kind.trans h1.kind, h2.layers.trans h1.layers, h2.depth.trans h1.depth,
    h2.len.trans h1.len, fun j nd h => by
    obtain ⟨b, hb⟩ := h1.node j nd h
    obtain ⟨b', hb'⟩ := h2.node j _ hb
    exact ⟨b', hb'⟩⟩

omit [LinearOrder S] [Inhabited S] [Inhabited R] in
theorem prel (h : OnlyB P Q) : PRel (SetR fun st b => { st with b := b }) P Q :=
  prel_setR h.kind h.layers h.depth h.len h.node

omit [LinearOrder S] [Inhabited S] [Inhabited R] in
theorem of_upd {F : Nat → Node α (TBSt R S) → TBSt R S} (h : Upd P Q F)
    (hF : ∀ j nd, P.nodes[j]? = some nd → ∃ b, F j nd = { nd.st with b := b }) : OnlyB P Q :=
  ⟨h.kind, h.layers, h.depth, h.prel.len, fun j nd hj => by
    obtain ⟨b, hb⟩ := hF j nd hj
    exact ⟨b, by rw [h.get hj, hb]⟩⟩

end OnlyB

/-- `backwardLayer` writes `bNew`, computed in the state reached so far, into the listed nodes
one after the other. -/
theorem backwardLayer_eq (negInf : S) (P : Part α (TBSt R S)) (layer : List Nat) :
    backwardLayer negInf P layer = layer.foldl (fun Q id =>
      Q.modifyNode id (fun nd => { nd with st := { nd.st with b := bNew negInf Q nd } })) P := by
  unfold backwardLayer
  congr 1
  funext Q id
  refine Part.guarded_modifySt (P := Q) (i := id)
    (fun nd s => { s with b := bNew negInf Q { nd with st := s } })
    (fun h => by simp only [h]) (fun nd h => ?_)
  cases hc : nd.children <;> simp only [h, hc, bNew]

omit [Inhabited R] in
/-- `bNew` reads the child list and the U-value of the node, and the B-values of its
children. -/
theorem bNew_congr (negInf : S) {P Q : Part α (TBSt R S)} {nd nd' : Node α (TBSt R S)}
    (hc : nd'.children = nd.children) (hu : nd'.st.u = nd.st.u)
    (h : ∀ cs, nd.children = some cs → ∀ c ∈ cs, Q.stOf c = P.stOf c) :
    bNew negInf Q nd' = bNew negInf P nd := by
  unfold bNew
  rw [hc, hu]
  cases hcs : nd.children with
  | none => rfl
  | some cs =>
    show min _ (cs.foldl (fun t c => max t (Q.stOf c).b) negInf) =
      min _ (cs.foldl (fun t c => max t (P.stOf c).b) negInf)
    rw [← List.foldl_map (f := fun c => (Q.stOf c).b) (g := max),
      ← List.foldl_map (f := fun c => (P.stOf c).b) (g := max),
      List.map_congr_left (fun c hc' => by rw [h cs hcs c hc'])]

/-- `backwardLayer` on a duplicate-free layer none of whose nodes has a child in the layer:
every node of the layer gets the B-value computed from the children's B-values in `P`. -/
theorem backwardLayer_upd (negInf : S) (layer : List Nat) : ∀ (P : Part α (TBSt R S)),
    layer.Nodup →
    (∀ j ∈ layer, ∀ nd, P.nodes[j]? = some nd → ∀ cs, nd.children = some cs →
      ∀ c ∈ cs, c ∉ layer) →
    Upd P (backwardLayer negInf P layer)
      (fun j nd => if j ∈ layer then { nd.st with b := bNew negInf P nd } else nd.st) := by
  simp only [backwardLayer_eq]
  induction layer with
  | nil => exact fun P _ _ => (Upd.refl P).congr (fun j nd _ => (if_neg List.not_mem_nil).symm)
  | cons id l ih =>
    intro P hnd hch
    rw [List.nodup_cons] at hnd
    have h1 := modifyNode_upd P id (fun nd => { nd.st with b := bNew negInf P nd })
    have h2 := ih _ hnd.2 (fun j hj nd' hnd' cs hcs c hc hcl => by
      obtain ⟨nd, g1, rfl⟩ := h1.get_inv hnd'
      exact hch j (List.mem_cons_of_mem _ hj) nd g1 cs hcs c hc (List.mem_cons_of_mem _ hcl))
    refine (h1.comp h2).congr (fun j nd hj => ?_)
    by_cases hjl : j ∈ l
    · -- the children of `j` are not `id`, so the update at `id` did not change what `bNew` reads
      have hne : j ≠ id := by rintro rfl; exact hnd.1 hjl
      simp only [hjl, hne, if_true, if_false, List.mem_cons, or_true]
      rw [bNew_congr negInf (nd := nd) rfl rfl (fun cs hcs c hc => stOf_congr ?_)]
      have hcid : c ≠ id := fun e =>
        hch j (List.mem_cons_of_mem _ hjl) nd hj cs hcs c hc (e ▸ List.mem_cons_self ..)
      rw [h1.node c]
      cases P.nodes[c]? with
      | none => rfl
      | some x => simp only [hcid, if_false, Option.map_some]
    · by_cases hji : j = id
      · simp only [hji, hnd.1, if_true, if_false, List.mem_cons, true_or]
      · simp only [hjl, hji, if_false, List.mem_cons, or_self]

/-- One iteration of the loop of `backward`. -/
def backF (negInf : S) (P : Part α (TBSt R S)) (i : Nat) : Except Err (Part α (TBSt R S)) :=
  if i + 1 ≤ P.layers.length then
    match P.layers[P.layers.length - (i + 1)]? with
    | some layer => .ok (backwardLayer negInf P layer)
    | none => .error .indexError
  else .error .indexError

theorem backward_eq_foldlM (negInf : S) (P : Part α (TBSt R S)) :
    backward negInf P = (List.range P.depth).foldlM (backF negInf) P := rfl

theorem brec_of_bNew {negInf : S} (hbot : ∀ x, negInf ≤ x) {P : Part α (TBSt R S)} (W : WF P)
    {j : Nat} {nd : Node α (TBSt R S)} (hnd : P.nodes[j]? = some nd)
    (h : nd.st.b = bNew negInf P nd) : BRec P j := by
  intro nd' hnd'
  obtain rfl := getElem?_inj hnd hnd'
  unfold bNew at h
  refine ⟨fun hc => by rw [h, hc], fun cs hcs => ?_⟩
  rw [hcs] at h
  obtain ⟨m1, c, m2, m3⟩ := foldl_max_spec negInf hbot (fun c => (P.stOf c).b) cs
    (W.children_ne_nil hnd hcs)
  exact ⟨_, h, m1, c, m2, m3⟩

/-- Loop invariant of `backward`: the nodes deeper than `h` carry the B-values `bNew` computes
from the present state, the others are untouched. -/
structure BackInv (negInf : S) (P Q : Part α (TBSt R S)) (h : Nat) : Prop where
  onlyB : OnlyB P Q
  keep : ∀ (j : Nat) (nd : Node α (TBSt R S)), P.nodes[j]? = some nd →
    nd.depth ≤ h → Q.nodes[j]? = some nd
  fix : ∀ (j : Nat) (nd : Node α (TBSt R S)), Q.nodes[j]? = some nd →
    h < nd.depth → nd.st.b = bNew negInf Q nd

/-- Iteration `n` of `backward` processes the layer `h + 1`, where `h + 1 + n = depth`. -/
theorem backF_step {negInf : S} {P Q : Part α (TBSt R S)} (W : WF P)
    {n h : Nat} (hh : h + 1 + n = P.depth) (I : BackInv negInf P Q (h + 1)) :
    ∃ Q', backF negInf Q n = .ok Q' ∧ BackInv negInf P Q' h := by
  have W' : WF Q := I.onlyB.prel.wf W
  have hlen : Q.layers.length = h + 1 + (n + 1) := by
    rw [I.onlyB.layers, W.layers_len, ← hh]; rfl
  obtain ⟨l, hl⟩ : ∃ l, Q.layers[h + 1]? = some l :=
    ⟨_, List.getElem?_eq_getElem (hlen ▸ Nat.lt_add_of_pos_right (Nat.succ_pos n))⟩
  have hmem : ∀ {j : Nat} {nd : Node α (TBSt R S)}, Q.nodes[j]? = some nd →
      (j ∈ l ↔ nd.depth = h + 1) := fun h => W'.mem_layer_iff_depth hl h
  -- the children of a node of depth `≥ h + 1` lie deeper than the layer
  have hkid : ∀ {j c : Nat} {nd : Node α (TBSt R S)} {cs : List Nat}, Q.nodes[j]? = some nd →
      h + 1 ≤ nd.depth → nd.children = some cs → c ∈ cs → c ∉ l := by
    intro j c nd cs hnd hd hcs hc hcl
    obtain ⟨_, cn, _, _, _, _, g1, _, _, g4⟩ := W'.child_facts hnd hcs hc
    rw [← (hmem g1).1 hcl, g4] at hd
    exact Nat.not_succ_le_self _ hd
  have U := backwardLayer_upd negInf l Q (W'.layer_nodup hl)
    (fun j hj nd hnd cs hcs c hc => hkid hnd (Nat.le_of_eq ((hmem hnd).1 hj).symm) hcs hc)
  have hoff : ∀ c, c ∉ l → (backwardLayer negInf Q l).nodes[c]? = Q.nodes[c]? := by
    intro c hc
    rw [U.node c]
    cases Q.nodes[c]? with
    | none => rfl
    | some x => simp only [hc, if_false, Option.map_some]
  refine ⟨backwardLayer negInf Q l, ?_, ?_, ?_, ?_⟩
  · unfold backF
    rw [hlen, if_pos (Nat.le_add_left _ _), Nat.add_sub_cancel, hl]
  · refine I.onlyB.trans (OnlyB.of_upd U (fun j nd _ => ?_))
    by_cases hj : j ∈ l
    · exact ⟨_, if_pos hj⟩
    · exact ⟨nd.st.b, if_neg hj⟩
  · intro j nd hnd hd
    have hq := I.keep j nd hnd (Nat.le_succ_of_le hd)
    rw [hoff j (fun hj => Nat.not_succ_le_self h
      (Nat.le_trans (Nat.le_of_eq ((hmem hq).1 hj).symm) hd))]
    exact hq
  · intro j nd' hnd' hd
    obtain ⟨nd, g1, rfl⟩ := U.get_inv hnd'
    -- `bNew` reads the same in the new state
    refine Eq.trans ?_ (bNew_congr negInf (nd := nd) ?_ ?_
      (fun cs hcs c hc => stOf_congr (hoff c (hkid g1 hd hcs hc)))).symm
    · by_cases hj : j ∈ l
      · exact congrArg TBSt.b (if_pos hj)
      · exact (congrArg TBSt.b (if_neg hj)).trans
          (I.fix j nd g1 (Nat.lt_of_le_of_ne hd (fun e => hj ((hmem g1).2 e.symm))))
    · rfl
    · show (if _ then _ else _ : TBSt R S).u = _
      split <;> rfl

theorem backward_loop {negInf : S} {P : Part α (TBSt R S)} (W : WF P) :
    ∀ n h, h + n = P.depth → ∃ Q, (List.range n).foldlM (backF negInf) P = .ok Q ∧
      BackInv negInf P Q h := by
  intro n
  induction n with
  | zero =>
    intro h hh
    exact ⟨P, rfl, OnlyB.refl P, fun _ _ h _ => h, fun j nd hj hd =>
      absurd (W.depth_le j nd hj) (Nat.not_le_of_lt (hh ▸ hd))⟩
  | succ n ih =>
    intro h hh
    obtain ⟨Q, h1, I⟩ := ih (h + 1) (by rw [← hh, Nat.add_assoc, Nat.add_comm 1 n])
    obtain ⟨Q', h2, I'⟩ := backF_step W (by rw [← hh, Nat.add_assoc, Nat.add_comm 1 n]) I
    refine ⟨Q', ?_, I'⟩
    rw [List.range_succ, List.foldlM_append, h1]
    simp only [List.foldlM_cons, List.foldlM_nil, bind, Except.bind, h2]
    rfl

/-- **`backward`**: on a well-formed tree it never raises, changes B-values only, does not
touch the root, and establishes the B-recursion at every non-root node. -/
theorem backward_spec {negInf : S} (hbot : ∀ x, negInf ≤ x) {P : Part α (TBSt R S)} (W : WF P) :
    ∃ Q, backward negInf P = .ok Q ∧ OnlyB P Q ∧ Q.nodes[0]? = P.nodes[0]? ∧
      ∀ v, 0 < v → BRec Q v := by
  obtain ⟨Q, h1, I⟩ := backward_loop (negInf := negInf) W P.depth 0 (Nat.zero_add _)
  have W' : WF Q := I.onlyB.prel.wf W
  refine ⟨Q, (backward_eq_foldlM negInf P).trans h1, I.onlyB, ?_, fun v hv nd hnd => ?_⟩
  · obtain ⟨r, hr, hr0, _⟩ := W.root
    rw [hr]; exact I.keep 0 r hr (Nat.le_of_eq hr0)
  · exact brec_of_bNew hbot W' hnd (I.fix v nd hnd (W'.depth_pos_of_pos hv hnd)) nd hnd

end TBB
end PyXAB
