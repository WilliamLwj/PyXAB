/-
  C16.3 for SOO and SequOOL: `pull` / `receive` commute with mapping the boxes of the tree
  (SequOOL over the stages of `SQ_PullEq`, whose last stage also yields C15.1 for SequOOL); the
  rounds `sooRound` / `seqRound` as `>>=` chains.
-/
import PyXABProofs.Lemmas.RL_Tree
import PyXABProofs.Lemmas.SQ_PullEq

namespace PyXAB
namespace RL
open Rel
set_option linter.unusedSectionVars false

section soo
variable {α S : Type} [Add α] [Sub α] [Mul α] [Div α] [OfNat α 2] [NatCast α]
variable [LE S] [DecidableLE S] [Inhabited S]

theorem soo_scan_map (g : Box α → Box α) (P : Part α (SwSt S)) (l : List Nat) (maxv : S)
    (maxn : Option Nat) : SOO.scan (partMapBox g P) l maxv maxn = SOO.scan P l maxv maxn := by
  induction l generalizing maxv maxn with
  | nil => rfl
  | cons id rest ih =>
    simp only [SOO.scan, partMapBox_getElem?]
    cases P.nodes[id]? with
    | none => exact ih maxv maxn
    | some nd => simp only [Option.map_some, nodeMapBox_children, nodeMapBox_st, ih]

variable {g : Box α → Box α} {gd : Draw α → Draw α}

theorem soo_sweep_map (hg : BoxEquivariant g gd) (negInf : S) (hmax : Nat) (fuel h : Nat)
    (vmax : S) (P : Part α (SwSt S)) (ds : List (Draw α)) :
    SOO.sweep negInf hmax fuel h vmax (partMapBox g P) (ds.map gd) =
      mapRes (partMapBox g) (fun r => (r.1.map gd, r.2)) (SOO.sweep negInf hmax fuel h vmax P ds) := by
  induction fuel generalizing h vmax P ds with
  | zero => rfl
  | succ fuel ih =>
    rw [SOO.sweep, SOO.sweep, show (partMapBox g P).depth = P.depth from rfl, partMapBox_layers]
    by_cases hh : h ≤ min P.depth hmax
    · rw [if_pos hh, if_pos hh]
      cases P.layers[h]? with
      | none => rfl
      | some layer =>
        dsimp only
        rw [soo_scan_map]
        cases SOO.scan P layer negInf none with
        | found id => exact congrArg (fun Q => Except.ok (Q, _, _)) (partMapBox_modifySt g P id _)
        | best maxv maxn =>
          dsimp only
          by_cases hv : vmax ≤ maxv
          · rw [if_pos hv, if_pos hv]
            cases maxn with
            | none => exact ih (h + 1) vmax P ds
            | some m =>
              exact mapRes_bind (makeChildrenD_map hg P _ m _ ds) fun P' ds' =>
                ih (h + 1) maxv P' ds'
          · rw [if_neg hv, if_neg hv]
            exact ih (h + 1) vmax P ds
    · rw [if_neg hh, if_neg hh]; rfl

theorem soo_sweeps_map (hg : BoxEquivariant g gd) (negInf : S) (hmax fuel : Nat)
    (P : Part α (SwSt S)) (ds : List (Draw α)) :
    SOO.sweeps negInf hmax fuel (partMapBox g P) (ds.map gd) =
      mapRes (partMapBox g) (fun r => (r.1.map gd, r.2)) (SOO.sweeps negInf hmax fuel P ds) := by
  induction fuel generalizing P ds with
  | zero => rfl
  | succ fuel ih =>
    rw [SOO.sweeps, SOO.sweeps]
    refine mapRes_bind (soo_sweep_map hg negInf hmax _ 0 negInf P ds) fun P' r => ?_
    obtain ⟨ds', r⟩ := r
    cases r with
    | some id => rfl
    | none => exact ih P' ds'

theorem soo_pull_map (hg : BoxEquivariant g gd) (negInf : S) (s : SOO α S) (time : Nat)
    (ds : List (Draw α)) :
    SOO.pull negInf (sooMapBox g s) time (ds.map gd) =
      mapRes (sooMapBox g) (fun r => (r.1.map gd, r.2)) (SOO.pull negInf s time ds) := by
  unfold SOO.pull
  refine mapRes_bind (f := partMapBox g) (g := fun r => (r.1.map gd, r.2)) ?_ fun _ _ => rfl
  rw [show (sooMapBox g s).P = partMapBox g s.P from rfl, partMapBox_length]
  exact soo_sweeps_map hg negInf s.hmax _ s.P ds

theorem soo_receive_map (g : Box α → Box α) (s : SOO α S) (r : S) :
    SOO.receive (sooMapBox g s) r = mapRes1 (sooMapBox g) (SOO.receive s r) := by
  unfold SOO.receive
  simp only [sooMapBox]
  cases s.curr with
  | none => rfl
  | some c => simp only [partMapBox_modifySt]; rfl

theorem soo_init_map (g : Box α → Box α) (negInf : S) (k : Kind) (domain : Box α) (hmax : Nat) :
    SOO.init negInf k (g domain) hmax = sooMapBox g (SOO.init negInf k domain hmax) := rfl

theorem sooRound_eq (negInf : S) (s : SOO α S) (x : TIn α S) :
    sooRound negInf s x =
      SOO.pull negInf s x.1 x.2.1 >>= fun p => SOO.receive p.1 x.2.2 >>= fun s2 => pure (s2, p.2.2) := by
  unfold sooRound
  rcases SOO.pull negInf s x.1 x.2.1 with _ | ⟨s1, ds1, v⟩
  · rfl
  · rw [ok_bind]
    dsimp only
    rcases SOO.receive s1 x.2.2 with _ | _ <;> rfl

end soo

section seq
variable {α S : Type} [Add α] [Sub α] [Mul α] [Div α] [OfNat α 2] [NatCast α]
variable [LE S] [DecidableLE S] [Inhabited S]

theorem seq_scan_map (g : Box α → Box α) (P : Part α (SqSt S)) (l : List Nat) (num : Nat) (maxv : S)
    (maxn : Option Nat) :
    SequOOL.scan (partMapBox g P) l num maxv maxn = SequOOL.scan P l num maxv maxn := by
  induction l generalizing num maxv maxn with
  | nil => rfl
  | cons id rest ih =>
    simp only [SequOOL.scan, partMapBox_getElem?]
    cases P.nodes[id]? with
    | none => exact ih num maxv maxn
    | some nd => simp only [Option.map_some, nodeMapBox_st, ih]

variable {g : Box α → Box α} {gd : Draw α → Draw α}

theorem seq_receive_map (g : Box α → Box α) (s : SequOOL α S) (r : S) :
    SequOOL.receive (seqMapBox g s) r = mapRes1 (seqMapBox g) (SequOOL.receive s r) := by
  unfold SequOOL.receive
  simp only [seqMapBox]
  cases s.curr with
  | none => rfl
  | some c => simp only [partMapBox_modifySt]; rfl

theorem seq_init_map (g : Box α → Box α) (k : Kind) (domain : Box α) (hmax : Nat) :
    SequOOL.init (S := S) k (g domain) hmax = seqMapBox g (SequOOL.init k domain hmax) := rfl

theorem target_map (g : Box α → Box α) (negInf : S) (s : SequOOL α S) :
    SQ.target negInf (seqMapBox g s) = SQ.target negInf s := by
  unfold SQ.target
  simp only [seqMapBox, partMapBox_layers, seq_scan_map]

theorem openCell_map (hg : BoxEquivariant g gd) (P : Part α (SqSt S)) (cd tgt : Nat)
    (ds : List (Draw α)) :
    SQ.openCell (partMapBox g P) cd tgt (ds.map gd) =
      mapRes (partMapBox g) (fun r => (r.1.map gd, r.2)) (SQ.openCell P cd tgt ds) := by
  unfold SQ.openCell
  rw [partMapBox_getElem?]
  cases P.nodes[tgt]? with
  | none => rfl
  | some nd =>
    simp only [Option.map_some, nodeMapBox_children', partMapBox_depth']
    refine mapRes_bind (f := partMapBox g) (g := List.map gd) ?_ fun P1 ds1 => ?_
    · split
      · exact makeChildrenD_map hg P _ tgt _ ds
      · rfl
    · dsimp only
      rw [partMapBox_getElem?]
      cases P1.nodes[tgt]? with
      | none => rfl
      | some nd1 => dsimp only [Option.map_some, nodeMapBox_children]; cases nd1.children <;> rfl

/-- The last stage of `SequOOL.pull` does not read the time label, and uses the tree only to flag
the opened cell: it commutes with every change `f` of the tree that goes through `modifySt`,
whatever happens to the label (`k`) and to the draws (`d`). -/
theorem handOut_natural (f : Part α (SqSt S) → Part α (SqSt S)) (k : Nat → Nat)
    (d : List (Draw α) → List (Draw α))
    (hmod : ∀ P (i : Nat) F, (f P).modifySt i F = f (P.modifySt i F))
    (s : SequOOL α S) (tgt num : Nat) (cs : List Nat) (ds : List (Draw α)) :
    SQ.handOut { s with P := f s.P, iteration := k s.iteration } tgt num cs (d ds) =
      mapRes (fun u => { u with P := f u.P, iteration := k u.iteration }) (fun r => (d r.1, r.2))
        (SQ.handOut s tgt num cs ds) := by
  unfold SQ.handOut
  dsimp only
  by_cases h1 : s.loc < cs.length
  · rw [if_pos h1, if_pos h1]
    by_cases h2 : s.loc = cs.length - 1
    · rw [if_pos h2, if_pos h2]
      cases cs.getLast? with
      | none => rfl
      | some c =>
        dsimp only
        by_cases h3 : s.currDepth = 0
        · rw [if_pos h3, if_pos h3]; rfl
        · rw [if_neg h3, if_neg h3]
          cases s.budget with
          | none => rfl
          | some b =>
            dsimp only
            rw [hmod]
            by_cases h4 : (b - 1 = 0 || num = 1) = true
            · rw [if_pos h4, if_pos h4]; rfl
            · rw [if_neg h4, if_neg h4]; rfl
    · rw [if_neg h2, if_neg h2]
      cases cs[s.loc]? <;> rfl
  · rw [if_neg h1, if_neg h1]; rfl

theorem seq_pull_map (hg : BoxEquivariant g gd) (negInf : S) (s : SequOOL α S) (t : Nat)
    (ds : List (Draw α)) :
    SequOOL.pull negInf (seqMapBox g s) t (ds.map gd) =
      mapRes (seqMapBox g) (fun r => (r.1.map gd, r.2)) (SequOOL.pull negInf s t ds) := by
  rw [SQ.pull_eq, SQ.pull_eq, target_map]
  show (if s.currDepth ≤ s.hmax then _ else _) = _
  split
  · refine bind_mapRes fun tn => ?_
    obtain ⟨tgt, num⟩ := tn
    refine mapRes_bind (openCell_map hg s.P s.currDepth tgt ds) fun P1 r => ?_
    obtain ⟨ds1, cs⟩ := r
    exact handOut_natural (partMapBox g) id (List.map gd) (partMapBox_modifySt g)
      { s with iteration := t, P := P1 } tgt num cs ds1
  · show (match s.P.layers[0]? with
      | some (r :: _) => _
      | _ => _) = _
    rcases s.P.layers[0]? with _ | _ | ⟨r, _⟩ <;> rfl

theorem seqRound_eq (negInf : S) (s : SequOOL α S) (x : TIn α S) :
    seqRound negInf s x =
      SequOOL.pull negInf s x.1 x.2.1 >>= fun p =>
        SequOOL.receive p.1 x.2.2 >>= fun s2 => pure (s2, p.2.2) := by
  unfold seqRound
  rcases SequOOL.pull negInf s x.1 x.2.1 with _ | ⟨s1, ds1, v⟩
  · rfl
  · rw [ok_bind]
    dsimp only
    rcases SequOOL.receive s1 x.2.2 with _ | _ <;> rfl

end seq

end RL
end PyXAB
