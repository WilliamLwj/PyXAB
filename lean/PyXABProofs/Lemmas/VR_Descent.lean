/-
  The random descent below the drawn cell (`descentLoop`): its equations, one round of the loop
  under `DescOK`, and paths of child links (depths grow, boxes shrink).
-/
import PyXABProofs.Lemmas.VR_Tree

set_option linter.unusedSectionVars false

namespace PyXAB
namespace VR
open _root_.PyXAB.Tree TBA VROOM

section unfold
variable {α R S : Type} [Add α] [Sub α] [Mul α] [Div α] [OfNat α 2] [NatCast α]

theorem descentLoop_stop {hmax h : Nat} (hh : ¬ h < hmax) (steps : List (Option (Draw α) × Nat))
    (node : Nat) (ul : List Nat) (P : Part α (VrSt R S)) :
    descentLoop hmax steps h node ul P = .ok (P, node, ul) := by
  rw [descentLoop.eq_def]; simp only [hh, if_false]

theorem descentLoop_internal {hmax h : Nat} (hh : h < hmax) {od : Option (Draw α)} {sign : Nat}
    {rest : List (Option (Draw α) × Nat)} {node : Nat} {ul : List Nat} {P : Part α (VrSt R S)}
    {nd : Node α (VrSt R S)} {cs : List Nat} {c : Nat}
    (hnd : P.nodes[node]? = some nd) (hcs : nd.children = some cs) (hc : cs[sign]? = some c) :
    descentLoop hmax ((od, sign) :: rest) h node ul P =
      descentLoop hmax rest (h + 1) c (ul ++ [c]) P := by
  rw [descentLoop.eq_def]
  simp only [hh, if_true, hnd, hcs, bind, Except.bind, hc]

theorem descentLoop_leaf {hmax h : Nat} (hh : h < hmax) {d : Draw α} {sign : Nat}
    {rest : List (Option (Draw α) × Nat)} {node : Nat} {ul : List Nat} {P P1 : Part α (VrSt R S)}
    {nd nd1 : Node α (VrSt R S)} {cs : List Nat} {c : Nat}
    (hnd : P.nodes[node]? = some nd) (hleaf : nd.children = none)
    (hm : P.makeChildren st0 node (decide (h ≥ P.depth)) d = .ok P1)
    (hnd1 : P1.nodes[node]? = some nd1) (hcs : nd1.children = some cs)
    (hc : cs[sign]? = some c) :
    descentLoop hmax ((some d, sign) :: rest) h node ul P =
      descentLoop hmax rest (h + 1) c (ul ++ [c]) P1 := by
  rw [descentLoop.eq_def]
  simp only [hh, if_true, hnd, hleaf, hm, bind, Except.bind, hnd1, hcs, hc]

end unfold

section path
variable {α σ : Type} {P P' : Part α σ}

theorem IsPath.grow {s0 : σ} {d : Nat} (Gr : Grow s0 d P P') :
    ∀ (path : List Nat) (node last : Nat), IsPath P node path last → IsPath P' node path last := by
  intro path
  induction path with
  | nil => exact fun _ _ h => h
  | cons c rest ih =>
    intro node last ⟨⟨nd, cs, h1, h2, h3⟩, h4⟩
    obtain ⟨nd', g0, g1⟩ := Gr.children h1 h2
    exact ⟨⟨nd', cs, g0, g1, h3⟩, ih c last h4⟩

theorem IsPath.getLast (path : List Nat) : ∀ (node last : Nat), IsPath P node path last →
    last = (node :: path).getLast (List.cons_ne_nil _ _) := by
  induction path with
  | nil => exact fun _ _ h => h
  | cons c rest ih =>
    intro node last h
    rw [List.getLast_cons (List.cons_ne_nil _ _)]
    exact ih c last h.2

variable [LinearOrder α]

theorem IsPath.facts (W : WF P) (G : Geo P) (path : List Nat) : ∀ (node last : Nat)
    (nd : Node α σ), P.nodes[node]? = some nd → IsPath P node path last →
    (∃ ln, P.nodes[last]? = some ln ∧ ln.depth = nd.depth + path.length ∧
      Box.Subset ln.box nd.box) ∧
    (∀ c ∈ path, ∃ cn, P.nodes[c]? = some cn ∧ nd.depth < cn.depth ∧
      Box.Subset cn.box nd.box) ∧
    (node :: path).Nodup := by
  induction path with
  | nil =>
    intro node last nd hn h
    obtain rfl : last = node := h
    exact ⟨⟨nd, hn, rfl, Box.Subset.refl _⟩, fun _ hc => (List.not_mem_nil hc).elim,
      List.nodup_singleton _⟩
  | cons c rest ih =>
    intro node last nd hn h
    obtain ⟨⟨nd', cs, h1, h2, h3⟩, h4⟩ := h
    obtain rfl := getElem?_inj hn h1
    obtain ⟨_, cn, _, _, _, _, g1, g2, _, g4⟩ := W.child_facts h1 h2 h3
    have hsub : Box.Subset cn.box nd.box := G.sub c cn node nd g1 g2 h1
    have hlt : nd.depth < cn.depth := g4 ▸ Nat.lt_succ_self _
    obtain ⟨⟨ln, l1, l2, l3⟩, hall, hnd⟩ := ih c last cn g1 h4
    have hall' : ∀ x ∈ c :: rest, ∃ xn, P.nodes[x]? = some xn ∧ nd.depth < xn.depth ∧
        Box.Subset xn.box nd.box := by
      intro x hx
      rcases List.mem_cons.1 hx with rfl | hx
      · exact ⟨cn, g1, hlt, hsub⟩
      · obtain ⟨xn, x1, x2, x3⟩ := hall x hx
        exact ⟨xn, x1, Nat.lt_trans hlt x2, x3.trans hsub⟩
    refine ⟨⟨ln, l1, by rw [l2, g4, List.length_cons, Nat.add_assoc, Nat.add_comm 1],
      l3.trans hsub⟩, hall', List.nodup_cons.2 ⟨fun hmem => ?_, hnd⟩⟩
    obtain ⟨xn, x1, x2, _⟩ := hall' node hmem
    obtain rfl := getElem?_inj x1 h1
    exact Nat.lt_irrefl _ x2

end path

section descent
variable {α R S : Type} [Field α] [LinearOrder α] [IsStrictOrderedRing α]

theorem TInv.step {sd : Nat} {P : Part α (VrSt R S)} (T : TInv sd P) {node : Nat}
    {nd : Node α (VrSt R S)} {d : Draw α} {nl : Bool}
    (hnd : P.nodes[node]? = some nd) (hleaf : nd.children = none)
    (hfl : nl = decide (nd.depth ≥ P.depth)) (hd : DrawOKLen P.kind (dimn P) d)
    (hdk : DrawOK P.kind nd.box d) :
    ∃ P1, P.makeChildren st0 node nl d = .ok P1 ∧ TInv sd P1 ∧ Grow st0 sd P P1 ∧
      Step P P1 st0 node nd := by
  have hsd : sd ≤ nd.depth := Nat.le_of_not_lt fun hn => T.internal node nd hnd hn hleaf
  obtain ⟨P1, m1, W1, G1, Gr, S⟩ := makeChildren_leaf T.wf T.geo st0 hnd hleaf hfl hd hdk hsd
  exact ⟨P1, m1, ⟨W1, Nat.le_trans T.deep Gr.depth, T.internal.grow Gr, G1⟩, Gr, S⟩

omit [Field α] [LinearOrder α] [IsStrictOrderedRing α] in
theorem step_child_at {σ : Type} {P P1 : Part α σ} {s0 : σ} {p : Nat} {nd : Node α σ}
    (St : Step P P1 s0 p nd) {sign : Nat} (hs : sign < K P) :
    ((P1.nodes[p]?).bind (·.children)).bind (·[sign]?) = some (P.nodes.length + sign) := by
  rw [St.atp]
  exact (List.getElem?_range' hs).trans (by rw [Nat.one_mul])

/-- One round of the descent loop from a cell `node` of depth `h < hmax`: the cell is split if
it is a leaf, and the loop continues in the child `c` of position `sign`. -/
theorem descent_step {hmax sd h : Nat} (hh : h < hmax) {od : Option (Draw α)} {sign : Nat}
    {rest : List (Option (Draw α) × Nat)} {node : Nat} (ul : List Nat) {P : Part α (VrSt R S)}
    {nd : Node α (VrSt R S)} (T : TInv sd P) (hnd : P.nodes[node]? = some nd)
    (hdep : nd.depth = h) (hok : DescOK hmax ((od, sign) :: rest) h node P) :
    ∃ P1 c cn, descentLoop hmax ((od, sign) :: rest) h node ul P =
        descentLoop hmax rest (h + 1) c (ul ++ [c]) P1 ∧
      TInv sd P1 ∧ Grow st0 sd P P1 ∧ P1.nodes[c]? = some cn ∧ cn.depth = h + 1 ∧
      DescOK hmax rest (h + 1) c P1 ∧
      ∃ nd1 cs, P1.nodes[node]? = some nd1 ∧ nd1.children = some cs ∧ c ∈ cs := by
  obtain ⟨hsign, hcont⟩ := hok hh
  have hcont := hcont nd hnd
  cases hcs : nd.children with
  | some cs =>
    rw [hcs] at hcont
    obtain ⟨c, hc⟩ : ∃ c, cs[sign]? = some c :=
      ⟨_, List.getElem?_eq_getElem ((T.wf.children_indices hnd hcs).1 ▸ hsign)⟩
    have hmem := List.mem_of_getElem? hc
    obtain ⟨_, cn, _, _, _, _, g1, _, _, g4⟩ := T.wf.child_facts hnd hcs hmem
    exact ⟨P, c, cn, descentLoop_internal hh hnd hcs hc, T, Grow.refl _ _ _, g1, hdep ▸ g4,
      hcont c hc, nd, cs, hnd, hcs, hmem⟩
  | none =>
    rw [hcs] at hcont
    obtain ⟨d, rfl, hdl, hdk, hcont⟩ := hcont
    obtain ⟨P1, m1, T1, Gr1, St⟩ := T.step hnd hcs (by rw [hdep]) hdl hdk
    obtain ⟨cn, c1, c2, _⟩ := St.new sign hsign
    have hc := step_child_at St hsign
    refine ⟨P1, _, cn, ?_, T1, Gr1, c1, hdep ▸ c2, hcont P1 _ m1 hc, _, _, St.atp, rfl, ?_⟩
    · rw [St.atp] at hc
      exact descentLoop_leaf hh hnd hcs m1 St.atp rfl hc
    · rw [St.atp] at hc
      exact List.mem_of_getElem? hc

end descent

end VR
end PyXAB
