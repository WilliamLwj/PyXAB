/-
  Preservation of the invariant `WF` by one `Step` (= one legal `make_children`).
-/
import PyXABProofs.Lemmas.TreeBox
import PyXABProofs.Lemmas.TreeCor

namespace PyXAB
namespace Tree

variable {α σ : Type}

namespace Step
variable {P P' : Part α σ} {s0 : σ} {p : Nat} {nd : Node α σ}

/-- Forward reading of a split: every old cell is still there, changed at most in the child list
of `p`. -/
theorem pres (S : Step P P' s0 p nd) (hp : P.nodes[p]? = some nd) {i : Nat} {x : Node α σ}
    (hx : P.nodes[i]? = some x) :
    ∃ x', P'.nodes[i]? = some x' ∧ x'.depth = x.depth ∧ x'.index = x.index ∧
      x'.parent = x.parent ∧ x'.box = x.box ∧ x'.st = x.st ∧
      (i ≠ p → x'.children = x.children) ∧
      (i = p → x'.children = some (List.range' P.nodes.length (K P))) := by
  by_cases hip : i = p
  · subst hip
    obtain rfl := getElem?_inj hp hx
    exact ⟨_, S.atp, rfl, rfl, rfl, rfl, rfl, fun h => absurd rfl h, fun _ => rfl⟩
  · exact ⟨x, (S.old i hip (lt_length_of_getElem? hx)).trans hx, rfl, rfl, rfl, rfl, rfl,
      fun _ => rfl, fun h => absurd h hip⟩

/-- Backward reading of a split: a cell of `P'` is an old cell (as in `pres`) or the `j`-th new
child of `p`. -/
theorem inv (S : Step P P' s0 p nd) (hp : P.nodes[p]? = some nd) {i : Nat} {x' : Node α σ}
    (hx : P'.nodes[i]? = some x') :
    (∃ x, P.nodes[i]? = some x ∧ x'.depth = x.depth ∧ x'.index = x.index ∧
      x'.parent = x.parent ∧ x'.box = x.box ∧ x'.st = x.st ∧
      (i ≠ p → x'.children = x.children) ∧
      (i = p → x'.children = some (List.range' P.nodes.length (K P)))) ∨
    (∃ j, j < K P ∧ i = P.nodes.length + j ∧ x'.depth = nd.depth + 1 ∧
      x'.index = K P * (nd.index - 1) + j + 1 ∧ x'.parent = some p ∧ x'.children = none ∧
      x'.box.length = dimn P ∧ x'.st = s0) := by
  by_cases hi : i < P.nodes.length
  · obtain ⟨x'', h1, h2⟩ := S.pres hp (List.getElem?_eq_getElem hi)
    obtain rfl := getElem?_inj h1 hx
    exact Or.inl ⟨_, List.getElem?_eq_getElem hi, h2⟩
  · have hle := Nat.le_of_not_lt hi
    have hlt : i - P.nodes.length < K P :=
      Nat.sub_lt_left_of_lt_add hle (S.len ▸ lt_length_of_getElem? hx)
    obtain ⟨cn, h1, h2⟩ := S.new (i - P.nodes.length) hlt
    rw [Nat.add_sub_cancel' hle] at h1
    obtain rfl := getElem?_inj h1 hx
    exact Or.inr ⟨i - P.nodes.length, hlt, (Nat.add_sub_cancel' hle).symm, h2⟩

theorem dimn_eq (S : Step P P' s0 p nd) (W : WF P) (hp : P.nodes[p]? = some nd) :
    dimn P' = dimn P := by
  obtain ⟨r, hr, _⟩ := W.root
  obtain ⟨r', hr', _, _, _, hb, _⟩ := S.pres hp hr
  simp only [dimn, hr, hr', hb]

theorem K_eq (S : Step P P' s0 p nd) (W : WF P) (hp : P.nodes[p]? = some nd) :
    K P' = K P := by
  simp only [K, S.dimn_eq W hp, S.kind_eq]

theorem layers_keep (S : Step P P' s0 p nd) {h : Nat} (hh : h ≤ nd.depth)
    (hlen : h < P.layers.length) : P'.layers[h]? = P.layers[h]? := by
  rcases S.layers with ⟨_, h2, _⟩ | ⟨_, h2, _⟩
  · rw [h2, List.getElem?_append_left hlen]
  · have hne : ¬ nd.depth + 1 = h := by omega
    rw [h2, List.getElem?_modify]
    simp only [hne, if_false, id_map']

/-- The per-depth lists after the split: the new ids join level `nd.depth + 1` (read as empty
if that level is new), every other level is as before. -/
theorem layers_getElem? (S : Step P P' s0 p nd) (hlen : P.layers.length = P.depth + 1)
    (h : Nat) :
    P'.layers[h]? =
      if h = nd.depth + 1 then
        some ((P.layers[h]?).getD [] ++ List.range' P.nodes.length (K P))
      else P.layers[h]? := by
  rcases S.layers with ⟨h1, h2, _⟩ | ⟨h1, h2, _⟩
  · have e : nd.depth + 1 = P.layers.length := by rw [hlen, h1]
    rw [h2, e]
    by_cases hh : h = P.layers.length
    · rw [if_pos hh, hh, List.getElem?_concat_length, List.getElem?_eq_none (Nat.le_refl _)]
      rfl
    · rw [if_neg hh]
      rcases Nat.lt_or_gt_of_ne hh with hlt | hgt
      · exact List.getElem?_append_left hlt
      · rw [List.getElem?_eq_none (Nat.le_of_lt hgt), List.getElem?_eq_none]
        rw [List.length_append, List.length_singleton]
        exact hgt
  · have hlt : nd.depth + 1 < P.layers.length := by rw [hlen]; exact Nat.succ_lt_succ h1
    rw [h2, List.getElem?_modify]
    by_cases hh : h = nd.depth + 1
    · subst hh
      rw [List.getElem?_eq_getElem hlt]
      simp only [if_true, Option.map_eq_map, Option.map_some, Option.getD_some]
    · have hne : ¬ nd.depth + 1 = h := fun e => hh e.symm
      simp only [hne, hh, if_false, id_map']

/-- The reported depth grows exactly when the deepest level was split. -/
theorem depth_eq (S : Step P P' s0 p nd) :
    P'.depth = max P.depth (nd.depth + 1) := by
  rcases S.layers with ⟨h1, _, h3⟩ | ⟨h1, _, h3⟩
  · rw [h3, h1]; exact (Nat.max_eq_right (Nat.le_succ _)).symm
  · rw [h3]; exact (Nat.max_eq_left h1).symm

theorem depth_iff (S : Step P P' s0 p nd) (hp : P.nodes[p]? = some nd) (i h : Nat) :
    (∃ x' : Node α σ, P'.nodes[i]? = some x' ∧ x'.depth = h) ↔
      (∃ x : Node α σ, P.nodes[i]? = some x ∧ x.depth = h) ∨
      (i ∈ List.range' P.nodes.length (K P) ∧ h = nd.depth + 1) := by
  rw [List.mem_range'_1]
  constructor
  · rintro ⟨x', hx, rfl⟩
    rcases S.inv hp hx with ⟨x, h0, hd, _⟩ | ⟨j, hj, rfl, hd, _⟩
    · exact Or.inl ⟨x, h0, hd.symm⟩
    · exact Or.inr ⟨⟨Nat.le_add_right .., Nat.add_lt_add_left hj _⟩, hd⟩
  · rintro (⟨x, h0, rfl⟩ | ⟨⟨h1, h2⟩, rfl⟩)
    · obtain ⟨x', g1, g2, _⟩ := S.pres hp h0
      exact ⟨x', g1, g2⟩
    · obtain ⟨cn, c1, c2, _⟩ := S.new (i - P.nodes.length) (Nat.sub_lt_left_of_lt_add h1 h2)
      rw [Nat.add_sub_cancel' h1] at c1
      exact ⟨cn, c1, c2⟩

/-- **Preservation**: one legal expansion keeps the invariant. -/
theorem wf (S : Step P P' s0 p nd) (W : WF P) (hp : P.nodes[p]? = some nd)
    (hleaf : nd.children = none) (hK : 1 ≤ K P) : WF P' where
  root := by
    obtain ⟨r, hr, h1, h2, h3⟩ := W.root
    obtain ⟨r', hr', e1, e2, e3, _⟩ := S.pres hp hr
    exact ⟨r', hr', e1.trans h1, e2.trans h2, e3.trans h3⟩
  boxlen := by
    intro i x' hx
    rw [S.dimn_eq W hp]
    rcases S.inv hp hx with ⟨x, h0, _, _, _, hb, _⟩ | ⟨j, _, _, _, _, _, _, hb, _⟩
    · rw [hb]; exact W.boxlen i x h0
    · exact hb
  parent := by
    intro c x' hc hx
    rcases S.inv hp hx with ⟨x, h0, hd, _, hpar, _⟩ | ⟨j, hj, rfl, hd, _, hpar, _⟩
    · obtain ⟨q, qn, cs, h1, h2, h3, h4, h5, h6⟩ := W.parent c x hc h0
      have hqp : q ≠ p := by
        rintro rfl
        rw [getElem?_inj hp h3, h4] at hleaf
        cases hleaf
      obtain ⟨qn', g1, g2, _, _, _, _, g3, _⟩ := S.pres hp h3
      exact ⟨q, qn', cs, hpar.trans h1, h2, g1, (g3 hqp).trans h4, h5,
        by rw [hd, h6, g2]⟩
    · exact ⟨p, _, _, hpar, Nat.lt_add_right j (lt_length_of_getElem? hp), S.atp, rfl,
        List.mem_range'_1.2 ⟨Nat.le_add_right .., Nat.add_lt_add_left hj _⟩, hd⟩
  children := by
    intro q x' cs hx hcs
    rw [S.K_eq W hp, S.len]
    refine ⟨hK, ?_⟩
    rcases S.inv hp hx with ⟨x, h0, _, hi, _, _, _, hne, heq⟩ | ⟨j, _, _, _, _, _, hch, _⟩
    · by_cases hqp : q = p
      · subst hqp
        obtain rfl := getElem?_inj hp h0
        refine ⟨P.nodes.length, lt_length_of_getElem? hp,
          Option.some.inj (hcs.symm.trans (heq rfl)), Nat.le_refl _, fun j hj => ?_⟩
        obtain ⟨cn, c1, _, c2, c3, _⟩ := S.new j hj
        exact ⟨cn, c1, c3, by rw [c2, hi]⟩
      · obtain ⟨_, a, a1, a2, a3, a4⟩ := W.children q x cs h0 ((hne hqp).symm.trans hcs)
        refine ⟨a, a1, a2, Nat.le_add_right_of_le a3, fun j hj => ?_⟩
        obtain ⟨cn, c1, c2, c3⟩ := a4 j hj
        obtain ⟨cn', g1, _, g2, g3, _⟩ := S.pres hp c1
        exact ⟨cn', g1, g3.trans c2, by rw [g2, c3, hi]⟩
    · rw [hch] at hcs; cases hcs
  index_pos := by
    intro i x' hx
    rcases S.inv hp hx with ⟨x, h0, _, hi, _⟩ | ⟨j, _, _, _, hi, _⟩
    · rw [hi]; exact W.index_pos i x h0
    · rw [hi]; exact Nat.le_add_left ..
  layers_len := by
    have := W.layers_len
    rcases S.layers with ⟨_, h2, h3⟩ | ⟨_, h2, h3⟩
    · rw [h2, h3, List.length_append, List.length_singleton, this]
    · rw [h2, h3, List.length_modify, this]
  layers_mem := by
    intro h l hl
    rw [S.layers_getElem? W.layers_len] at hl
    by_cases hh : h = nd.depth + 1
    · rw [if_pos hh] at hl
      cases hl
      refine ⟨List.pairwise_append.2 ⟨W.getD_layer_sorted h, List.pairwise_lt_range', ?_⟩,
        List.append_ne_nil_of_right_ne_nil _ ?_, fun i => ?_⟩
      · intro a ha b hb
        obtain ⟨x, hx, _⟩ := (W.mem_getD_layer h a).1 ha
        exact Nat.lt_of_lt_of_le (lt_length_of_getElem? hx) (List.mem_range'_1.1 hb).1
      · intro e
        have := congrArg List.length e
        rw [List.length_range', List.length_nil] at this
        rw [this] at hK
        exact Nat.not_succ_le_zero 0 hK
      · rw [S.depth_iff hp, List.mem_append, W.mem_getD_layer]
        exact or_congr_right ⟨fun hi => ⟨hi, hh⟩, fun hi => hi.1⟩
    · rw [if_neg hh] at hl
      refine ⟨W.layer_sorted hl, W.layer_ne_nil hl, fun i => ?_⟩
      rw [S.depth_iff hp, W.mem_layer_iff hl]
      exact ⟨Or.inl, fun hi => hi.resolve_right (fun e => hh e.2)⟩
  depth_le := by
    intro i x' hx
    rw [S.depth_eq]
    rcases S.inv hp hx with ⟨x, h0, hd, _⟩ | ⟨j, _, _, hd, _⟩
    · rw [hd]; exact Nat.le_trans (W.depth_le i x h0) (Nat.le_max_left ..)
    · rw [hd]; exact Nat.le_max_right ..

end Step
end Tree
end PyXAB
