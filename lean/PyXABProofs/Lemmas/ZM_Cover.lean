/-
  The leaves of the arena by their ids; the invariant `Cover` read as "the cells of the arms are,
  up to order, the leaves"; what one split of a cell does to both.
-/
import PyXABProofs.Lemmas.ZM_Recv
import Mathlib.Data.List.Nodup

set_option linter.unusedSectionVars false

namespace PyXAB
namespace ZM
open Zooming _root_.PyXAB.Tree

theorem filter_ne_middle {l₁ l₂ : List Nat} {c : Nat} (h : (l₁ ++ c :: l₂).Nodup) :
    (l₁ ++ c :: l₂).filter (· ≠ c) = l₁ ++ l₂ := by
  rw [List.nodup_middle, List.nodup_cons] at h
  have hne : ∀ x ∈ l₁ ++ l₂, decide (x ≠ c) = true := fun x hx =>
    decide_eq_true fun e => h.1 (e ▸ hx)
  rw [List.filter_append, List.filter_cons_of_neg (by simp), ← List.filter_append,
    List.filter_eq_self.2 hne]

section leaves
variable {α : Type}

/-- the ids of the leaves, in creation order -/
def leafIds (P : Part α Unit) : List Nat := (List.range P.nodes.length).filter (P.isLeaf ·)

theorem cellBox_eq {P : Part α Unit} {c : Nat} {nd : Node α Unit} (h : P.nodes[c]? = some nd) :
    cellBox P c = nd.box := by
  rw [cellBox, h]

theorem mem_leafIds {P : Part α Unit} {c : Nat} : c ∈ leafIds P ↔ ∃ nd, LeafAt P c nd := by
  rw [leafIds, List.mem_filter, isLeaf_iff, List.mem_range]
  exact ⟨fun h => h.2, fun ⟨nd, h⟩ => ⟨lt_length_of_getElem? h.1, nd, h⟩⟩

theorem leafIds_nodup (P : Part α Unit) : (leafIds P).Nodup := List.nodup_range.filter _

theorem newCell {P P' : Part α Unit} {p : Nat} {nd : Node α Unit} (St : Step P P' () p nd)
    {x : Nat} (hx : x ∈ List.range' P.nodes.length (K P)) :
    ∃ xn, P'.nodes[x]? = some xn ∧ xn.depth = nd.depth + 1 ∧ xn.children = none ∧
      xn.box.length = dimn P := by
  rw [List.mem_range'_1] at hx
  obtain ⟨xn, x1, x2, _, _, x5, x6, _⟩ :=
    St.new (x - P.nodes.length) (Nat.sub_lt_left_of_lt_add hx.1 hx.2)
  rw [Nat.add_sub_cancel' hx.1] at x1
  exact ⟨xn, x1, x2, x5, x6⟩

theorem leafIds_step {P P' : Part α Unit} {p : Nat} {nd : Node α Unit} (St : Step P P' () p nd) :
    leafIds P' = (leafIds P).filter (· ≠ p) ++ List.range' P.nodes.length (K P) := by
  rw [leafIds, St.len, List.range_eq_range', ← List.range'_append_1, Nat.zero_add,
    List.filter_append, leafIds, List.filter_filter, List.range_eq_range']
  congr 1
  · refine List.filter_congr fun x hx => ?_
    by_cases hxp : x = p
    · rw [hxp, Part.isLeaf, St.atp]; simp
    · have hlt : x < P.nodes.length := by simpa using (List.mem_range'_1.1 hx).2
      rw [Part.isLeaf, St.old x hxp hlt, ← Part.isLeaf]; simp [hxp]
  · refine List.filter_eq_self.2 fun x hx => ?_
    obtain ⟨xn, x1, _, x3, _⟩ := newCell St hx
    exact isLeaf_iff.2 ⟨xn, x1, x3⟩

end leaves

section cover
variable {α R S : Type} [LinearOrder α]

/-- `Cover` says that the cells of the arms are, up to order, the leaves. -/
theorem Cover.cells_perm {root : Box α} {s : Zooming α S} (hC : Cover root s) :
    (s.arms.map (·.cell)).Perm (leafIds s.P) := by
  rw [List.perm_ext_iff_of_nodup hC.nodup (leafIds_nodup _)]
  intro c
  rw [mem_leafIds, List.mem_map]
  constructor
  · rintro ⟨a, ha, rfl⟩
    obtain ⟨nd, h1, _⟩ := hC.arm_leaf a ha
    exact ⟨nd, h1⟩
  · rintro ⟨nd, h⟩
    exact hC.leaf_arm c nd h

/-- Converse of `Cover.cells_perm`: with the clause `arm_leaf`, the cells of the arms being a
permutation of the leaves gives the clauses `leaf_arm` (1b) and `nodup` of `Cover`. -/
theorem Cover.of_perm {root : Box α} {s : Zooming α S} (W : WF s.P)
    (hr : ∃ r, s.P.nodes[0]? = some r ∧ r.box = root) (hT : Tiles (leafBoxes s.P) root)
    (hal : ∀ a ∈ s.arms, ∃ nd, LeafAt s.P a.cell nd ∧ 1 ≤ nd.depth ∧ Box.Mem nd.box a.pt)
    (hp : (s.arms.map (·.cell)).Perm (leafIds s.P)) : Cover root s :=
  ⟨W, hr, hT, hal,
    fun _ nd h => List.mem_map.1 (hp.mem_iff.2 (mem_leafIds.2 ⟨nd, h⟩)),
    hp.nodup_iff.2 (leafIds_nodup _)⟩

theorem Cover.cell_inj {root : Box α} {s : Zooming α S} (hC : Cover root s)
    {i j : Nat} {a b : Arm α S} (ha : s.arms[i]? = some a) (hb : s.arms[j]? = some b)
    (h : a.cell = b.cell) : i = j := by
  refine (List.getElem?_inj ?_ hC.nodup).1 ?_
  · rw [List.length_map]; exact lt_length_of_getElem? ha
  · rw [List.getElem?_map, List.getElem?_map, ha, hb, Option.map_some, Option.map_some, h]

theorem Cover.credited (cfg : ZoomCfg R S) {root : Box α} {s : Zooming α S} (hC : Cover root s)
    {i : Nat} {a : Arm α S} (ha : s.arms[i]? = some a) (r : R) :
    Cover root (credited cfg s i a r) := by
  obtain ⟨t, d, e1, e2⟩ := ListAux.split_at ha
  refine Cover.of_perm hC.wf hC.root_box hC.tiles (fun b hb => ?_) ?_
  · rcases List.mem_or_eq_of_mem_set hb with hb | rfl
    · exact hC.arm_leaf b hb
    · exact hC.arm_leaf a (List.mem_of_getElem? ha)
  · have := hC.cells_perm
    rw [e1, List.map_append, List.map_cons] at this
    show ((s.arms.set i (credit cfg a r)).map (·.cell)).Perm (leafIds s.P)
    rw [e2, List.map_append, List.map_cons]
    exact this

end cover

section step
variable {α R S : Type} [Field α] [LinearOrder α] [IsStrictOrderedRing α]

/-- One legal geometric expansion of a leaf in a well-formed tree whose leaves tile `root`:
it succeeds, keeps both invariants, and the new cells tile the split cell. -/
theorem mk_facts {root : Box α} {P : Part α Unit} (W : WF P) (hT : Tiles (leafBoxes P) root)
    {p : Nat} {nd : Node α Unit} {d : Draw α} (hp : P.nodes[p]? = some nd)
    (hleaf : nd.children = none) (hdl : DrawOKLen P.kind (dimn P) d)
    (hd : DrawOK P.kind nd.box d) :
    ∃ P', P.makeChildren () p (decide (nd.depth ≥ P.depth)) d = .ok P' ∧ WF P' ∧
      Step P P' () p nd ∧ Tiles (leafBoxes P') root ∧
      Tiles ((List.range' P.nodes.length (K P)).map (cellBox P')) nd.box := by
  obtain ⟨P', m, W', St⟩ := makeChildren_WF_step W () hp hleaf rfl hdl
  obtain ⟨hT', hk⟩ := tiles_step hT hp hleaf hd m
  refine ⟨P', m, W', St, hT', ?_⟩
  -- the boxes of the new cells are `childBoxes`, through `newKids`
  obtain ⟨hlen', _, _, hkid⟩ := Part.makeChildren_getElem? hp m
  have hlen : (Part.newKids P.kind p nd () d).length = K P :=
    Nat.add_left_cancel (hlen'.symm.trans St.len)
  have e : (List.range' P.nodes.length (K P)).map (cellBox P') =
      (Part.newKids P.kind p nd () d).map (·.box) := by
    refine List.ext_getElem (by rw [List.length_map, List.length_map, List.length_range', hlen])
      fun j _ h2 => ?_
    rw [List.length_map] at h2
    rw [List.getElem_map, List.getElem_map, List.getElem_range', Nat.one_mul,
      cellBox_eq ((hkid j).trans (List.getElem?_eq_getElem h2))]
  rw [e, Part.newKids_map_box]
  exact hk

theorem newArm_mem (cfg : ZoomCfg R S) {P : Part α Unit} {x : Nat} {xn : Node α Unit}
    (h : P.nodes[x]? = some xn) (hv : Box.Valid xn.box) :
    Box.Mem xn.box (newArm cfg P x : Arm α S).pt := by
  simp only [newArm, h]
  exact C02.cpoint_mem _ hv

/-- **The refinement step keeps the invariant.**  The cell of the pulled arm `a` is split
(`St`), the arm moves to the new cell `c`, whose box contains its point, and the other new cells
`l₁ ++ l₂` get fresh arms.  The cells of the arms stay a permutation of the leaves
(`leafIds_step`); old arms sit in untouched cells. -/
theorem Cover.refined (cfg : ZoomCfg R S) {root : Box α} {s : Zooming α S} (hC : Cover root s)
    {i : Nat} {a : Arm α S} {nd : Node α Unit} (ha : s.arms[i]? = some a)
    (hn : LeafAt s.P a.cell nd) {P' : Part α Unit} (W' : WF P') (St : Step s.P P' () a.cell nd)
    (hT' : Tiles (leafBoxes P') root)
    (hkids : Tiles ((List.range' s.P.nodes.length (K s.P)).map (cellBox P')) nd.box)
    {l₁ l₂ : List Nat} {c : Nat} (hsplit : List.range' s.P.nodes.length (K s.P) = l₁ ++ c :: l₂)
    (hmem : Box.Mem (cellBox P' c) a.pt) (r : R) :
    Cover root (refined cfg s i a r P' c ((l₁ ++ l₂).map (newArm cfg P'))) := by
  obtain ⟨t, d, e1, e2⟩ := ListAux.split_at ha
  have hcells := hC.cells_perm
  have hnd := hC.nodup
  rw [e1, List.map_append, List.map_cons] at hcells hnd
  -- a new cell: a leaf of depth `≥ 1` with a valid box
  have hnew : ∀ x ∈ c :: (l₁ ++ l₂), ∃ xn, LeafAt P' x xn ∧ 1 ≤ xn.depth ∧ Box.Valid xn.box := by
    intro x hx
    rw [← List.perm_middle.mem_iff, ← hsplit] at hx
    obtain ⟨xn, x1, x2, x3, _⟩ := newCell St hx
    exact ⟨xn, ⟨x1, x3⟩, x2 ▸ Nat.le_add_left 1 _,
      cellBox_eq x1 ▸ (hkids.1 _ (List.mem_map_of_mem hx)).2⟩
  -- an old arm other than the pulled one: its cell is not the split one
  have hold : ∀ b ∈ t ++ d, ∃ bn, LeafAt P' b.cell bn ∧ 1 ≤ bn.depth ∧ Box.Mem bn.box b.pt := by
    intro b hb
    obtain ⟨bn, ⟨b1, b2⟩, b3, b4⟩ :=
      hC.arm_leaf b (e1 ▸ List.perm_middle.mem_iff.2 (List.mem_cons_of_mem _ hb))
    have hne : b.cell ≠ a.cell := fun h =>
      (List.nodup_cons.1 (List.nodup_middle.1 hnd)).1
        (h ▸ List.map_append ▸ List.mem_map_of_mem hb)
    exact ⟨bn, ⟨(St.old _ hne (lt_length_of_getElem? b1)).trans b1, b2⟩, b3, b4⟩
  obtain ⟨r0, hr0, hrb⟩ := hC.root_box
  obtain ⟨r', hr', _, _, _, hb', _⟩ := St.pres hn.1 hr0
  refine Cover.of_perm W' ⟨r', hr', hb'.trans hrb⟩ hT' ?_ ?_
  · show ∀ b ∈ s.arms.set i { credit cfg a r with cell := c } ++ (l₁ ++ l₂).map (newArm cfg P'), _
    intro b hb
    rw [e2, List.mem_append, List.perm_middle.mem_iff, List.mem_cons] at hb
    rcases hb with (rfl | hb) | hb
    · obtain ⟨xn, x1, x2, _⟩ := hnew c List.mem_cons_self
      exact ⟨xn, x1, x2, cellBox_eq x1.1 ▸ hmem⟩
    · exact hold b hb
    · obtain ⟨x, hx, rfl⟩ := List.mem_map.1 hb
      obtain ⟨xn, x1, x2, x3⟩ := hnew x (List.mem_cons_of_mem _ hx)
      exact ⟨xn, x1, x2, newArm_mem cfg x1.1 x3⟩
  · show ((s.arms.set i { credit cfg a r with cell := c } ++
      (l₁ ++ l₂).map (newArm cfg P')).map (·.cell)).Perm (leafIds P')
    have hid : (fun x : Arm α S => x.cell) ∘ newArm cfg P' = id := rfl
    rw [leafIds_step St, hsplit, e2, List.map_append, List.map_append, List.map_cons,
      List.map_map, hid, List.map_id]
    have h1 := hcells.filter (· ≠ a.cell)
    rw [filter_ne_middle hnd] at h1
    -- both sides are `c`, the cells of the other old arms and the other new cells
    exact (List.perm_middle.append_right _).trans
      (((List.perm_middle.append_left _).trans List.perm_middle).symm.trans (h1.append_right _))

end step
end ZM
end PyXAB
