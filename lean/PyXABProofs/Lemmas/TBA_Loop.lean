/-
  The ask/tell loops of T-HOO and HCT/VHCT as instances of `SW.IsLoop`: a run never raises and
  keeps `Inv` together with every property `J` of (state, history) that the `RecvEffect` of one
  `receive` keeps.  Also the reward-history step lemma and the counting lemma.
-/
import PyXABProofs.Lemmas.TBA_HCT
import PyXABProofs.Lemmas.SW_Loop

namespace PyXAB
namespace TBA
open Tree

variable {α σ R S : Type}

theorem sum_map_add (l : List Nat) (f g : Nat → Nat) :
    (l.map (fun i => f i + g i)).sum = (l.map f).sum + (l.map g).sum := by
  induction l with
  | nil => rfl
  | cons x l ih => rw [List.map_cons, List.map_cons, List.map_cons, List.sum_cons, List.sum_cons,
      List.sum_cons, ih, Nat.add_add_add_comm]

theorem sum_indicator_of_not_mem (l : List Nat) (a : Nat) (h : a ∉ l) :
    (l.map (fun i => if a = i then 1 else 0)).sum = 0 :=
  List.sum_eq_zero_iff_forall_eq_nat.2 (fun x hx => by
    obtain ⟨i, hi, rfl⟩ := List.mem_map.1 hx
    exact if_neg (fun (e : a = i) => h (e ▸ hi)))

theorem sum_indicator (l : List Nat) (hn : l.Nodup) (a : Nat) (h : a ∈ l) :
    (l.map (fun i => if a = i then 1 else 0)).sum = 1 := by
  induction l with
  | nil => cases h
  | cons x l ih =>
    rw [List.nodup_cons] at hn
    rw [List.map_cons, List.sum_cons]
    by_cases e : a = x
    · subst e
      rw [if_pos rfl, sum_indicator_of_not_mem l a hn.1]
    · rw [if_neg e, ih hn.2 ((List.mem_cons.1 h).resolve_left e)]

/-- Every entry of the history is counted at exactly one id. -/
theorem sum_filter_length {β : Type} (n : Nat) :
    ∀ (H : List (Nat × β)), (∀ e ∈ H, e.1 < n) →
      ((List.range n).map (fun i => (H.filter (fun e => decide (e.1 = i))).length)).sum = H.length
  | [], _ => List.sum_eq_zero_iff_forall_eq_nat.2 (fun x hx => by
      obtain ⟨i, _, rfl⟩ := List.mem_map.1 hx
      rfl)
  | e :: H, h => by
    have ih := sum_filter_length n H (fun e he => h e (List.mem_cons_of_mem _ he))
    have he : e.1 ∈ List.range n := List.mem_range.2 (h e (List.mem_cons_self ..))
    have : (fun i => ((e :: H).filter (fun e => decide (e.1 = i))).length) =
        (fun i => (if e.1 = i then 1 else 0) + (H.filter (fun e => decide (e.1 = i))).length) := by
      funext i
      by_cases c : e.1 = i
      · rw [List.filter_cons_of_pos (p := fun (x : Nat × β) => decide (x.1 = i)) (decide_eq_true c), if_pos c,
          List.length_cons, Nat.add_comm]
      · rw [List.filter_cons_of_neg (p := fun (x : Nat × β) => decide (x.1 = i))
          (by rw [decide_eq_false c]; nofun), if_neg c, Nat.zero_add]
    rw [this, sum_map_add, ih, sum_indicator _ List.nodup_range _ he, List.length_cons,
      Nat.add_comm]

/-- If the reward lists of `P` are the `sel`-filtered history, and `receive` credits exactly
the cells `i` with `sel i last`, then the reward lists of `P'` are the filtered extended
history. -/
theorem RecvEffect.hist {mo : List R → Nat → S} {vo : Option (List R → S)} {r : R}
    {s0 : TBSt R S} {hit : Nat → Prop} {P P' : Part α (TBSt R S)} {last : Nat} {grew : Bool}
    (E : RecvEffect mo vo r s0 hit P P' last grew) (hs0 : s0.rewards = [])
    (sel : Nat → Nat → Bool) (H : List (Nat × R))
    (hvalid : ∀ e ∈ H, e.1 < P.nodes.length) (hlast : last < P.nodes.length)
    (hP : ∀ (i : Nat) (nd : Node α (TBSt R S)), P.nodes[i]? = some nd →
      nd.st.rewards = (H.filter (fun e => sel i e.1)).map (·.2))
    (hsel_hit : ∀ i, i < P.nodes.length → (hit i ↔ sel i last = true))
    (hsel_new : ∀ i j, j < P.nodes.length → P.nodes.length ≤ i → sel i j = false)
    (i : Nat) (nd' : Node α (TBSt R S)) (hi : P'.nodes[i]? = some nd') :
    nd'.st.rewards = ((H ++ [(last, r)]).filter (fun e => sel i e.1)).map (·.2) := by
  rw [List.filter_append, List.map_append]
  by_cases hlt : i < P.nodes.length
  · obtain ⟨nd, hnd⟩ : ∃ nd, P.nodes[i]? = some nd := ⟨_, List.getElem?_eq_getElem hlt⟩
    obtain ⟨x, x1, _, _, _, _, _, _, x8, x9⟩ := E.old i nd hnd
    obtain rfl := getElem?_inj x1 hi
    by_cases hh : sel i last = true
    · rw [(x8 ((hsel_hit i hlt).2 hh)).2.1, hP i nd hnd,
        List.filter_cons_of_pos (p := fun (e : Nat × R) => sel i e.1) hh]
      rfl
    · have hn : ¬ hit i := fun h => hh ((hsel_hit i hlt).1 h)
      rw [(x9 hn).2.1, hP i nd hnd,
        List.filter_cons_of_neg (p := fun (e : Nat × R) => sel i e.1) hh]
      exact (List.append_nil _).symm
  · have hge : P.nodes.length ≤ i := Nat.le_of_not_lt hlt
    obtain ⟨_, _, _, _, _, _, h⟩ := E.new_node hge hi
    have f1 : H.filter (fun e => sel i e.1) = [] :=
      List.filter_eq_nil_iff.2 (fun e he => by rw [hsel_new i e.1 (hvalid e he) hge]; nofun)
    rw [h, hs0, f1, List.filter_cons_of_neg (by rw [hsel_new i last hlast hge]; nofun)]
    rfl

end TBA

namespace TBA.HOO
open Tree TBA PyXAB.HOO
variable {α R S : Type} [Add α] [Sub α] [Mul α] [Div α] [OfNat α 2] [NatCast α]
variable [LE S] [DecidableLE S] [Max S] [Min S] [Inhabited S] [Inhabited R]

theorem isLoop (cfg : HOOCfg R S) :
    SW.IsLoop (·.1) (fun s (x : R × List (Draw α)) => round cfg s x.1 x.2) (runRounds cfg) :=
  ⟨fun _ => rfl, fun s x rest => by
    rw [runRounds]
    cases round cfg s x.1 x.2 with
    | error e => rfl
    | ok res =>
      obtain ⟨s1, v⟩ := res
      dsimp only
      cases runRounds cfg s1 rest <;> rfl⟩

/-- `J`, a property of (state, history so far), survives every round: a `pull`, which stores
a root-to-leaf path ending in the pulled cell `v`, then a `receive` with the effect
`RecvEffect`. -/
def Keeps (cfg : HOOCfg R S) (J : HOO α R S → List (Nat × R) → Prop) : Prop :=
  ∀ (s s' : HOO α R S) (H : List (Nat × R)) (r : R) (path : List Nat) (v : Nat)
    (nd : Node α (TBSt R S)), Inv cfg s → J s H → Ready cfg { s with path := some path } path v →
    s.P.nodes[v]? = some nd → Inv cfg s' →
    RecvEffect cfg.meanOf none r (st0 cfg) (· ∈ path) s.P s'.P v (cfg.expandOK nd.depth) →
    J s' (H ++ [(v, r)])

/-- The loop from an invariant state never raises and keeps `Inv` and every such `J`. -/
theorem runRounds_induct (cfg : HOOCfg R S) {J : HOO α R S → List (Nat × R) → Prop}
    (hstep : Keeps cfg J) {s : HOO α R S} {H0 : List (Nat × R)} (hI : Inv cfg s) (hJ : J s H0)
    {inputs : List (R × List (Draw α))} (hin : InputsOK s.P.kind (dimn s.P) inputs) :
    ∃ s' H, runRounds cfg s inputs = .ok (s', H) ∧ Inv cfg s' ∧ J s' (H0 ++ H) ∧
      H.map (·.2) = inputs.map (·.1) ∧ s'.P.kind = s.P.kind ∧ dimn s'.P = dimn s.P := by
  obtain ⟨s', H, e, ⟨a, b, c, d⟩, f⟩ := (isLoop cfg).total
    (I := fun t H _ => Inv cfg t ∧ J t H ∧ t.P.kind = s.P.kind ∧ dimn t.P = dimn s.P)
    (OK := fun x => DrawsOK s.P.kind (dimn s.P) x.2)
    (fun t H _ x ⟨hI, hJ, hk, hd⟩ hx => by
      obtain ⟨path, v, e1, hR⟩ := pull_ok cfg hI
      obtain ⟨t', ds', e2, nd, h1, hI1, _, _, E⟩ := receive_ok cfg hR x.1
        (show DrawsOK t.P.kind (dimn t.P) x.2 by rw [hk, hd]; exact hx)
      exact ⟨t', v, by simp only [round, e1, e2], hI1,
        hstep t t' H x.1 path v nd hI hJ hR h1 hI1 E, E.kind.trans hk, E.dimn.trans hd⟩)
    inputs s H0 ⟨hI, hJ, rfl, rfl⟩ hin
  exact ⟨s', H, e, a, b, f, c, d⟩

/-- Construction followed by the loop never raises and ends in `Inv` and `J`, if `J` holds of
the initial tree (the root and its children, all with payload `st0`) and the empty history. -/
theorem run_induct (cfg : HOOCfg R S) (k : Kind) (domain : Box α)
    {J : HOO α R S → List (Nat × R) → Prop} (hstep : Keeps cfg J)
    (hJ0 : ∀ s0 : HOO α R S, (∀ (i : Nat) (nd : Node α (TBSt R S)), s0.P.nodes[i]? = some nd →
      nd.st = st0 cfg ∧ nd.depth ≤ 1) → J s0 [])
    {ds0 : List (Draw α)} {inputs : List (R × List (Draw α))} (h0 : DrawsOK k domain.length ds0)
    (hin : InputsOK k domain.length inputs) :
    ∃ s H, run cfg k domain ds0 inputs = .ok (s, H) ∧ Inv cfg s ∧ J s H ∧
      H.map (·.2) = inputs.map (·.1) := by
  obtain ⟨s0, ds', e0, hI0, hk, hd, _, _, _, hst⟩ := init_ok cfg k domain h0
  obtain ⟨s, H, e, hI, hJ, hl, _⟩ := runRounds_induct cfg hstep hI0 (hJ0 s0 hst)
    (show InputsOK s0.P.kind (dimn s0.P) inputs by rw [hk, hd]; exact hin)
  exact ⟨s, H, by simp only [PyXAB.HOO.run, e0, e], hI, hJ, hl⟩

end TBA.HOO

namespace TBA.HCT
open Tree TBA PyXAB.HCT
variable {α R S : Type} [Add α] [Sub α] [Mul α] [Div α] [OfNat α 2] [NatCast α]
variable [LE S] [DecidableLE S] [Max S] [Min S] [Inhabited S] [Inhabited R]

theorem isLoop (cfg : HCTCfg R S) :
    SW.IsLoop (·.1) (fun s (x : R × List (Draw α)) => round cfg s x.1 x.2) (runRounds cfg) :=
  ⟨fun _ => rfl, fun s x rest => by
    rw [runRounds]
    cases round cfg s x.1 x.2 with
    | error e => rfl
    | ok res =>
      obtain ⟨s1, v⟩ := res
      dsimp only
      cases runRounds cfg s1 rest <;> rfl⟩

/-- `J` survives every round: a `pull`, which rewrites thresholds only (`TauR`) and stores a
path ending in the pulled cell `v`, then a `receive` with the effect `RecvEffect` on `v`. -/
def Keeps (cfg : HCTCfg R S) (J : HCT α R S → List (Nat × R) → Prop) : Prop :=
  ∀ (s s1 s' : HCT α R S) (H : List (Nat × R)) (r : R) (path : List Nat) (v : Nat)
    (nd : Node α (TBSt R S)) (thr : S), Inv cfg s → J s H → PRel TauR s.P s1.P →
    Ready cfg s1 path v → s1.P.nodes[v]? = some nd → Inv cfg s' →
    RecvEffect cfg.meanOf (voOf cfg) r (st0 cfg) (· = v) s1.P s'.P v
      (nd.children.isNone && cfg.countGE (nd.st.count + 1) thr) →
    J s' (H ++ [(v, r)])

theorem runRounds_induct (cfg : HCTCfg R S) {J : HCT α R S → List (Nat × R) → Prop}
    (hstep : Keeps cfg J) {s : HCT α R S} {H0 : List (Nat × R)} (hI : Inv cfg s) (hJ : J s H0)
    {inputs : List (R × List (Draw α))} (hin : InputsOK s.P.kind (dimn s.P) inputs) :
    ∃ s' H, runRounds cfg s inputs = .ok (s', H) ∧ Inv cfg s' ∧ J s' (H0 ++ H) ∧
      H.map (·.2) = inputs.map (·.1) ∧ s'.P.kind = s.P.kind ∧ dimn s'.P = dimn s.P := by
  obtain ⟨s', H, e, ⟨a, b, c, d⟩, f⟩ := (isLoop cfg).total
    (I := fun t H _ => Inv cfg t ∧ J t H ∧ t.P.kind = s.P.kind ∧ dimn t.P = dimn s.P)
    (OK := fun x => DrawsOK s.P.kind (dimn s.P) x.2)
    (fun t H _ x ⟨hI, hJ, hk, hd⟩ hx => by
      obtain ⟨t1, path, v, e1, hR, hT, _⟩ := pull_ok cfg hI
      have hk1 := hT.kind.trans hk
      have hd1 := hT.dimn_eq.trans hd
      obtain ⟨t', ds', e2, nd, thr, h1, _, hI1, _, _, _, E⟩ := receive_ok cfg hR x.1
        (show DrawsOK t1.P.kind (dimn t1.P) x.2 by rw [hk1, hd1]; exact hx)
      exact ⟨t', v, by simp only [round, e1, e2], hI1,
        hstep t t1 t' H x.1 path v nd thr hI hJ hT hR h1 hI1 E, E.kind.trans hk1,
        E.dimn.trans hd1⟩)
    inputs s H0 ⟨hI, hJ, rfl, rfl⟩ hin
  exact ⟨s', H, e, a, b, f, c, d⟩

theorem run_induct (cfg : HCTCfg R S) (k : Kind) (domain : Box α)
    {J : HCT α R S → List (Nat × R) → Prop} (hstep : Keeps cfg J)
    (hJ0 : ∀ s0 : HCT α R S, (∀ (i : Nat) (nd : Node α (TBSt R S)), s0.P.nodes[i]? = some nd →
      nd.st = st0 cfg ∧ nd.depth ≤ 1) → J s0 [])
    {ds0 : List (Draw α)} {inputs : List (R × List (Draw α))} (h0 : DrawsOK k domain.length ds0)
    (hin : InputsOK k domain.length inputs) :
    ∃ s H, run cfg k domain ds0 inputs = .ok (s, H) ∧ Inv cfg s ∧ J s H ∧
      H.map (·.2) = inputs.map (·.1) := by
  obtain ⟨s0, ds', e0, hI0, hk, hd, _, _, _, hst⟩ := init_ok cfg k domain h0
  obtain ⟨s, H, e, hI, hJ, hl, _⟩ := runRounds_induct cfg hstep hI0 (hJ0 s0 hst)
    (show InputsOK s0.P.kind (dimn s0.P) inputs by rw [hk, hd]; exact hin)
  exact ⟨s, H, by simp only [PyXAB.HCT.run, e0, e], hI, hJ, hl⟩

end TBA.HCT
end PyXAB
