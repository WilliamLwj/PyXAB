/-
  `Zooming.receive` branch by branch and `Zooming.init`, as equations; the phase schedule by
  equations.
-/
import PyXABProofs.Lemmas.ZM_Tree
import PyXABProofs.Lemmas.TreeOps
import PyXABProofs.Lemmas.ZM_Assign

set_option linter.unusedSectionVars false

namespace PyXAB
namespace ZM
open Zooming _root_.PyXAB.Tree

section sched
variable {α R S : Type}

theorem phaseAfter_of_lt {s : Zooming α S} (h : s.time + 1 < s.nextEnd) :
    phaseAfter s = s.phase ∧ nextEndAfter s = s.nextEnd :=
  ⟨if_neg (Nat.not_le.2 h), if_neg (Nat.not_le.2 h)⟩

theorem phaseAfter_of_ge {s : Zooming α S} (h : s.nextEnd ≤ s.time + 1) :
    phaseAfter s = s.phase + 1 ∧ nextEndAfter s = s.nextEnd + 2 ^ (s.phase + 1) :=
  ⟨if_pos h, if_pos h⟩

/-- `receive` computes the new phase and its end as one pair; the specification names the
components `phaseAfter` and `nextEndAfter`. -/
theorem phase_pair (s : Zooming α S) :
    (if s.time + 1 ≥ s.nextEnd then (s.phase + 1, s.nextEnd + 2 ^ (s.phase + 1))
      else (s.phase, s.nextEnd)) = (phaseAfter s, nextEndAfter s) := by
  unfold phaseAfter nextEndAfter; split <;> rfl

/-- Crediting without refinement is the refinement that keeps the arena and the cell and
appends no arm. -/
theorem credited_eq_refined (cfg : ZoomCfg R S) (s : Zooming α S) (i : Nat) (a : Arm α S) (r : R) :
    credited cfg s i a r = refined cfg s i a r s.P a.cell [] := by
  rw [refined, List.append_nil]; rfl

theorem refined_P (cfg : ZoomCfg R S) (s : Zooming α S) (i : Nat) (a : Arm α S) (r : R)
    (P2 : Part α Unit) (c : Nat) (fresh : List (Arm α S)) :
    (refined cfg s i a r P2 c fresh).P = P2 := rfl

theorem refined_arms (cfg : ZoomCfg R S) (s : Zooming α S) (i : Nat) (a : Arm α S) (r : R)
    (P2 : Part α Unit) (c : Nat) (fresh : List (Arm α S)) :
    (refined cfg s i a r P2 c fresh).arms =
      s.arms.set i { credit cfg a r with cell := c } ++ fresh := rfl

end sched

variable {α R S : Type} [Add α] [Sub α] [Mul α] [Div α] [OfNat α 2] [NatCast α]
variable [LE α] [DecidableLE α]

theorem receive_noref (cfg : ZoomCfg R S) {s : Zooming α S} {i : Nat} {a : Arm α S}
    {nd : Node α Unit} (r : R) (ds : List (Draw α))
    (hb : s.best = some i) (ha : s.arms[i]? = some a) (hn : s.P.nodes[a.cell]? = some nd)
    (hc : refineCond cfg s a nd = false) :
    receive cfg s r ds = .ok (credited cfg s i a r, ds) := by
  unfold refineCond at hc
  simp only [receive, hb, ha, phase_pair, hn, hc, Bool.false_eq_true, if_false]
  rw [← hb]; rfl

/-- The refining branch, whatever `assign` answers (`none`: the arm would keep its cell id). -/
theorem receive_ref (cfg : ZoomCfg R S) {s : Zooming α S} {i : Nat} {a : Arm α S}
    {nd nd2 : Node α Unit} (r : R) {ds ds' : List (Draw α)} {P2 : Part α Unit} {cs : List Nat}
    (hb : s.best = some i) (ha : s.arms[i]? = some a) (hn : s.P.nodes[a.cell]? = some nd)
    (hc : refineCond cfg s a nd = true)
    (hm : s.P.makeChildrenD () a.cell (decide (nd.depth ≥ s.P.depth)) ds = .ok (P2, ds'))
    (hn2 : P2.nodes[a.cell]? = some nd2) (hcs : nd2.children = some cs) :
    receive cfg s r ds = .ok (refined cfg s i a r P2
      ((assign cfg P2 a.pt cs false none []).1.getD a.cell)
      (assign cfg P2 a.pt cs false none []).2, ds') := by
  unfold refineCond at hc
  simp only [receive, hb, ha, phase_pair, hn, hc, if_true, hm, bind, Except.bind, hn2, hcs,
    List.set_set]
  rw [← hb]
  cases (assign cfg P2 a.pt cs false none []).1 <;> rfl

/-- `Zooming.__init__` when the single `make_children(root)` of `deepen()` succeeds. -/
theorem init_eq (cfg : ZoomCfg R S) (k : Kind) (domain : Box α) (d : Draw α)
    (ds : List (Draw α)) {P1 : Part α Unit} {layer : List Nat}
    (hm : (Part.init k domain ()).makeChildren () 0 true d = .ok P1)
    (hl : P1.layers[1]? = some layer) :
    Zooming.init cfg k domain (d :: ds) =
      .ok ({ P := P1, arms := layer.map (newArm cfg P1), phase := 1, nextEnd := 2, time := 0,
             best := none }, ds) := by
  have hd : (Part.init k domain ()).deepen () (d :: ds) = .ok (P1, ds) := by
    show (do let x ← (Part.init k domain ()).makeChildrenD () 0 true (d :: ds)
             Part.deepenLoop () 0 0 1 x.1 x.2) = _
    rw [makeChildrenD_cons hm]; rfl
  simp only [Zooming.init, hd, bind, Except.bind, hl, pure, Except.pure]

end ZM
end PyXAB
