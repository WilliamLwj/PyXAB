/-
  StoSOO: the `b`-refresh `computeB`, the layer scan, the invariant `PInv`, the instrumented
  loop `loopT` (ok-result spec), `pullT`, `receive`.
-/
import PyXABProofs.Lemmas.SW_Vis
import PyXABProofs.Lemmas.SW_Erase

set_option linter.unusedSectionVars false

namespace PyXAB
namespace StoSOO
open Tree TBA SW

variable {α R S : Type} [Add α] [Sub α] [Mul α] [Div α] [OfNat α 2] [NatCast α]
variable [LinearOrder S] [Inhabited S] [Inhabited R]

theorem computeB_idem (cfg : StoCfg S R) (st : TBSt R S) :
    computeB cfg (computeB cfg st) = computeB cfg st := by
  by_cases h : st.count = 0
  · have e : computeB cfg st = { st with b := cfg.inf } := by simp [computeB, h]
    rw [e]; simp [computeB, h]
  · simp [computeB, h]

/-- the refreshed `b` of a cell which has never been evaluated is `inf` -/
theorem computeB_b_of_count_zero (cfg : StoCfg S R) {st : TBSt R S} (h : st.count = 0) :
    (computeB cfg st).b = cfg.inf := by
  simp [computeB, h]

theorem computeB_st0 (cfg : StoCfg S R) : computeB cfg (st0 cfg) = st0 cfg := by
  simp [computeB, st0]

theorem Refr.refl (cfg : StoCfg S R) (a : TBSt R S) : Refr cfg a a := Or.inl rfl

theorem Refr.trans {cfg : StoCfg S R} {a b c : TBSt R S} (h1 : Refr cfg a b)
    (h2 : Refr cfg b c) : Refr cfg a c := by
  rcases h1 with rfl | rfl
  · exact h2
  · rcases h2 with rfl | rfl
    · exact Or.inr rfl
    · exact Or.inr (computeB_idem cfg a)

theorem Refr.count_rewards {cfg : StoCfg S R} {a b : TBSt R S} (h : Refr cfg a b) :
    b.count = a.count ∧ b.rewards = a.rewards := by
  rcases h with rfl | rfl
  · exact ⟨rfl, rfl⟩
  · unfold computeB; split <;> exact ⟨rfl, rfl⟩

theorem ext_refl (cfg : StoCfg S R) (P : Part α (TBSt R S)) : Ext (Refr cfg) (st0 cfg) P P :=
  Ext.refl (Refr.refl cfg) P

theorem ext_trans {cfg : StoCfg S R} {P P' P'' : Part α (TBSt R S)}
    (h1 : Ext (Refr cfg) (st0 cfg) P P') (h2 : Ext (Refr cfg) (st0 cfg) P' P'') :
    Ext (Refr cfg) (st0 cfg) P P'' :=
  Ext.trans (fun _ _ _ h1 h2 => Refr.trans h1 h2) h1 h2

/-- Node relation of the scan: the payload is unchanged, or the cell is a leaf and its payload
has been refreshed. -/
def RefrN (cfg : StoCfg S R) (_ : Nat) (nd nd' : Node α (TBSt R S)) : Prop :=
  nd'.st = nd.st ∨ (nd.children = none ∧ nd'.st = computeB cfg nd.st)

theorem RefrN.refr {cfg : StoCfg S R} {i : Nat} {a b : Node α (TBSt R S)}
    (h : RefrN cfg i a b) : Refr cfg a.st b.st := by
  rcases h with h | ⟨_, h⟩
  · exact Or.inl h
  · exact Or.inr h

theorem leafScore_refresh (cfg : StoCfg S R) (P : Part α (TBSt R S)) (a : Nat) :
    leafScore (refreshAt (computeB cfg) (fun _ => true) P a) (fun st => (computeB cfg st).b) =
      leafScore P (fun st => (computeB cfg st).b) :=
  leafScore_refreshAt (g := computeB cfg) (fun _ => true) P a
    (sc := fun st => (computeB cfg st).b) (fun s => by rw [computeB_idem])

theorem modifySt_eq_refreshAt (cfg : StoCfg S R) {P : Part α (TBSt R S)} {id : Nat}
    {nd : Node α (TBSt R S)} (hn : P.nodes[id]? = some nd) (hl : nd.children.isNone = true) :
    P.modifySt id (fun _ => computeB cfg nd.st) =
      refreshAt (computeB cfg) (fun _ => true) P id := by
  rw [refreshAt, if_pos (by rw [leafTest_at hn, hl]; rfl)]
  exact Part.modifySt_congr (fun nd' hn' => by obtain rfl := getElem?_inj hn hn'; rfl)

/-- `StoSOO.scan` refreshes every leaf of the list and returns the running last maximum, with
its list position, of the refreshed `b`. -/
theorem scan_eq (cfg : StoCfg S R) (l : List Nat) (j : Nat) (P : Part α (TBSt R S))
    (best : Option (Nat × Nat × S)) :
    scan cfg l j P best =
      (l.foldl (refreshAt (computeB cfg) (fun _ => true)) P,
        amFoldO (leafScore P (fun st => (computeB cfg st).b)) l j best) := by
  fun_induction scan cfg l j P best
  case case1 => rfl
  case case2 hn ih => simp [ih, amFoldO, amStepO, leafScore_none hn, refreshAt, leafTest_none hn]
  case case3 id rest j P nd hn hl st' P' ih =>
    have e : P' = refreshAt (computeB cfg) (fun _ => true) P id := modifySt_eq_refreshAt cfg hn hl
    rw [ih, e, leafScore_refresh]
    simp [amFoldO, amStepO, leafScore_at hn, hl, st']
  case case4 id rest j P nd hn hl st' P' bj bid bb hc ih =>
    have e : P' = refreshAt (computeB cfg) (fun _ => true) P id := modifySt_eq_refreshAt cfg hn hl
    rw [ih, e, leafScore_refresh]
    simp [amFoldO, amStepO, leafScore_at hn, hl, st', hc]
  case case5 id rest j P nd hn hl st' P' bj bid bb hc ih =>
    have e : P' = refreshAt (computeB cfg) (fun _ => true) P id := modifySt_eq_refreshAt cfg hn hl
    rw [ih, e, leafScore_refresh]
    simp [amFoldO, amStepO, leafScore_at hn, hl, st', hc]
  case case6 nd hn hl ih =>
    simp [ih, amFoldO, amStepO, leafScore_at hn, hl, refreshAt, leafTest_at hn]

theorem scan_spec (cfg : StoCfg S R) (l : List Nat) (j : Nat) (P : Part α (TBSt R S))
    (best : Option (Nat × Nat × S)) (P1 : Part α (TBSt R S)) (best' : Option (Nat × Nat × S))
    (hrun : scan cfg l j P best = (P1, best')) :
      PRel (RefrN cfg) P P1 ∧
      (∀ w ∈ l, ∀ nd, P.nodes[w]? = some nd → nd.children = none →
        ∃ nd1, P1.nodes[w]? = some nd1 ∧ nd1.st = computeB cfg nd.st) ∧
      best' = amFoldO (leafScore P (fun st => (computeB cfg st).b)) l j best := by
  rw [scan_eq] at hrun
  cases hrun
  have hR := foldl_refreshAt_rel (g := computeB cfg) (c := fun _ => true) (computeB_idem cfg)
    (fun _ => rfl) l P
  refine ⟨hR.mono (fun i a b _ h => ?_), fun w hw nd hnd hleaf => ?_, rfl⟩
  · rw [Refreshed] at h
    rw [RefrN, h]; split
    · rename_i hc; exact Or.inr ⟨hc.2.1, rfl⟩
    · exact Or.inl rfl
  · obtain ⟨nd1, a1, _, a3⟩ := hR.node w nd hnd
    exact ⟨nd1, a1, by rw [a3, if_pos ⟨hw, hleaf, rfl⟩]⟩

/-- What the scan of a whole layer (started with `best = none`) guarantees, expressed on the
refreshed tree `P1`. -/
structure ScanPost (cfg : StoCfg S R) (l : List Nat) (P P1 : Part α (TBSt R S))
    (best' : Option (Nat × Nat × S)) : Prop where
  prel : PRel (RefrN cfg) P P1
  refreshed : ∀ w ∈ l, ∀ nd, P.nodes[w]? = some nd → nd.children = none →
    ∃ nd1, P1.nodes[w]? = some nd1 ∧ nd1.st = computeB cfg nd.st
  /-- every leaf of the list carries a refreshed payload in `P1` -/
  fixed : ∀ w ∈ l, ∀ nd, P1.nodes[w]? = some nd → nd.children = none →
    nd.st = computeB cfg nd.st
  best : (best' = none ∧ ∀ w ∈ l, leafScore P1 (·.b) w = none) ∨
    (∃ k m x, best' = some (k, m, x) ∧ l[k]? = some m ∧ IsLastMax (leafScore P1 (·.b)) l m x)

theorem scan_spec0 (cfg : StoCfg S R) {l : List Nat} {P P1 : Part α (TBSt R S)}
    {best' : Option (Nat × Nat × S)} (hrun : scan cfg l 0 P none = (P1, best')) :
    ScanPost cfg l P P1 best' := by
  obtain ⟨h1, h2, h3⟩ := scan_spec cfg l 0 P none P1 best' hrun
  rw [scan_eq] at hrun
  cases hrun
  have hsc : ∀ w ∈ l, leafScore P (fun st => (computeB cfg st).b) w =
      leafScore (l.foldl (refreshAt (computeB cfg) (fun _ => true)) P) (·.b) w :=
    fun w hw => (leafScore_prel (foldl_refreshAt_rel (computeB_idem cfg) (fun _ => rfl) l P)
      (fun a b hab hleaf => by rw [hab, if_pos ⟨hw, hleaf, rfl⟩])).symm
  refine ⟨h1, h2, ?_, ?_⟩
  · intro w hw nd1 hnd1 hleaf
    obtain ⟨nd, a1, a2, _⟩ := h1.bwd hnd1
    obtain ⟨nd1', b1, b2⟩ := h2 w hw nd a1 (by rw [← a2.children]; exact hleaf)
    obtain rfl := getElem?_inj hnd1 b1
    rw [b2, computeB_idem]
  · rcases amFoldO_none (leafScore P (fun st => (computeB cfg st).b)) l 0 with
      ⟨e1, e2⟩ | ⟨k, m, x, e1, e2, e3⟩
    · left
      exact ⟨by rw [h3, e1], fun w hw => by rw [← hsc w hw]; exact e2 w hw⟩
    · right
      exact ⟨k, m, x, by rw [h3, e1, Nat.zero_add], e2, e3.congr hsc⟩

theorem PInv.of_prel {cfg : StoCfg S R} {P P' : Part α (TBSt R S)}
    {τ : Nat → Node α (TBSt R S) → Node α (TBSt R S) → Prop} (h : PInv cfg P) (hr : PRel τ P P')
    (hτ : ∀ i a b, τ i a b → b.st.count = a.st.count ∧ b.st.rewards = a.st.rewards) :
    PInv cfg P' where
  wf := hr.wf h.wf
  internal := by
    intro i nd' hi hne
    obtain ⟨nd, a1, a2, a3⟩ := hr.bwd hi
    rw [(hτ _ _ _ a3).1]
    exact h.internal i nd a1 (by rw [← a2.children]; exact hne)
  count := by
    intro i nd' hi
    obtain ⟨nd, a1, _, a3⟩ := hr.bwd hi
    rw [(hτ _ _ _ a3).1, (hτ _ _ _ a3).2]
    exact h.count i nd a1
  atMostK := by
    intro i nd' hi hpos
    obtain ⟨nd, a1, _, a3⟩ := hr.bwd hi
    rw [(hτ _ _ _ a3).1] at hpos ⊢
    exact h.atMostK i nd a1 hpos

theorem PInv.refresh {cfg : StoCfg S R} {P P' : Part α (TBSt R S)} (h : PInv cfg P)
    (hr : PRel (RefrN cfg) P P') : PInv cfg P' :=
  h.of_prel hr (fun _ _ _ hab => hab.refr.count_rewards)

theorem PInv.step {cfg : StoCfg S R} {P P' : Part α (TBSt R S)} {p : Nat}
    {nd : Node α (TBSt R S)} (h : PInv cfg P) (St : Step P P' (st0 cfg) p nd)
    (hp : P.nodes[p]? = some nd) (hleaf : nd.children = none)
    (hk : cfg.countLT nd.st.count = false) (hK : 1 ≤ K P) : PInv cfg P' where
  wf := St.wf h.wf hp hleaf hK
  internal := by
    intro i x' hi hne
    rcases St.inv hp hi with ⟨x, a1, _, _, _, _, a6, a7, _⟩ | ⟨j, _, _, _, _, _, a6, _⟩
    · rw [a6]
      by_cases hip : i = p
      · subst hip
        obtain rfl := getElem?_inj hp a1
        exact hk
      · exact h.internal i x a1 (by rw [← a7 hip]; exact hne)
    · exact absurd a6 hne
  count := by
    intro i x' hi
    rcases St.inv hp hi with ⟨x, a1, _, _, _, _, a6, _⟩ | ⟨j, _, _, _, _, _, _, _, a8⟩
    · rw [a6]; exact h.count i x a1
    · rw [a8]; rfl
  atMostK := by
    intro i x' hi hpos
    rcases St.inv hp hi with ⟨x, a1, _, _, _, _, a6, _⟩ | ⟨j, _, _, _, _, _, _, _, a8⟩
    · rw [a6] at hpos ⊢; exact h.atMostK i x a1 hpos
    · rw [a8] at hpos; simp [st0] at hpos

theorem PInv.init (cfg : StoCfg S R) (k : Kind) (domain : Box α) :
    PInv cfg (Part.init k domain (st0 cfg)) where
  wf := init_WF' k domain (st0 cfg)
  internal := fun _ _ hi hne => absurd ((Part.getElem?_init.1 hi).2 ▸ rfl) hne
  count := fun _ _ hi => by rw [(Part.getElem?_init.1 hi).2]; rfl
  atMostK := fun _ _ hi hpos => by
    rw [(Part.getElem?_init.1 hi).2] at hpos; exact absurd hpos (Nat.lt_irrefl 0)

/-- What a successful `loopT` started at layer `h` with threshold `bmax` guarantees. -/
structure LoopPost (cfg : StoCfg S R) (h : Nat) (bmax : S) (P : Part α (TBSt R S))
    (ds : List (Draw α)) (P' : Part α (TBSt R S)) (ds' : List (Draw α)) (h' j v : Nat)
    (tr : List (Ev α (TBSt R S) S)) : Prop where
  ext : Ext (Refr cfg) (st0 cfg) P P'
  pinv : PInv cfg P'
  len : tr.length ≤ ds.length
  drop : ds' = ds.drop tr.length
  evs : ∀ ev ∈ tr, EvOK cfg ev ∧ h ≤ ev.h ∧ bmax ≤ ev.score ∧
    Ext (Refr cfg) (st0 cfg) P ev.before
  mono : TraceMono tr
  hge : h ≤ h'
  handed : Handed cfg P' h' j v

theorem ext_of_refresh {cfg : StoCfg S R} {P P1 : Part α (TBSt R S)}
    (hr : PRel (RefrN cfg) P P1) : Ext (Refr cfg) (st0 cfg) P P1 :=
  Ext.of_prel hr (fun _ _ _ h => h.refr)

theorem LoopPost.weaken {cfg : StoCfg S R} {h : Nat} {bmax b : S} {P P1 P' : Part α (TBSt R S)}
    {ds ds' : List (Draw α)} {h' j v : Nat} {tr : List (Ev α (TBSt R S) S)}
    (hE : Ext (Refr cfg) (st0 cfg) P P1) (hb : bmax ≤ b)
    (hp : LoopPost cfg (h + 1) b P1 ds P' ds' h' j v tr) :
    LoopPost cfg h bmax P ds P' ds' h' j v tr :=
  ⟨ext_trans hE hp.ext, hp.pinv, hp.len, hp.drop,
    fun ev hev => by
      obtain ⟨a, b1, c, d⟩ := hp.evs ev hev
      exact ⟨a, Nat.le_of_succ_le b1, le_trans hb c, ext_trans hE d⟩,
    hp.mono, Nat.le_of_succ_le hp.hge, hp.handed⟩

theorem loopT_spec (cfg : StoCfg S R) (time : Nat) (fuel h : Nat) (bmax : S)
    (P : Part α (TBSt R S)) (ds : List (Draw α)) {P' : Part α (TBSt R S)} {ds' : List (Draw α)}
    {bm : S} {h' j v : Nat} {tr : List (Ev α (TBSt R S) S)} (hI : PInv cfg P)
    (hds : ∀ d ∈ ds, DrawOKLen P.kind (dimn P) d)
    (hrun : loopT cfg time fuel h bmax P ds = .ok (P', ds', bm, h', j, v, tr)) :
    LoopPost cfg h bmax P ds P' ds' h' j v tr := by
  fun_induction loopT cfg time fuel h bmax P ds generalizing P' ds' bm h' j v tr
  case case1 | case2 | case4 | case6 | case7 | case10 | case11 => cases hrun
  case case3 fuel h bmax P ds hh ht l hl P1 hsc ih =>
    have hp := scan_spec0 cfg hsc
    exact (ih (hI.refresh hp.prel) (hp.prel.draws hds) hrun).weaken
      (ext_of_refresh hp.prel) (le_refl _)
  case case9 fuel h bmax P ds hh ht l hl P1 j0 id b hsc hc ih =>
    have hp := scan_spec0 cfg hsc
    exact (ih (hI.refresh hp.prel) (hp.prel.draws hds) hrun).weaken
      (ext_of_refresh hp.prel) (le_refl _)
  case case5 fuel h bmax P ds hh ht l hl P1 j0 id b hsc hc nd hm hcl =>
    cases hrun
    have hp := scan_spec0 cfg hsc
    have hI1 : PInv cfg P1 := hI.refresh hp.prel
    have hl1 : P1.layers[h]? = some l := by rw [hp.prel.layers]; exact hl
    rcases hp.best with ⟨e, _⟩ | ⟨k, m, x, e, hk, hmax⟩
    · cases e
    cases e
    obtain ⟨nd', hm', hleaf, hx, hdep⟩ := hmax.node_of_layer hI1.wf hl1
    obtain rfl := getElem?_inj hm hm'
    exact ⟨ext_of_refresh hp.prel, hI1, Nat.zero_le _, rfl, by simp, List.Pairwise.nil,
      Nat.le_refl _, ⟨(Nat.le_min.1 hh).2, l, hl1, hk, hp.fixed, nd, hm, hleaf, hdep, hcl,
        by rw [hx]; exact hmax⟩⟩
  case case8 fuel h bmax P ds hh ht l hl P1 j0 id b hsc hc nd hm hcl P2 ds2 hmk P3 ds3 bm3 h3 j3
      v3 tr3 hrec ih =>
    cases hrun
    have hp := scan_spec0 cfg hsc
    have hE1 := ext_of_refresh hp.prel
    have hI1 : PInv cfg P1 := hI.refresh hp.prel
    have hl1 : P1.layers[h]? = some l := by rw [hp.prel.layers]; exact hl
    rcases hp.best with ⟨e, _⟩ | ⟨k, m, x, e, hk, hmax⟩
    · cases e
    cases e
    obtain ⟨nd', hm', hleaf, hx, hdep⟩ := hmax.node_of_layer hI1.wf hl1
    obtain rfl := getElem?_inj hm hm'
    have hcl' : cfg.countLT nd.st.count = false := by simpa using hcl
    have hhd : h ≤ P1.depth := by
      have := lt_length_of_getElem? hl1
      rw [hI1.wf.layers_len] at this; omega
    obtain ⟨⟨d, rfl⟩, St, W2, hK, hE2, hds2⟩ := expand_ok (Refr.refl cfg) hI1.wf hm hleaf
      (by rw [hdep]) (hp.prel.draws hds) hmk
    have hq := ih (hI1.step St hm hleaf hcl' hK) hds2 hrec
    have hE12 := ext_trans hE1 hE2
    refine ⟨ext_trans hE12 hq.ext, hq.pinv, Nat.succ_le_succ hq.len, hq.drop, ?_, ?_,
      Nat.le_of_succ_le hq.hge, hq.handed⟩
    · intro ev hev
      rcases List.mem_cons.1 hev with rfl | hev
      · exact ⟨⟨hI1, Nat.le_min.2 ⟨hhd, (Nat.le_min.1 hh).2⟩, ⟨l, hl1, hp.fixed, hmax⟩,
          ⟨nd, hm, hleaf, hcl', hx, hdep⟩⟩, Nat.le_refl _, hc, hE1⟩
      · obtain ⟨a, b, c, e⟩ := hq.evs ev hev
        exact ⟨a, Nat.le_of_succ_le b, le_trans hc c, ext_trans hE12 e⟩
    · refine List.Pairwise.cons ?_ hq.mono
      intro ev hev
      obtain ⟨_, b, c, _⟩ := hq.evs ev hev
      exact ⟨b, c⟩

theorem pullT_spec (cfg : StoCfg S R) {s s' : StoSOO α R S} {time : Nat}
    {ds ds' : List (Draw α)} {v : Nat} {tr : List (Ev α (TBSt R S) S)}
    (hI : Inv cfg s) (hds : ∀ d ∈ ds, DrawOKLen s.P.kind (dimn s.P) d)
    (hrun : pullT cfg s time ds = .ok (s', ds', v, tr)) :
    (∃ h j, s'.sel = some (h, j) ∧ LoopPost cfg 0 cfg.negInf s.P ds s'.P ds' h j v tr) ∧
      Ready cfg s' v ∧ s'.iteration = time := by
  unfold pullT at hrun
  cases hl : loopT cfg time (s.P.depth + 4) 0 cfg.negInf s.P ds with
  | error e => rw [hl] at hrun; cases hrun
  | ok res =>
    obtain ⟨P1, ds1, bm, h, j, id, tr1⟩ := res
    rw [hl] at hrun
    cases hrun
    have hp := loopT_spec cfg time _ 0 cfg.negInf s.P ds hI hds hl
    exact ⟨⟨h, j, rfl, hp⟩, ⟨hp.pinv, h, j, rfl, hp.handed⟩, rfl⟩

/-- the payload update of `receive_reward` -/
def recvSt (cfg : StoCfg S R) (r : R) (st : TBSt R S) : TBSt R S :=
  { st with count := st.count + 1, rewards := st.rewards ++ [r],
            mean := cfg.meanOf (st.rewards ++ [r]) (st.count + 1) }

theorem PInv.recv {cfg : StoCfg S R} {P : Part α (TBSt R S)} (h : PInv cfg P) {v : Nat}
    {nd : Node α (TBSt R S)} (hv : P.nodes[v]? = some nd) (hleaf : nd.children = none)
    (hk : cfg.countLT nd.st.count = true) (r : R) :
    PInv cfg (P.modifySt v (recvSt cfg r)) := by
  have hr := (PRel_modifySt P v (recvSt cfg r)).with_src
  refine ⟨hr.wf h.wf, ?_, ?_, ?_⟩
  · intro i x' hi hne
    obtain ⟨x, a1, a2, a3, _⟩ := hr.bwd hi
    by_cases hiv : i = v
    · subst hiv
      obtain rfl := getElem?_inj hv a1
      exact absurd (a2.children.trans hleaf) hne
    · simp only [hiv, if_false] at a3
      rw [a3]
      exact h.internal i x a1 (by rw [← a2.children]; exact hne)
  · intro i x' hi
    obtain ⟨x, a1, _, a3, _⟩ := hr.bwd hi
    have := h.count i x a1
    by_cases hiv : i = v
    · simp only [hiv, if_true] at a3
      rw [a3]; simp [recvSt, this]
    · simp only [hiv, if_false] at a3
      rw [a3]; exact this
  · intro i x' hi hpos
    obtain ⟨x, a1, _, a3, _⟩ := hr.bwd hi
    by_cases hiv : i = v
    · subst hiv
      obtain rfl := getElem?_inj hv a1
      simp only [if_true] at a3
      rw [a3]
      simpa [recvSt] using hk
    · simp only [hiv, if_false] at a3
      rw [a3] at hpos ⊢
      exact h.atMostK i x a1 hpos

/-- `receive` after `pull` returns and re-establishes the invariant; it changes only the
payload of the handed-out cell: one more reward, `visited_times + 1`, the new mean. -/
theorem receive_total (cfg : StoCfg S R) {s : StoSOO α R S} {v : Nat} (r : R)
    (hR : Ready cfg s v) :
    ∃ s', receive cfg s r = .ok s' ∧ Inv cfg s' ∧
      s'.P = s.P.modifySt v (fun st =>
        { st with count := st.count + 1, rewards := st.rewards ++ [r],
                  mean := cfg.meanOf (st.rewards ++ [r]) (st.count + 1) }) ∧
      s'.iteration = s.iteration ∧ s'.bmax = s.bmax ∧ s'.sel = s.sel := by
  obtain ⟨hI, h, j, hsel, _, l, hl, hj, _, nd, hv, hleaf, _, hk, _⟩ := hR
  refine ⟨{ s with P := s.P.modifySt v (recvSt cfg r) }, ?_, hI.recv hv hleaf hk r, rfl, rfl,
    rfl, rfl⟩
  unfold receive
  simp only [hsel, hl, hj]
  rfl

end StoSOO
end PyXAB
