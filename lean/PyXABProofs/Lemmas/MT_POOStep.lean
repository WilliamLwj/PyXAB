/-
  POO: `pull` and `receive` as one equation per branch of the code, the preservation of the
  invariants `POO.InvAM` / `POO.ReadyAM` of `Spec/MetaSpec.lean`, and the effect predicates.
  The POO lemmas stand in `PyXAB.MT` itself; those of GPO, under the same short names, in
  `PyXAB.MT.GPO`.  No Mathlib.
-/
import PyXABProofs.Spec.MetaSpec
import PyXABProofs.Lemmas.MT_Run

namespace PyXAB.MT
open PyXAB POO
variable {L α R S Pt ρ : Type} {ops : LearnerOps L α R Pt ρ} {cfg : POOCfg R S ρ} {s s1 s2 : POO L S}
  {a m time i : Nat} {ds ds1 ds2 : List (Draw α)} {pt : Pt} {r : R}

theorem pull_create (hc : cfg.cond s.N s.n = true) (h0 : s.counter = 0) :
    pull ops cfg s time ds = do
      let (l, ds1) ← ops.create (cfg.rhoOf s.N s.phase) ds
      let (l', pt) ← ops.pull l time
      return ({ s with learners := s.learners ++ [l'], V := s.V ++ [cfg.zero], times := s.times ++ [0] },
        ds1, s.learners.length, pt) := by
  unfold pull
  rw [if_pos hc, if_pos h0]
  simp only [bind_assoc, pure_bind, List.getLast?_concat, List.length_append, List.length_singleton,
    Nat.add_sub_cancel, List.set_append_right _ _ (Nat.le_refl _), Nat.sub_self, List.set_cons_zero]

theorem pull_fill (hc : cfg.cond s.N s.n = true) (h0 : s.counter ≠ 0) :
    pull ops cfg s time ds = do
      let l ← orErr s.learners.getLast? .indexError
      let (l', pt) ← ops.pull l time
      return ({ s with learners := s.learners.set (s.learners.length - 1) l' }, ds, s.learners.length - 1, pt) := by
  unfold pull
  simp only [if_pos hc, if_neg h0, pure_bind]
  cases s.learners.getLast? <;> rfl

theorem pull_rr (hc : cfg.cond s.N s.n = false) :
    pull ops cfg s time ds = do
      let ac ← orErr s.algoCounter .noneDeref
      let l ← orErr s.learners[ac]? .indexError
      let (l', pt) ← ops.pull l time
      return ({ s with learners := s.learners.set ac l' }, ds, ac, pt) := by
  unfold pull
  rw [hc, if_neg Bool.false_ne_true]
  cases s.algoCounter with
  | none => rfl
  | some ac => dsimp only [orErr, bind, Except.bind]; cases s.learners[ac]? <;> rfl

/-- The end of `receive` in creation mode: a learner is complete after `ceil(n/N)` rewards, the
block after `N` learners (then `N` and `n` double and a round-robin pass may begin). -/
def roll (s1 : POO L S) : POO L S :=
  let s2 := if s1.counter ≥ ceilDiv s1.n s1.N then { s1 with counter := 0, phase := s1.phase + 1 } else s1
  if s2.phase ≥ s2.N then
    { s2 with n := 2 * s2.n, N := 2 * s2.N, phase := 0, counter := 0, algoCounter := some 0 } else s2

/-- the state after `receive` in creation mode (`l'` = the learner after its `receive`) -/
def recvCreate (cfg : POOCfg R S ρ) (s : POO L S) (l' : L) (v : S) (t : Nat) (r : R) : POO L S :=
  roll { s with learners := s.learners.set (s.learners.length - 1) l',
                V := s.V.set (s.V.length - 1) (cfg.upd v s.counter r),
                times := s.times.set (s.times.length - 1) (t + 1), counter := s.counter + 1 }

/-- The end of `receive` in round-robin mode: on to the next learner, or a new pass with `n + N`. -/
def advance (ac : Nat) (s1 : POO L S) : POO L S :=
  if ac + 1 = s1.learners.length then { s1 with algoCounter := some 0, n := s1.n + s1.N }
  else { s1 with algoCounter := some (ac + 1) }

/-- the state after `receive` in round-robin mode, learner `ac` being served (`l'` = that learner
after its `receive`); its score is updated with the count `ceil(n/N)` -/
def recvRR (cfg : POOCfg R S ρ) (s : POO L S) (ac : Nat) (l' : L) (v : S) (t : Nat) (r : R) : POO L S :=
  advance ac { s with learners := s.learners.set ac l', V := s.V.set ac (cfg.upd v (ceilDiv s.n s.N) r),
                      times := s.times.set ac (t + 1) }

theorem receive_create (hc : cfg.cond s.N s.n = true) :
    receive ops cfg s time r ds = do
      let l ← orErr s.learners.getLast? .indexError
      let v ← orErr s.V.getLast? .indexError
      let t ← orErr s.times.getLast? .indexError
      let (l', ds') ← ops.receive l time r ds
      return (recvCreate cfg s l' v t r, ds') := by
  unfold receive
  rw [if_pos hc]
  cases s.learners.getLast? <;> cases s.V.getLast? <;> cases s.times.getLast? <;> rfl

theorem receive_rr (hc : cfg.cond s.N s.n = false) :
    receive ops cfg s time r ds = do
      let ac ← orErr s.algoCounter .noneDeref
      let l ← orErr s.learners[ac]? .indexError
      let v ← orErr s.V[ac]? .indexError
      let t ← orErr s.times[ac]? .indexError
      let (l', ds') ← ops.receive l time r ds
      return (recvRR cfg s ac l' v t r, ds') := by
  unfold receive
  rw [hc, if_neg Bool.false_ne_true]
  cases s.algoCounter with
  | none => rfl
  | some ac =>
    dsimp only [orErr, bind, Except.bind]
    cases s.learners[ac]? <;> cases s.V[ac]? <;> cases s.times[ac]? <;> rfl

/-- A successful `receive` looked up the learner, its score and its count, handed the reward to the
learner, and left `recvCreate` resp. `recvRR`. -/
theorem receive_ok (h : receive ops cfg s time r ds = .ok (s2, ds2)) :
    (cfg.cond s.N s.n = true ∧ ∃ l v t l', s.learners.getLast? = some l ∧ s.V.getLast? = some v ∧
      s.times.getLast? = some t ∧ ops.receive l time r ds = .ok (l', ds2) ∧ s2 = recvCreate cfg s l' v t r) ∨
    (cfg.cond s.N s.n = false ∧ ∃ ac l v t l', s.algoCounter = some ac ∧ s.learners[ac]? = some l ∧
      s.V[ac]? = some v ∧ s.times[ac]? = some t ∧ ops.receive l time r ds = .ok (l', ds2) ∧
      s2 = recvRR cfg s ac l' v t r) := by
  cases hc : cfg.cond s.N s.n with
  | true =>
    simp only [receive_create hc, ListAux.bind_eq_ok, orErr_eq_ok_iff] at h
    obtain ⟨l, hl, v, hv, t, ht, ⟨l', ds'⟩, hp, h⟩ := h
    cases h
    exact .inl ⟨rfl, l, v, t, l', hl, hv, ht, hp, rfl⟩
  | false =>
    simp only [receive_rr hc, ListAux.bind_eq_ok, orErr_eq_ok_iff] at h
    obtain ⟨ac, hac, l, hl, v, hv, t, ht, ⟨l', ds'⟩, hp, h⟩ := h
    cases h
    exact .inr ⟨rfl, ac, l, v, t, l', hac, hl, hv, ht, hp, rfl⟩

theorem ceilDiv_mul (m N : Nat) (hN : 0 < N) : POO.ceilDiv (m * N) N = m := by
  unfold POO.ceilDiv
  rw [show m * N + N - 1 = N * m + (N - 1) by rw [Nat.mul_comm]; omega, Nat.mul_add_div hN,
    Nat.div_eq_of_lt (by omega)]
  rfl

theorem invAM_init (cfg : POOCfg R S ρ) (hc : cfg.cond 2 2 = true) :
    InvAM cfg (POO.init : POO L S) 1 1 where
  ha := Nat.le_refl _
  hm := Nat.le_refl _
  hN := rfl
  hn := rfl
  hV := rfl
  hT := rfl
  create _ := ⟨(by decide : 1 < 2), (by decide : 0 < 1), nofun, nofun⟩
  rr h := absurd (hc.symm.trans h) (by decide)

/-- a `pull` which constructs no learner replaces one learner state -/
theorem ready_set (hI : InvAM cfg s a m) (h0 : cfg.cond s.N s.n = true → s.counter ≠ 0) (j : Nat) (l' : L) :
    ReadyAM cfg { s with learners := s.learners.set j l' } a m where
  toBase := { hI.toBase with hV := hI.hV.trans List.length_set.symm, hT := hI.hT.trans List.length_set.symm }
  create hc := by
    obtain ⟨hph, hcm, hne, htm⟩ := hI.create hc
    have hpos : 0 < s.counter := Nat.pos_of_ne_zero (h0 hc)
    refine ⟨hph, hcm, fun h => hne hpos ((List.set_eq_nil_iff _ _).mp h), fun i t hi => ?_⟩
    rw [htm i t hi, List.length_set]
    simp only [hpos, and_true]
  rr hc := by
    obtain ⟨hph, hcm, ac, hac, hlt, htm⟩ := hI.rr hc
    exact ⟨hph, hcm, ac, hac, by rwa [List.length_set], htm⟩

/-- a `pull` which constructs a learner appends it with count `0` -/
theorem ready_grow (hI : InvAM cfg s a m) (hc : cfg.cond s.N s.n = true) (h0 : s.counter = 0) (l' : L) :
    ReadyAM cfg { s with learners := s.learners ++ [l'], V := s.V ++ [cfg.zero], times := s.times ++ [0] }
      a m where
  toBase := { hI.toBase with
    hV := by rw [List.length_append, List.length_append, hI.hV]; rfl
    hT := by rw [List.length_append, List.length_append, hI.hT]; rfl }
  create _ := by
    obtain ⟨hph, hcm, -, htm⟩ := hI.create hc
    refine ⟨hph, hcm, List.append_ne_nil_of_right_ne_nil _ (List.cons_ne_nil _ _), fun i t hi => ?_⟩
    have hT := hI.hT
    rw [List.length_append, List.length_singleton]
    rw [List.getElem?_append] at hi
    split at hi
    · rw [htm i t hi, if_neg (by omega), if_neg (by omega)]
    · rw [List.getElem?_singleton] at hi
      split at hi
      · cases hi; rw [if_pos (by omega), h0]
      · cases hi
  rr h := absurd (hc.symm.trans h) (by decide)

theorem pull_ready (hI : InvAM cfg s a m) (h : pull ops cfg s time ds = .ok (s1, ds1, i, pt)) :
    ReadyAM cfg s1 a m ∧ recvIdx cfg s1 = i ∧ PullEffect ops cfg s time ds s1 ds1 i pt := by
  cases hc : cfg.cond s.N s.n with
  | true =>
    by_cases h0 : s.counter = 0
    · simp only [pull_create hc h0, ListAux.bind_eq_ok] at h
      obtain ⟨⟨lnew, ds'⟩, hcr, ⟨l', pt'⟩, hp, h⟩ := h
      cases h
      refine ⟨ready_grow hI hc h0 l', ?_, rfl, rfl, rfl, rfl, rfl, s.learners ++ [lnew], lnew, l',
        Or.inr ⟨?_, lnew, hcr, rfl, rfl, rfl⟩, List.getElem?_concat_length, hp, ?_⟩
      · simp only [recvIdx, hc, if_true, List.length_append, List.length_singleton, Nat.add_sub_cancel]
      · simp only [creates, hc, h0, and_self, if_true]
      · simp only [List.set_append_right _ _ (Nat.le_refl _), Nat.sub_self, List.set_cons_zero]
    · simp only [pull_fill hc h0, ListAux.bind_eq_ok, orErr_eq_ok_iff, List.getLast?_eq_getElem?] at h
      obtain ⟨l, hl, ⟨l', pt'⟩, hp, h⟩ := h
      cases h
      refine ⟨ready_set hI (fun _ => h0) _ l', ?_, rfl, rfl, rfl, rfl, rfl, s.learners, l, l',
        Or.inl ⟨?_, rfl, rfl, rfl, rfl⟩, hl, hp, rfl⟩
      · simp only [recvIdx, hc, if_true, List.length_set]
      · simp only [creates, h0, and_false, if_false]
  | false =>
    simp only [pull_rr hc, ListAux.bind_eq_ok, orErr_eq_ok_iff] at h
    obtain ⟨ac, hac, l, hl, ⟨l', pt'⟩, hp, h⟩ := h
    cases h
    refine ⟨ready_set hI (fun h => absurd (hc.symm.trans h) (by decide)) _ l', ?_, rfl, rfl, rfl, rfl, rfl,
      s.learners, l, l', Or.inl ⟨?_, rfl, rfl, rfl, rfl⟩, hl, hp, rfl⟩
    · simp only [recvIdx, hc, Bool.false_eq_true, if_false, hac, Option.getD_some]
    · simp only [creates, hc, Bool.false_eq_true, false_and, if_false]

theorem pull_total (hI : InvAM cfg s a m) (hops : OpsTotal ops) (time : Nat) (ds : List (Draw α)) :
    ∃ s1 ds1 i pt, pull ops cfg s time ds = .ok (s1, ds1, i, pt) := by
  obtain ⟨hcr, hpl, -⟩ := hops
  cases hc : cfg.cond s.N s.n with
  | true =>
    by_cases h0 : s.counter = 0
    · obtain ⟨⟨lnew, ds1⟩, e1⟩ := hcr (cfg.rhoOf s.N s.phase) ds
      obtain ⟨⟨l', pt⟩, e2⟩ := hpl lnew time
      simp only [pull_create hc h0, e1, e2, ok_bind]
      exact ⟨_, _, _, _, rfl⟩
    · have hne := (hI.create hc).2.2.1 (Nat.pos_of_ne_zero h0)
      obtain ⟨⟨l', pt⟩, e2⟩ := hpl (s.learners.getLast hne) time
      simp only [pull_fill hc h0, List.getLast?_eq_some_getLast hne, e2, orErr_some, ok_bind]
      exact ⟨_, _, _, _, rfl⟩
  | false =>
    obtain ⟨-, -, ac, hac, hlt, -⟩ := hI.rr hc
    obtain ⟨⟨l', pt⟩, e2⟩ := hpl s.learners[ac] time
    simp only [pull_rr hc, hac, List.getElem?_eq_getElem hlt, e2, orErr_some, ok_bind]
    exact ⟨_, _, _, _, rfl⟩

theorem recvCreate_lists (cfg : POOCfg R S ρ) (s : POO L S) (l' : L) (v : S) (t : Nat) (r : R) :
    (recvCreate cfg s l' v t r).learners = s.learners.set (s.learners.length - 1) l' ∧
    (recvCreate cfg s l' v t r).V = s.V.set (s.V.length - 1) (cfg.upd v s.counter r) ∧
    (recvCreate cfg s l' v t r).times = s.times.set (s.times.length - 1) (t + 1) := by
  unfold recvCreate roll
  dsimp only
  split <;> split <;> exact ⟨rfl, rfl, rfl⟩

theorem recvRR_lists (cfg : POOCfg R S ρ) (s : POO L S) (ac : Nat) (l' : L) (v : S) (t : Nat) (r : R) :
    (recvRR cfg s ac l' v t r).learners = s.learners.set ac l' ∧
    (recvRR cfg s ac l' v t r).V = s.V.set ac (cfg.upd v (ceilDiv s.n s.N) r) ∧
    (recvRR cfg s ac l' v t r).times = s.times.set ac (t + 1) := by
  unfold recvRR advance
  split <;> exact ⟨rfl, rfl, rfl⟩

/-- `roll` from a state whose last learner has just received its `counter`-th reward -/
theorem roll_inv (hB : Base s1 a m) (hc : cfg.cond s1.N s1.n = true) (hph : s1.phase < s1.N)
    (h0 : 0 < s1.counter) (hcm : s1.counter ≤ m) (hne : s1.learners ≠ [])
    (htm : ∀ (i : Nat) t, s1.times[i]? = some t → t = if i + 1 = s1.learners.length then s1.counter else m) :
    ∃ a' m', InvAM cfg (roll s1) a' m' := by
  have hN0 : 0 < s1.N := by rw [hB.hN]; exact Nat.pow_pos (by decide)
  have hcd : ceilDiv s1.n s1.N = m := by rw [hB.hn]; exact ceilDiv_mul m s1.N hN0
  have hrr {s2 : POO L S} (h : cfg.cond s1.N s1.n = false) : RRMode s2 m := absurd (hc.symm.trans h) (by decide)
  unfold roll
  rw [hcd]
  by_cases h1 : s1.counter ≥ m
  · -- the learner is complete: every count is `m`
    have htm' : ∀ (i : Nat) t, s1.times[i]? = some t → t = m := by
      intro i t hi; rw [htm i t hi]; split <;> omega
    rw [if_pos h1]
    dsimp only
    by_cases h2 : s1.phase + 1 ≥ s1.N
    · rw [if_pos h2]
      refine ⟨a + 1, m, {
        ha := Nat.le_add_left _ _, hm := hB.hm, hV := hB.hV, hT := hB.hT, hN := ?_, hn := ?_
        create := fun _ => ⟨Nat.mul_pos (by decide) hN0, Nat.lt_of_lt_of_le h0 hcm, nofun, fun i t hi => ?_⟩
        rr := fun _ => ⟨rfl, rfl, 0, rfl, List.length_pos_iff.mpr hne, fun i t hi => ?_⟩ }⟩
      · show 2 * s1.N = 2 ^ (a + 1); rw [hB.hN, Nat.pow_succ, Nat.mul_comm]
      · show 2 * s1.n = m * (2 * s1.N); rw [hB.hn, Nat.mul_left_comm]
      · rw [htm' i t hi, if_neg (fun h => Nat.lt_irrefl 0 h.2)]
      · rw [htm' i t hi, if_neg (Nat.not_lt_zero i)]
    · rw [if_neg h2]
      refine ⟨a, m, { toBase := { hB with }, rr := hrr, create := fun _ =>
        ⟨Nat.lt_of_not_le h2, Nat.lt_of_lt_of_le h0 hcm, nofun, fun i t hi => ?_⟩ }⟩
      rw [htm' i t hi, if_neg (fun h => Nat.lt_irrefl 0 h.2)]
  · rw [if_neg h1, if_neg (Nat.not_le_of_lt hph)]
    refine ⟨a, m, { toBase := hB, rr := hrr, create := fun _ =>
      ⟨hph, Nat.lt_of_not_le h1, fun _ => hne, fun i t hi => ?_⟩ }⟩
    rw [htm i t hi]
    simp only [h0, and_true]

/-- `advance` from a state whose learner `ac` has just received its `(m+1)`-st reward -/
theorem advance_inv {ac : Nat} (hB : Base s1 a m) (hc : cfg.cond s1.N s1.n = false)
    (hph : s1.phase = 0) (h0 : s1.counter = 0) (hlt : ac < s1.learners.length)
    (htm : ∀ (i : Nat) t, s1.times[i]? = some t → t = if i < ac + 1 then m + 1 else m) :
    ∃ a' m', InvAM cfg (advance ac s1) a' m' := by
  have hpos : ¬ 0 < s1.counter := by rw [h0]; exact Nat.lt_irrefl 0
  unfold advance
  by_cases h1 : ac + 1 = s1.learners.length
  · -- the pass is over: every count is `m + 1`
    have htm' : ∀ (i : Nat) t, s1.times[i]? = some t → t = m + 1 := by
      intro i t hi
      have := (List.getElem?_eq_some_iff.mp hi).1
      rw [htm i t hi, if_pos (by rw [h1, ← hB.hT]; exact this)]
    rw [if_pos h1]
    refine ⟨a, m + 1, {
      ha := hB.ha, hm := Nat.le_add_left _ _, hN := hB.hN, hV := hB.hV, hT := hB.hT, hn := ?_
      create := fun _ => ⟨?_, ?_, fun h => absurd h hpos, fun i t hi => ?_⟩
      rr := fun _ => ⟨hph, h0, 0, rfl, Nat.lt_of_le_of_lt (Nat.zero_le _) hlt, fun i t hi => ?_⟩ }⟩
    · show s1.n + s1.N = (m + 1) * s1.N; rw [hB.hn, Nat.succ_mul]
    · show s1.phase < s1.N; rw [hph, hB.hN]; exact Nat.pow_pos (by decide)
    · show s1.counter < m + 1; rw [h0]; exact Nat.succ_pos m
    · rw [htm' i t hi, if_neg (fun h => hpos h.2)]
    · rw [htm' i t hi, if_neg (Nat.not_lt_zero i)]
  · rw [if_neg h1]
    exact ⟨a, m, {
      toBase := { hB with }
      create := fun h => absurd (h.symm.trans hc) (by decide)
      rr := fun _ => ⟨hph, h0, ac + 1, rfl, Nat.lt_of_le_of_ne hlt h1, htm⟩ }⟩

theorem receive_inv (hR : ReadyAM cfg s a m) (h : receive ops cfg s time r ds = .ok (s2, ds2)) :
    (∃ a' m', InvAM cfg s2 a' m') ∧ RecvEffect ops cfg s time r ds s2 ds2 (recvIdx cfg s) := by
  have hV := hR.hV
  have hT := hR.hT
  have hlenV : ∀ (j : Nat) (x : S) (l' : L), (s.V.set j x).length = (s.learners.set j l').length := fun _ _ _ => by
    rw [List.length_set, List.length_set, hV]
  have hlenT : ∀ (j t : Nat) (l' : L), (s.times.set j t).length = (s.learners.set j l').length := fun _ _ _ => by
    rw [List.length_set, List.length_set, hT]
  rcases receive_ok h with ⟨hc, l, v, t, l', hl, hv, ht, hp, rfl⟩ | ⟨hc, ac, l, v, t, l', hac, hl, hv, ht, hp, rfl⟩
  · obtain ⟨hph, hcm, hne, htm⟩ := hR.create hc
    have hlen : s.learners.length - 1 + 1 = s.learners.length := Nat.sub_add_cancel (List.length_pos_iff.mpr hne)
    rw [List.getLast?_eq_getElem?] at hl hv ht
    rw [hV] at hv
    rw [hT] at ht
    -- the recorded count of the last learner is `counter`
    cases (htm _ t ht).trans (if_pos hlen)
    obtain ⟨e1, e2, e3⟩ := recvCreate_lists cfg s l' v s.counter r
    rw [hV] at e2
    rw [hT] at e3
    rw [recvIdx, if_pos hc]
    refine ⟨roll_inv (a := a) (m := m) { hR.toBase with hV := hV ▸ hlenV _ _ _, hT := hT ▸ hlenT _ _ _ } hc hph
      (Nat.succ_pos _) hcm (fun h => hne ((List.set_eq_nil_iff _ _).mp h)) (fun i t' hi => ?_),
      l, l', v, s.counter, hl, hv, ht, hp, e1, e2, e3⟩
    -- the counts after the update: `counter + 1` for the last learner, `m` for the others
    replace hi : (s.times.set (s.times.length - 1) (s.counter + 1))[i]? = some t' := hi
    show t' = if i + 1 = (s.learners.set _ _).length then s.counter + 1 else m
    rw [hT, getElem?_set_of_some ht] at hi
    rw [List.length_set]
    split at hi
    · cases hi; rw [if_pos (by rw [‹i = _›, hlen])]
    · rw [htm i t' hi, if_neg (by omega), if_neg (by omega)]
  · obtain ⟨hph, h0, ac', hac', hlt, htm⟩ := hR.rr hc
    cases hac.symm.trans hac'
    -- the recorded count of learner `ac` is `m`, which is also `ceil(n/N)`
    cases (htm _ t ht).trans (if_neg (Nat.lt_irrefl _))
    obtain ⟨e1, e2, e3⟩ := recvRR_lists cfg s ac l' v m r
    rw [hR.hn, ceilDiv_mul m s.N (by rw [hR.hN]; exact Nat.pow_pos (by decide))] at e2
    rw [recvIdx, hc, if_neg Bool.false_ne_true, hac]
    refine ⟨advance_inv (a := a) (m := m) { hR.toBase with hV := hlenV _ _ _, hT := hlenT _ _ _ } hc hph h0
      (by show ac < (s.learners.set _ _).length; rwa [List.length_set]) (fun i t' hi => ?_),
      l, l', v, m, hl, hv, ht, hp, e1, e2, e3⟩
    -- the counts after the update: `m + 1` up to `ac`, `m` beyond
    replace hi : (s.times.set ac (m + 1))[i]? = some t' := hi
    rw [getElem?_set_of_some ht] at hi
    split at hi
    · cases hi; rw [if_pos (by omega)]
    · rw [htm i t' hi]; split <;> split <;> omega

theorem receive_total (hR : ReadyAM cfg s a m) (hops : OpsTotal ops) (time : Nat) (r : R) (ds : List (Draw α)) :
    ∃ s2 ds2, receive ops cfg s time r ds = .ok (s2, ds2) := by
  obtain ⟨-, -, hrc⟩ := hops
  cases hc : cfg.cond s.N s.n with
  | true =>
    have hlen : 0 < s.learners.length := List.length_pos_iff.mpr (hR.create hc).2.2.1
    obtain ⟨l, hl⟩ := exists_getLast? hlen
    obtain ⟨v, hv⟩ := exists_getLast? (hR.hV.symm ▸ hlen)
    obtain ⟨t, ht⟩ := exists_getLast? (hR.hT.symm ▸ hlen)
    obtain ⟨⟨l', ds2⟩, e⟩ := hrc l time r ds
    simp only [receive_create hc, hl, hv, ht, e, orErr_some, ok_bind]
    exact ⟨_, _, rfl⟩
  | false =>
    obtain ⟨-, -, ac, hac, hlt, -⟩ := hR.rr hc
    obtain ⟨⟨l', ds2⟩, e⟩ := hrc s.learners[ac] time r ds
    simp only [receive_rr hc, hac, List.getElem?_eq_getElem hlt, List.getElem?_eq_getElem (hR.hV.symm ▸ hlt),
      List.getElem?_eq_getElem (hR.hT.symm ▸ hlt), e, orErr_some, ok_bind]
    exact ⟨_, _, rfl⟩

theorem roll_nextKey (hph : s1.phase < s1.N) (h0 : s1.counter ≠ 0) :
    nextKey (roll s1) ≥ s1.N + s1.phase + 1 := by
  unfold roll
  by_cases h1 : s1.counter ≥ ceilDiv s1.n s1.N
  · rw [if_pos h1]
    by_cases h2 : s1.phase + 1 ≥ s1.N
    · rw [if_pos h2]; show s1.N + s1.phase + 1 ≤ 2 * s1.N + 0 + 0; omega
    · rw [if_neg h2]; exact Nat.le_refl _
  · rw [if_neg h1, if_neg (Nat.not_le_of_lt hph), nextKey, if_neg h0]
    exact Nat.le_refl _

end PyXAB.MT
