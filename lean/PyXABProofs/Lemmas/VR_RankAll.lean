/-
  The whole ranking stage of one `pull` (`rankAll`): result, index list and weight list.
-/
import PyXABProofs.Lemmas.VR_Rank

set_option linter.unusedSectionVars false

namespace PyXAB
namespace VR
open _root_.PyXAB.Tree TBA VROOM

theorem layerAt_spec {α σ : Type} {P : Part α σ} {h : Nat} (hh : h < P.layers.length) :
    P.layers[h]? = some (layerAt P h) := by
  simp only [layerAt, List.getElem?_eq_getElem hh, Option.getD_some]

variable {α R S : Type} [LinearOrder S]

/-- the body of the loop of `rankAll` -/
def rankStep (cfg : VrCfg R S) (acc : Part α (VrSt R S) × List (Nat × Nat) × List S) (h : Nat) :
    Except Err (Part α (VrSt R S) × List (Nat × Nat) × List S) :=
  let (P, index, prob) := acc
  match P.layers[h]? with
  | none => .error .indexError
  | some layer =>
    let P' := rankLayer cfg P layer
    let entries := layer.zipIdx.map (fun (id, l) =>
      ((h, l), cfg.probOf h ((P'.stOf id).ranks.getLast?.getD 0)))
    .ok (P', index ++ entries.map (·.1), prob ++ entries.map (·.2))

theorem rankStep_ok (cfg : VrCfg R S) (P : Part α (VrSt R S)) (idx : List (Nat × Nat))
    (pr : List S) {h : Nat} {layer : List Nat} (hl : P.layers[h]? = some layer) :
    rankStep cfg (P, idx, pr) h = .ok (rankLayer cfg P layer, idx ++ layerIndex h layer.length,
      pr ++ layerProbs cfg (rankLayer cfg P layer) h layer) := by
  simp only [rankStep, hl, List.map_map]
  congr 3
  · rw [layerIndex, List.range_eq_range', ← List.zipIdx_map_snd 0 layer, List.map_map]; rfl
  · show pr ++ List.map ((fun id => cfg.probOf h (lastRank (rankLayer cfg P layer) id)) ∘ Prod.fst)
      layer.zipIdx = _
    rw [← List.map_map, List.zipIdx_map_fst]; rfl

/-- The payload of a node after the layers `hs` have been ranked, `srt h` being layer `h` in
the stable descending order: a cell of a ranked layer got its 1-based position in `srt` appended
to its ranks; nothing else changes. -/
def RankedAt (srt : Nat → List Nat) (hs : List Nat) (j : Nat) (nd nd' : Node α (VrSt R S)) :
    Prop :=
  nd'.st.rewards = nd.st.rewards ∧ nd'.st.tilde = nd.st.tilde ∧
  (nd.depth ∉ hs → nd'.st = nd.st) ∧
  (nd.depth ∈ hs → ∀ i, (srt nd.depth)[i]? = some j → nd'.st.ranks = nd.st.ranks ++ [i + 1])

omit [LinearOrder S] in
theorem RankedAt.cons {srt : Nat → List Nat} {h : Nat} {rest : List Nat} {j : Nat}
    {a b c : Node α (VrSt R S)} (s : Skel a b) (h1 : RankedAt srt [h] j a b)
    (h2 : RankedAt srt rest j b c) (hh : h ∉ rest) : RankedAt srt (h :: rest) j a c := by
  obtain ⟨r1, t1, k1, n1⟩ := h1
  obtain ⟨r2, t2, k2, n2⟩ := h2
  rw [s.depth] at k2 n2
  refine ⟨r2.trans r1, t2.trans t1, fun hn => ?_, fun hm i hi => ?_⟩
  · rw [List.mem_cons, not_or] at hn
    rw [k2 hn.2, k1 (fun e => hn.1 (List.mem_singleton.1 e))]
  · by_cases e : a.depth = h
    · rw [k2 (e ▸ hh), n1 (List.mem_singleton.2 e) i hi]
    · have hr : a.depth ∈ rest := (List.mem_cons.1 hm).resolve_left e
      rw [n2 hr i hi, k1 (fun e' => e (List.mem_singleton.1 e'))]

/-- one `self.rank(node_list[h])` -/
theorem rankLayer_at (cfg : VrCfg R S) {P : Part α (VrSt R S)} (W : WF P) {h : Nat}
    (hh : h < P.layers.length) :
    PRel (RankedAt (fun h => sortDesc (key cfg P) (layerAt P h)) [h]) P
      (rankLayer cfg P (layerAt P h)) := by
  have RL := rankLayer_rel cfg P (layerAt P h) (W.layer_nodup (layerAt_spec hh)) (fun id hid => by
    obtain ⟨nd, h1, _⟩ := (W.mem_getD_layer h id).1 hid
    exact lt_length_of_getElem? h1)
  refine ⟨RL.rel.kind, RL.rel.layers, RL.rel.depth, RL.rel.len, fun j nd hj => ?_⟩
  obtain ⟨nd', h0, sk, h1, h2, h3, h4⟩ := RL.rel.node j nd hj
  refine ⟨nd', h0, sk, h1, h2, fun hn => h3 (fun hjl => hn ?_), fun hm i hi => ?_⟩
  · obtain ⟨nd0, n1, n2⟩ := (W.mem_getD_layer h j).1 hjl
    obtain rfl := getElem?_inj hj n1
    exact List.mem_singleton.2 n2
  · rw [List.mem_singleton.1 hm] at hi
    rw [h4 ((sortDesc_perm _ _).mem_iff.1 (List.mem_of_getElem? hi)), RL.rank_eq i j hi]

theorem rankFold_spec (cfg : VrCfg R S) (hs : List Nat) : ∀ (P : Part α (VrSt R S))
    (idx : List (Nat × Nat)) (pr : List S), WF P → hs.Nodup → (∀ h ∈ hs, h < P.layers.length) →
    ∃ P', hs.foldlM (rankStep cfg) (P, idx, pr) =
        .ok (P', idx ++ hs.flatMap (fun h => layerIndex h (layerAt P h).length),
          pr ++ hs.flatMap (fun h => layerProbs cfg P' h (layerAt P h))) ∧
      PRel (RankedAt (fun h => sortDesc (key cfg P) (layerAt P h)) hs) P P' := by
  induction hs with
  | nil =>
    exact fun P idx pr _ _ _ => ⟨P, by
      rw [List.flatMap_nil, List.flatMap_nil, List.append_nil, List.append_nil]; rfl,
      PRel.refl (fun _ _ => ⟨rfl, rfl, fun _ => rfl, fun h => (nomatch h)⟩) P⟩
  | cons h rest ih =>
    intro P idx pr W hnd hlt
    rw [List.nodup_cons] at hnd
    have hh : h < P.layers.length := hlt h (List.mem_cons_self ..)
    have H1 := rankLayer_at cfg W hh
    have hLA : ∀ h', layerAt (rankLayer cfg P (layerAt P h)) h' = layerAt P h' := fun h' =>
      congrArg (fun L : List (List Nat) => (L[h']?).getD []) H1.layers
    obtain ⟨P', m, H2⟩ := ih (rankLayer cfg P (layerAt P h))
      (idx ++ layerIndex h (layerAt P h).length)
      (pr ++ layerProbs cfg (rankLayer cfg P (layerAt P h)) h (layerAt P h)) (H1.wf W) hnd.2
      (fun h' hh' => H1.layers ▸ hlt h' (List.mem_cons_of_mem _ hh'))
    simp only [hLA, key_congr cfg H1 (fun _ _ _ r => r.1)] at m H2
    refine ⟨P', ?_, H1.trans' H2 (fun j a b c s1 _ r1 r2 => RankedAt.cons s1 r1 r2 hnd.1)⟩
    -- the later layers do not touch the ranks of layer `h`
    have hkeep : ∀ id ∈ layerAt P h,
        lastRank (rankLayer cfg P (layerAt P h)) id = lastRank P' id := by
      intro id hid
      obtain ⟨nd, n1, n2⟩ := (W.mem_getD_layer h id).1 hid
      obtain ⟨b, b1, b2, _⟩ := H1.node id nd n1
      obtain ⟨c, c1, _, _, _, c3, _⟩ := H2.node id b b1
      rw [lastRank_eq b1, lastRank_eq c1, c3 (by rw [b2.depth, n2]; exact hnd.1)]
    rw [List.foldlM_cons, rankStep_ok cfg P idx pr (layerAt_spec hh)]
    refine m.trans ?_
    rw [layerProbs, List.map_congr_left (fun id hid => by rw [hkeep id hid]), List.flatMap_cons,
      List.flatMap_cons, List.append_assoc, List.append_assoc]
    rfl

theorem Ranked.toPRel {cfg : VrCfg R S} {hs : List Nat} {P P' : Part α (VrSt R S)}
    (h : Ranked cfg hs P P') :
    PRel (fun _ nd nd' => nd'.st.rewards = nd.st.rewards ∧ nd'.st.tilde = nd.st.tilde) P P' where
  kind := h.kind
  layers := h.layers
  depth := h.depth
  len := h.len
  node := fun i nd hi => by
    obtain ⟨nd', h0, h1, h2, h3, h4, h5, h6, h7, _⟩ := h.node i nd hi
    exact ⟨nd', h0, ⟨h1, h2, h3, h4, h5⟩, h6, h7⟩

/-- Every cell of a ranked layer got its position in the stable descending order of the layer;
the remaining clauses of `Ranked` are `ranks_of_sortDesc` for each layer. -/
theorem Ranked.of_rankedAt {cfg : VrCfg R S} {hs : List Nat} {P P' : Part α (VrSt R S)}
    (W : WF P) (H : PRel (RankedAt (fun h => sortDesc (key cfg P) (layerAt P h)) hs) P P') :
    Ranked cfg hs P P' := by
  have hlr : ∀ h ∈ hs, ∀ i id, (sortDesc (key cfg P) (layerAt P h))[i]? = some id →
      lastRank P' id = i + 1 := by
    intro h hh i id hi
    obtain ⟨nd, n1, rfl⟩ := (W.mem_getD_layer h id).1
      ((sortDesc_perm _ _).mem_iff.1 (List.mem_of_getElem? hi))
    obtain ⟨nd', h0, _, _, _, _, n⟩ := H.node id nd n1
    exact lastRank_of_ranks h0 (n hh i hi)
  have hR := fun h hh => ranks_of_sortDesc (key cfg P) (layerAt P h) (lastRank P') (hlr h hh)
  refine ⟨H.kind, H.layers, H.depth, H.len, fun j nd hj => ?_, fun h hh => (hR h hh).1,
    fun h hh => (hR h hh).2.1, fun h hh => (hR h hh).2.2⟩
  obtain ⟨nd', h0, sk, r, t, k, n⟩ := H.node j nd hj
  refine ⟨nd', h0, sk.depth, sk.index, sk.parent, sk.children, sk.box, r, t, k, fun hm => ?_⟩
  obtain ⟨i, hi⟩ := List.mem_iff_getElem?.1 ((sortDesc_perm (key cfg P) _).mem_iff.2
    ((W.mem_getD_layer nd.depth j).2 ⟨nd, hj, rfl⟩))
  rw [n hm i hi, hlr _ hm i j hi]

end VR
end PyXAB
