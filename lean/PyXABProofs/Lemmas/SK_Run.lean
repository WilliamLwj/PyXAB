/-
  StroquOOL: the invariants along runs — `Inv` and the credit invariant `Credit` for every
  reachable state, and the documented loop `runRounds`.
-/
import PyXABProofs.Lemmas.SK_Blocks

namespace PyXAB
namespace SK
open Tree TBA StroquOOL

variable {α R S : Type}

theorem hist_append (H1 H2 : List (Nat × R)) (id : Nat) :
    hist (H1 ++ H2) id = hist H1 id ++ hist H2 id := by
  simp only [hist, List.filter_append, List.map_append]

theorem hist_single (c : Nat) (r : R) (id : Nat) :
    hist [(c, r)] id = if c = id then [r] else [] := by
  by_cases h : c = id <;> simp [hist, h]

theorem hist_nil_of_lt {H : List (Nat × R)} {n id : Nat} (hv : ∀ e ∈ H, e.1 < n) (h : n ≤ id) :
    hist H id = [] := by
  unfold hist
  rw [List.map_eq_nil_iff, List.filter_eq_nil_iff]
  intro e he
  rw [decide_eq_true_eq]
  exact Nat.ne_of_lt (Nat.lt_of_lt_of_le (hv e he) h)

theorem init_inv (cfg : SkCfg R S) (k : Kind) (domain : Box α) (hK : k.arity domain.length = 2) :
    Inv (init cfg k domain) where
  wf := init_WF' k domain (st0 cfg)
  ar := hK
  mx := nofun
  ch := rfl
  cd := nofun
  cur := Nat.zero_lt_one

theorem receive_ended (s : StroquOOL α R S) (r : R) (h : s.ended = true) : receive s r = s := by
  simp only [receive, h, if_true]

theorem receive_open (s : StroquOOL α R S) (r : R) (h : s.ended = false) :
    receive s r = { s with P := s.P.modifySt s.curr (fun st =>
      { st with visited := st.visited + 1, rewards := st.rewards ++ [r] }) } := by
  simp only [receive, h, Bool.false_eq_true, if_false]

theorem receive_prel (s : StroquOOL α R S) (r : R) :
    PRel (fun _ _ _ => True) s.P (receive s r).P := by
  cases he : s.ended with
  | true => rw [receive_ended s r he]; exact PRel.refl (fun _ _ => trivial) _
  | false =>
    rw [receive_open s r he]
    dsimp only
    exact (PRel_modifySt s.P s.curr _).mono (fun _ _ _ _ _ => trivial)

theorem receive_inv {s : StroquOOL α R S} (r : R) (hI : Inv s) : Inv (receive s r) := by
  have hq := receive_prel s r
  cases he : s.ended with
  | true => rw [receive_ended s r he]; exact hI
  | false =>
    rw [receive_open s r he] at hq ⊢
    exact hI.prel hq rfl rfl hI.cd hI.cur

theorem init_credit (cfg : SkCfg R S) (k : Kind) (domain : Box α) :
    Credit (init cfg k domain) ([] : List (Nat × R)) none where
  valid := nofun
  ra_none := fun _ => rfl
  ra_le := nofun
  visited := fun id nd h => by rw [(Part.getElem?_init.1 h).2]; rfl
  rewards := fun id nd h => by rw [(Part.getElem?_init.1 h).2]; rfl

/-- `pull` keeps the credit invariant; the ghost `resetAt` is set when the candidates are
built. -/
theorem pull_credit {s s' : StroquOOL α R S} {H : List (Nat × R)} {ra : Option Nat}
    (F : PullFrame s s') (C : Credit s H ra) : Credit s' H (resetAt' s s' H.length ra) := by
  have hnew : ∀ {id : Nat} (L : List (Nat × R)), (∀ e ∈ L, e ∈ H) → s.P.nodes.length ≤ id →
      hist L id = [] :=
    fun L hL h => hist_nil_of_lt (fun e he => C.valid e (hL e he)) h
  refine ⟨fun e he => Nat.lt_of_lt_of_le (C.valid e he) F.len, fun h => ?_, fun k h => ?_,
    fun id nd' h => ?_, fun id nd' h => ?_⟩
  · unfold resetAt' at h
    split at h
    · cases h
    · next hc => exact Classical.byContradiction fun hne => hc ⟨C.ra_none h, hne⟩
  · unfold resetAt' at h
    split at h
    · cases h; exact Nat.le_refl _
    · exact C.ra_le k h
  · by_cases hlt : id < s.P.nodes.length
    · obtain ⟨x, a1, a2, _⟩ := F.old id _ (List.getElem?_eq_getElem hlt)
      obtain rfl := getElem?_inj a1 h
      rw [a2]
      exact C.visited id _ (List.getElem?_eq_getElem hlt)
    · rw [(F.new id nd' (Nat.not_lt.1 hlt) h).1, hnew H (fun _ h => h) (Nat.not_lt.1 hlt)]
      rfl
  · by_cases hlt : id < s.P.nodes.length
    · obtain ⟨x, a1, _, a3⟩ := F.old id _ (List.getElem?_eq_getElem hlt)
      obtain rfl := getElem?_inj a1 h
      rw [a3, C.rewards id _ (List.getElem?_eq_getElem hlt)]
      unfold resetAt'
      by_cases h0 : s.candidate = []
      · by_cases hm : some id ∈ s'.candidate
        · -- the candidates are built by this `pull`: the ghost is set to `H.length`, the reward
          -- list of a candidate is cleared, and `H.drop H.length = []` has no round to list
          have hne : s'.candidate ≠ [] := fun e => by rw [e] at hm; cases hm
          simp [h0, hm, hne, hist]
        · simp [h0, hm]
      · simp [h0, F.cand h0]
    · rw [(F.new id nd' (Nat.not_lt.1 hlt) h).2, hnew H (fun _ h => h) (Nat.not_lt.1 hlt),
        hnew _ (fun _ => List.mem_of_mem_drop) (Nat.not_lt.1 hlt), ite_self]

theorem receive_credit {s : StroquOOL α R S} {H : List (Nat × R)} {ra : Option Nat} (r : R)
    (hcur : s.curr < s.P.nodes.length) (C : Credit s H ra) :
    Credit (receive s r) (if s.ended then H else H ++ [(s.curr, r)]) ra := by
  cases he : s.ended with
  | true => rw [receive_ended s r he]; exact C
  | false =>
    rw [receive_open s r he]
    show Credit _ (H ++ [(s.curr, r)]) ra
    have hk : ra.getD 0 ≤ H.length := by
      cases hra : ra with
      | none => exact Nat.zero_le _
      | some k => exact C.ra_le k hra
    -- every cell is the old one, the credited cell with one more visit and reward
    have key : ∀ (id : Nat) (nd' : Node α (SkSt R S)),
        (s.P.modifySt s.curr (fun st =>
          { st with visited := st.visited + 1, rewards := st.rewards ++ [r] })).nodes[id]? =
          some nd' → ∃ x, s.P.nodes[id]? = some x ∧
          nd'.st.visited = x.st.visited + (hist [(s.curr, r)] id).length ∧
          nd'.st.rewards = x.st.rewards ++ hist [(s.curr, r)] id := by
      intro id nd' h
      obtain ⟨x, h1, _, h3⟩ := (PRel_modifySt s.P s.curr _).bwd h
      refine ⟨x, h1, ?_⟩
      rw [h3, hist_single]
      by_cases hc : id = s.curr
      · rw [if_pos hc, if_pos hc.symm]; exact ⟨rfl, rfl⟩
      · rw [if_neg hc, if_neg (Ne.symm hc)]; exact ⟨rfl, (List.append_nil _).symm⟩
    refine ⟨fun e hem => ?_, C.ra_none, fun k hk => ?_, fun id nd' h => ?_, fun id nd' h => ?_⟩
    · show e.1 < (s.P.modifySt _ _).nodes.length
      rw [Part.length_modifySt]
      rcases List.mem_append.1 hem with hem | hem
      · exact C.valid e hem
      · cases List.mem_singleton.1 hem
        exact hcur
    · rw [List.length_append]
      exact Nat.le_add_right_of_le (C.ra_le k hk)
    · obtain ⟨x, hx, e, _⟩ := key id nd' h
      rw [e, hist_append, List.length_append, C.visited id x hx]
    · obtain ⟨x, hx, _, e⟩ := key id nd' h
      show _ = if some id ∈ s.candidate then _ else _
      rw [e, C.rewards id x hx, List.drop_append_of_le_length hk, hist_append, hist_append]
      split <;> rfl

variable [Add α] [Sub α] [Mul α] [Div α] [OfNat α 2] [NatCast α]
variable [LE S] [DecidableLE S] [Inhabited S] [Inhabited R]

theorem reach_inv (cfg : SkCfg R S) (k : Kind) (domain : Box α)
    (hK : k.arity domain.length = 2) {s : StroquOOL α R S} {H : List (Nat × R)}
    {ra : Option Nat} (h : Reach cfg k domain s H ra) :
    Inv s ∧ Credit s H ra ∧ s.P.kind = k ∧ dimn s.P = domain.length := by
  induction h with
  | init => exact ⟨init_inv cfg k domain hK, init_credit cfg k domain, rfl, rfl⟩
  | pull _ hd hp ih =>
    obtain ⟨hI, hC, h1, h2⟩ := ih
    have G := (pull_spec cfg hp).2 hI hd
    exact ⟨G.inv, pull_credit G.frame hC, G.frame.kind.trans h1, G.frame.dimn.trans h2⟩
  | @recv s0 _ _ r _ ih =>
    obtain ⟨hI, hC, h1, h2⟩ := ih
    have hq := receive_prel s0 r
    exact ⟨receive_inv r hI, receive_credit r hI.cur hC, hq.kind.trans h1, hq.dimn_eq.trans h2⟩

/-- the documented loop only visits reachable states, with the ghost history it builds; every
recorded id was returned by a `pull`, hence is not the root -/
theorem runRounds_reach (cfg : SkCfg R S) (k : Kind) (domain : Box α)
    (hK : k.arity domain.length = 2) (inputs : List (Nat × R × List (Draw α)))
    {s s' : StroquOOL α R S} {H H' : List (Nat × R)} {ra ra' : Option Nat}
    (hR : Reach cfg k domain s H ra) (hin : InputsOK k domain.length inputs)
    (hpos : ∀ e ∈ H, 1 ≤ e.1) (h : runRounds cfg s H ra inputs = .ok (s', H', ra')) :
    Reach cfg k domain s' H' ra' ∧ ∀ e ∈ H', 1 ≤ e.1 := by
  induction inputs generalizing s H ra with
  | nil => cases h; exact ⟨hR, hpos⟩
  | cons x rest ih =>
    obtain ⟨t, r, ds⟩ := x
    obtain ⟨hI, _, h1, h2⟩ := reach_inv cfg k domain hK hR
    have hd : DrawsOK s.P ds := fun d hdm => by
      rw [h1, h2]
      exact hin _ (List.mem_cons_self ..) d hdm
    unfold runRounds at h
    cases hp : pull cfg s t ds with
    | error e => rw [hp] at h; cases h
    | ok x =>
      obtain ⟨s1, ds1, v⟩ := x
      simp only [hp] at h
      obtain ⟨hO, hG⟩ := pull_spec cfg hp
      -- before the end the cell credited by `receive` is the one `pull` returned
      have hv : (if s1.ended then H else H ++ [(s1.curr, r)]) =
          (if s1.ended then H else H ++ [(v, r)]) := by
        cases he : s1.ended with
        | true => rfl
        | false =>
          cases hO with
          | eval _ b => rw [b]
          | fin _ _ _ F => rw [F.ended] at he; cases he
      refine ih (hv ▸ Reach.recv r (Reach.pull hR hd hp))
        (fun x hx => hin x (List.mem_cons_of_mem _ hx)) (fun e he => ?_) h
      split at he
      · exact hpos e he
      · rcases List.mem_append.1 he with he | he
        · exact hpos e he
        · cases List.mem_singleton.1 he
          exact ((hG hI hd).inv.mem_chosen.1 (hG hI hd).mem).1

end SK
end PyXAB
