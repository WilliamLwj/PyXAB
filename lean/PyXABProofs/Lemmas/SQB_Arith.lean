/-
  Arithmetic of the opening schedule of SequOOL: the schedule `⌊hmax / h⌋`, `h = 1 … hmax`,
  sums to at most `hmax * H_hmax` (`H` the harmonic numbers), hence to at most `n` when
  `hmax = ⌊n / H_n⌋`.
-/
import Mathlib.NumberTheory.Harmonic.Defs
import Mathlib.Data.Rat.Floor
import Mathlib.Data.Nat.Cast.Order.Field
import Mathlib.Algebra.Order.BigOperators.Group.Finset
import Mathlib.Algebra.BigOperators.Intervals
import Mathlib.Algebra.BigOperators.Ring.Finset
import Mathlib.Order.Interval.Finset.Nat
import Mathlib.Order.Monotone.Basic
import Mathlib.Tactic.Positivity
import Mathlib.Tactic.NormNum

namespace PyXAB
namespace SQ
namespace Budget

open Finset

theorem harmonic_eq_sum_Icc (n : ℕ) : harmonic n = ∑ i ∈ Icc 1 n, ((i : ℚ))⁻¹ := by
  induction n with
  | zero => simp
  | succ n ih => rw [harmonic_succ, Finset.sum_Icc_succ_top (by omega), ih]

theorem harmonic_mono : Monotone harmonic :=
  monotone_nat_of_le_succ fun n => by
    rw [harmonic_succ]; exact le_add_of_nonneg_right (by positivity)

theorem harmonic_nonneg (n : ℕ) : 0 ≤ harmonic n := by
  have := harmonic_mono (Nat.zero_le n)
  simpa using this

theorem one_le_harmonic {n : ℕ} (hn : 1 ≤ n) : 1 ≤ harmonic n :=
  (by decide +kernel : (1 : ℚ) ≤ harmonic 1).trans (harmonic_mono hn)

/-- the schedule sums to at most `hmax * H_hmax` -/
theorem sum_div_le_mul_harmonic (hmax : ℕ) :
    ((∑ h ∈ Icc 1 hmax, hmax / h : ℕ) : ℚ) ≤ hmax * harmonic hmax := by
  rw [harmonic_eq_sum_Icc, Finset.mul_sum]
  push_cast
  apply Finset.sum_le_sum
  intro h _
  rw [← div_eq_mul_inv]
  exact Nat.cast_div_le

/-- Any depth bound `m ≤ n / H_n` (the code takes the floor) is at most `n`. -/
theorem le_of_le_div_harmonic {n m : ℕ} (hn : 1 ≤ n) (h : (m : ℚ) ≤ n / harmonic n) : m ≤ n := by
  have h3 : (n : ℚ) / harmonic n ≤ n := div_le_self (by positivity) (one_le_harmonic hn)
  exact_mod_cast h.trans h3

/-- With a depth bound `m ≤ n / H_n`: `m · H_m ≤ (n / H_n) · H_n = n`. -/
theorem mul_harmonic_le {n m : ℕ} (hn : 1 ≤ n) (h : (m : ℚ) ≤ n / harmonic n) :
    (m : ℚ) * harmonic m ≤ n := by
  have hpos : (0 : ℚ) < harmonic n := lt_of_lt_of_le one_pos (one_le_harmonic hn)
  calc (m : ℚ) * harmonic m ≤ (m : ℚ) * harmonic n :=
        mul_le_mul_of_nonneg_left (harmonic_mono (le_of_le_div_harmonic hn h)) (by positivity)
    _ ≤ ((n : ℚ) / harmonic n) * harmonic n := mul_le_mul_of_nonneg_right h hpos.le
    _ = n := div_mul_cancel₀ _ hpos.ne'

/-- **The schedule stays within the budget** for every depth bound `m ≤ n / H_n`. -/
theorem sum_div_le_of_le {n m : ℕ} (hn : 1 ≤ n) (h : (m : ℚ) ≤ n / harmonic n) :
    ∑ h ∈ Icc 1 m, m / h ≤ n := by
  exact_mod_cast (sum_div_le_mul_harmonic m).trans (mul_harmonic_le hn h)

theorem floor_le_div {n m : ℕ} (hn : 1 ≤ n) (hh : m = ⌊(n : ℚ) / harmonic n⌋₊) :
    (m : ℚ) ≤ n / harmonic n := by
  have := one_le_harmonic hn
  rw [hh]; exact Nat.floor_le (by positivity)

theorem floor_div_harmonic_eq {n h : ℕ} (hh : 0 < h) (lo : (n : ℚ) / (h + 1) < harmonic n)
    (hi : harmonic n ≤ n / h) : ⌊(n : ℚ) / harmonic n⌋₊ = h := by
  have hpos : (0 : ℚ) < harmonic n := lt_of_le_of_lt (by positivity) lo
  have hh' : (0 : ℚ) < h := by exact_mod_cast hh
  rw [Nat.floor_eq_iff (by positivity), le_div_iff₀ hpos, div_lt_iff₀ hpos]
  rw [mul_comm, mul_comm _ (harmonic n)]
  exact ⟨(le_div_iff₀ hh').1 hi, (div_lt_iff₀ (by positivity)).1 lo⟩

theorem harmonic_10 : harmonic 10 = 7381 / 2520 := by decide +kernel

theorem floor_10 : ⌊(10 : ℚ) / harmonic 10⌋₊ = 3 :=
  floor_div_harmonic_eq (by norm_num) (by rw [harmonic_10]; norm_num)
    (by rw [harmonic_10]; norm_num)

end Budget
end SQ
end PyXAB
