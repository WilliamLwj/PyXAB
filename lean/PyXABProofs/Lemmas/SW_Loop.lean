/-
  The documented ask/tell loops have one shape: `runRounds` iterates `round` over the inputs and
  collects the history of (handed-out cell, reward).  Invariants and totality of a run are proved
  here for any state type, input type and `round`: the sweep algorithms (`SW_*Run`) and the
  tree bandits (`TBA_Loop`) both instantiate `IsLoop`.
-/
import PyXABModel.Model.Partition

namespace PyXAB
namespace SW

variable {X R St : Type}

/-- `runRounds` iterates `round` and records (handed-out cell, reward `rew x` of the input),
first round first. -/
structure IsLoop (rew : X → R) (round : St → X → Except Err (St × Nat))
    (runRounds : St → List X → Except Err (St × List (Nat × R))) : Prop where
  nil : ∀ s, runRounds s [] = .ok (s, [])
  cons : ∀ s x rest, runRounds s (x :: rest) =
    match round s x with
    | .error e => .error e
    | .ok (s1, v) =>
      match runRounds s1 rest with
      | .error e => .error e
      | .ok (s2, H) => .ok (s2, (v, rew x) :: H)

variable {rew : X → R} {round : St → X → Except Err (St × Nat)}
  {runRounds : St → List X → Except Err (St × List (Nat × R))}

/-- An invariant `I` of (state, history so far) which every successful round on an acceptable
input keeps holds at the end of every successful run; the rewards of the history are those of
the inputs. -/
theorem IsLoop.induct (L : IsLoop rew round runRounds) {I : St → List (Nat × R) → Prop}
    {OK : X → Prop}
    (hstep : ∀ s H x s2 v, I s H → OK x → round s x = .ok (s2, v) → I s2 (H ++ [(v, rew x)]))
    (inputs : List X) : ∀ (s : St) (H0 : List (Nat × R)) (s' : St)
      (H : List (Nat × R)), I s H0 → (∀ x ∈ inputs, OK x) →
      runRounds s inputs = .ok (s', H) → I s' (H0 ++ H) ∧ H.map (·.2) = inputs.map rew := by
  induction inputs with
  | nil =>
    intro s H0 s' H hI _ hrun
    rw [L.nil] at hrun
    cases hrun
    exact ⟨by rw [List.append_nil]; exact hI, rfl⟩
  | cons x rest ih =>
    intro s H0 s' H hI hok hrun
    rw [L.cons] at hrun
    cases hr : round s x with
    | error e => rw [hr] at hrun; cases hrun
    | ok res =>
      obtain ⟨s2, v⟩ := res
      rw [hr] at hrun
      dsimp only at hrun
      cases hrec : runRounds s2 rest with
      | error e => rw [hrec] at hrun; cases hrun
      | ok res =>
        obtain ⟨s3, H3⟩ := res
        rw [hrec] at hrun
        cases hrun
        obtain ⟨a, b⟩ := ih s2 _ _ _ (hstep s H0 x s2 v hI (hok x (List.mem_cons_self ..)) hr)
          (fun y hy => hok y (List.mem_cons_of_mem _ hy)) hrec
        rw [List.append_assoc] at a
        exact ⟨a, by rw [List.map_cons, List.map_cons, b]⟩

/-- Totality.  `I s H n` reads "in state `s`, after the rounds of the history `H`, `n` more
rounds can be made".  If it lets a round on an acceptable input succeed and passes to the
extended history with `n` one less, every run of `n` rounds succeeds; the rewards of the
history are those of the inputs. -/
theorem IsLoop.total (L : IsLoop rew round runRounds) {I : St → List (Nat × R) → Nat → Prop}
    {OK : X → Prop}
    (hround : ∀ s H n x, I s H (n + 1) → OK x →
      ∃ s2 v, round s x = .ok (s2, v) ∧ I s2 (H ++ [(v, rew x)]) n)
    (inputs : List X) : ∀ (s : St) (H0 : List (Nat × R)), I s H0 inputs.length →
      (∀ x ∈ inputs, OK x) →
      ∃ s' H, runRounds s inputs = .ok (s', H) ∧ I s' (H0 ++ H) 0 ∧
        H.map (·.2) = inputs.map rew := by
  induction inputs with
  | nil => exact fun s H0 hI _ => ⟨s, [], L.nil s, by rw [List.append_nil]; exact hI, rfl⟩
  | cons x rest ih =>
    intro s H0 hI hok
    obtain ⟨s2, v, hr, hI2⟩ := hround s H0 _ x hI (hok x (List.mem_cons_self ..))
    obtain ⟨s3, H3, hrec, hI3, hH⟩ := ih s2 _ hI2 (fun y hy => hok y (List.mem_cons_of_mem _ hy))
    rw [List.append_assoc] at hI3
    exact ⟨s3, (v, rew x) :: H3, by rw [L.cons, hr]; dsimp only; rw [hrec], hI3,
      by rw [List.map_cons, List.map_cons, hH]⟩

end SW
end PyXAB
