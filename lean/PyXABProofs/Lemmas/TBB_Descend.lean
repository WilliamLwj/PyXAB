/-
  The descent loop `descend` shared by the three `optTraverse`s: what a successful run returns
  (the index form `GreedyIdx`), and that it never raises on a well-formed tree when the loop test
  never raises.
-/
import PyXABProofs.Lemmas.TBB_Skel
import PyXABProofs.Lemmas.TBB_Order
import PyXABProofs.Lemmas.TBA_Descend

set_option linter.unusedSectionVars false

namespace PyXAB
namespace TBB

open Tree

variable {α R S : Type} [LinearOrder S] [Inhabited S] [Inhabited R]

/-- What `descend` guarantees of the list `l` it returns, read by position: consecutive entries
are a cell and its `LastMax` child, the loop test `cont` said go on at every entry but the last,
and at the last it said stop or the cell is a leaf.  (`GreedyPath` of the specification is this
with `cont` replaced by a stop predicate: `GreedyIdx.toPath`.) -/
structure GreedyIdx (P : Part α (TBSt R S)) (cont : Node α (TBSt R S) → Except Err Bool)
    (l : List Nat) : Prop where
  step : ∀ i p c, l[i]? = some p → l[i + 1]? = some c →
    ∃ nd cs, P.nodes[p]? = some nd ∧ nd.children = some cs ∧
      LastMax (fun j => (P.stOf j).b) cs c
  go : ∀ i p, l[i]? = some p → i + 1 < l.length →
    ∃ nd, P.nodes[p]? = some nd ∧ cont nd = .ok true ∧ nd.children ≠ none
  stop : ∀ v, l.getLast? = some v →
    ∃ nd go, P.nodes[v]? = some nd ∧ cont nd = .ok go ∧ (go = false ∨ nd.children = none)

/-- the loop stops at `cur` -/
theorem GreedyIdx.single {P : Part α (TBSt R S)} {cont : Node α (TBSt R S) → Except Err Bool}
    {cur : Nat} {nd : Node α (TBSt R S)} {go : Bool} (hnd : P.nodes[cur]? = some nd)
    (hc : cont nd = .ok go) (hgo : go = false ∨ nd.children = none) : GreedyIdx P cont [cur] where
  step := fun i p c _ h2 => by cases h2
  go := fun i p _ h2 => absurd h2 (Nat.not_lt_of_le (Nat.succ_le_succ (Nat.zero_le i)))
  stop := fun v hv => by
    obtain rfl : cur = v := Option.some.inj hv
    exact ⟨_, _, hnd, hc, hgo⟩

/-- the loop moves from `cur` to its child `m` and goes on from there -/
theorem GreedyIdx.cons {P : Part α (TBSt R S)} {cont : Node α (TBSt R S) → Except Err Bool}
    {cur m : Nat} {nd : Node α (TBSt R S)} {cs rest : List Nat} (hnd : P.nodes[cur]? = some nd)
    (hc : cont nd = .ok true) (hcs : nd.children = some cs)
    (hm : pickChild (fun i => (P.stOf i).b) cs = some m) (h : GreedyIdx P cont (m :: rest)) :
    GreedyIdx P cont (cur :: m :: rest) where
  step := fun i p c h1 h2 => by
    cases i with
    | zero =>
      obtain rfl : cur = p := Option.some.inj h1
      obtain rfl : m = c := Option.some.inj h2
      exact ⟨nd, cs, hnd, hcs, pickChild_lastMax _ hm⟩
    | succ i => exact h.step i p c h1 h2
  go := fun i p h1 h2 => by
    cases i with
    | zero =>
      obtain rfl : cur = p := Option.some.inj h1
      exact ⟨nd, hnd, hc, by rw [hcs]; nofun⟩
    | succ i => exact h.go i p h1 (Nat.lt_of_succ_lt_succ h2)
  stop := fun v hv => h.stop v (by rw [← hv, List.getLast?_cons_cons])

theorem descend_spec (P : Part α (TBSt R S)) (cont : Node α (TBSt R S) → Except Err Bool)
    (fuel : Nat) : ∀ (cur : Nat) (acc path : List Nat),
      descend P cont fuel cur acc = .ok path →
      ∃ rest, path = acc ++ rest ∧ GreedyIdx P cont (cur :: rest) := by
  induction fuel with
  | zero => exact fun _ _ _ h => nomatch h
  | succ fuel ih =>
    intro cur acc path h
    unfold descend at h
    split at h
    · cases h
    · next nd hnd =>
      obtain ⟨go, hc, h⟩ := ListAux.bind_eq_ok.1 h
      split at h
      · next cs hgo hcs =>
        split at h
        · cases h
        · next m hm =>
          obtain ⟨rest, h1, h2⟩ := ih m _ path h
          exact ⟨m :: rest, by rw [h1, List.append_assoc, List.singleton_append],
            h2.cons hnd hc hcs hm⟩
      · next hno =>
        obtain rfl : acc = path := Except.ok.inj h
        refine ⟨[], (List.append_nil _).symm, GreedyIdx.single hnd hc ?_⟩
        cases hch : nd.children with
        | none => exact Or.inr rfl
        | some cs => exact Or.inl (Bool.eq_false_iff.2 (fun hg => hno cs hg hch))

/-- The descent from the root as `pull` starts it: it returns a greedy run. -/
theorem descend_root {P : Part α (TBSt R S)} (W : WF P)
    (cont : Node α (TBSt R S) → Except Err Bool)
    (hcont : ∀ (i : Nat) (nd : Node α (TBSt R S)), P.nodes[i]? = some nd → ∃ go, cont nd = .ok go) :
    ∃ rest v, descend P cont (P.nodes.length + 1) 0 [0] = .ok (0 :: rest) ∧
      (0 :: rest).getLast? = some v ∧ GreedyIdx P cont (0 :: rest) := by
  obtain ⟨path, _, _, hpath, _⟩ := TBA.descend_root_ok W cont hcont
  obtain ⟨rest, rfl, h⟩ := descend_spec P cont _ _ _ _ hpath
  exact ⟨rest, _, hpath, List.getLast?_eq_some_getLast (List.cons_ne_nil 0 rest), h⟩

/-- A list whose consecutive entries are parent and child (the `step` clause of `GreedyIdx` and
of `GreedyPath`) has increasing ids: children are created after their parent. -/
theorem lt_of_step {P : Part α (TBSt R S)} (W : WF P) {l : List Nat}
    (hstep : ∀ i p c, l[i]? = some p → l[i + 1]? = some c →
      ∃ nd cs, P.nodes[p]? = some nd ∧ nd.children = some cs ∧
        LastMax (fun j => (P.stOf j).b) cs c) :
    ∀ i p c, l[i]? = some p → l[i + 1]? = some c → p < c := by
  intro i p c h1 h2
  obtain ⟨nd, cs, a1, a2, a3⟩ := hstep i p c h1 h2
  obtain ⟨_, _, _, _, _, lt, _⟩ := W.child_facts a1 a2 a3.mem
  exact lt

theorem GreedyIdx.increasing {P : Part α (TBSt R S)} (W : WF P)
    {cont : Node α (TBSt R S) → Except Err Bool} {l : List Nat} (h : GreedyIdx P cont l) :
    ∀ i p c, l[i]? = some p → l[i + 1]? = some c → p < c :=
  lt_of_step W h.step

theorem pairwise_of_consecutive (l : List Nat)
    (h : ∀ i p c, l[i]? = some p → l[i + 1]? = some c → p < c) : l.Pairwise (· < ·) := by
  induction l with
  | nil => exact List.Pairwise.nil
  | cons a l ih =>
    have ih := ih (fun i p c h1 h2 => h (i + 1) p c h1 h2)
    refine List.Pairwise.cons (fun x hx => ?_) ih
    cases l with
    | nil => cases hx
    | cons b l =>
      have hab : a < b := h 0 a b rfl rfl
      rcases List.mem_cons.1 hx with rfl | hx
      · exact hab
      · exact Nat.lt_trans hab ((List.pairwise_cons.1 ih).1 x hx)

end TBB
end PyXAB
