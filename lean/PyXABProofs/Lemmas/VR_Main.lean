/-
  What follows from `PullFacts` / `RecvFacts` (the descriptions of one `pull` and one `receive`
  of VROOM): arity and boxes are kept, the update list is a path, `PullPost`, accepted weights.
-/
import PyXABProofs.Lemmas.VR_Descent
import PyXABProofs.Lemmas.VR_Prob

set_option linter.unusedSectionVars false

namespace PyXAB
namespace VR
open _root_.PyXAB.Tree TBA VROOM

section geo
variable {α σ : Type} [LinearOrder α]

theorem Geo.sub_root {P : Part α σ} (W : WF P) (G : Geo P) : ∀ (i : Nat) (nd r : Node α σ),
    P.nodes[i]? = some nd → P.nodes[0]? = some r → Box.Subset nd.box r.box := by
  intro i
  induction i using Nat.strongRecOn with
  | _ i ih =>
    intro nd r hi hr
    by_cases h0 : i = 0
    · subst h0
      obtain rfl := getElem?_inj hi hr
      exact Box.Subset.refl _
    · obtain ⟨p, pn, cs, p1, p2, p3, _⟩ := W.parent i nd (Nat.pos_of_ne_zero h0) hi
      exact (G.sub i nd p pn hi p1 p3).trans (ih p p2 pn r p3 hr)

omit [LinearOrder α] in
theorem boxOf_of_PRel {ρ : Nat → Node α σ → Node α σ → Prop} {P P' : Part α σ}
    (h : PRel ρ P P') (i : Nat) : boxOf P' i = boxOf P i := by
  cases h0 : P.nodes[i]? with
  | none =>
    have h1 : P'.nodes[i]? = none := by
      rw [List.getElem?_eq_none_iff] at h0 ⊢; rw [h.len]; exact h0
    simp only [boxOf, h0, h1]
  | some nd =>
    obtain ⟨nd', h1, sk, _⟩ := h.node i nd h0
    rw [boxOf_eq h1, boxOf_eq h0, sk.box]

theorem length_layerAt {sd : Nat} {P : Part α σ} (T : TInv sd P) {h : Nat} (hh : h ≤ sd) :
    (layerAt P h).length = K P ^ h := by
  obtain ⟨l, h1, h2⟩ := layersPow_of_internal T.wf T.deep T.internal h hh
  rw [layerAt, h1]; exact h2

end geo

section main
variable {α R S : Type} [LinearOrder α] [LinearOrder S]

/-- **The ranks** of depth `h = 1..sd` assigned by the ranking stage are a permutation of
`1..K^h` (any arity). -/
theorem Ranked.perm_pow {cfg : VrCfg R S} {P P1 : Part α (VrSt R S)}
    (Rk : Ranked cfg (List.range' 1 cfg.sd) P P1) (T : TInv cfg.sd P) {h : Nat} (h1 : 1 ≤ h)
    (h2 : h ≤ cfg.sd) :
    ((layerAt P h).map (lastRank P1)).Perm (List.range' 1 (K P ^ h)) :=
  length_layerAt T h2 ▸ Rk.perm h (mem_range'_one.2 ⟨h1, h2⟩)

variable {cfg : VrCfg R S} {s s' : VROOM α R S} {time : Nat} {dr : VDraw α} {last : Nat}
  {P1 : Part α (VrSt R S)} {h l node : Nat} {path : List Nat}

theorem PullFacts.K_eq (F : PullFacts cfg s time dr s' last P1 h l node path) :
    K s'.P = K s.P :=
  F.grow.K_eq.trans F.ranked.toPRel.K_eq

theorem PullFacts.boxOf_eq (F : PullFacts cfg s time dr s' last P1 h l node path) {i : Nat}
    (hi : i < s.P.nodes.length) : boxOf s'.P i = boxOf s.P i :=
  (F.grow.boxOf_eq (F.ranked.len.symm ▸ hi)).trans (boxOf_of_PRel F.ranked.toPRel i)

theorem PullFacts.path_facts (F : PullFacts cfg s time dr s' last P1 h l node path) :
    s'.updateList.Nodup ∧ (∀ id ∈ s'.updateList, id < s'.P.nodes.length) ∧
    last = s'.updateList.getLast (by rw [F.updateList]; simp) ∧
    ∃ nn ln, s'.P.nodes[node]? = some nn ∧ nn.depth = h ∧ s'.P.nodes[last]? = some ln ∧
      ln.depth = max h cfg.hmax ∧ Box.Subset ln.box nn.box := by
  obtain ⟨n1, h1, h2⟩ := F.cell_depth
  obtain ⟨nn, g0, g1, _⟩ := F.grow.old node n1 h1
  obtain ⟨⟨ln, l1, l2, l3⟩, hall, hnd⟩ :=
    IsPath.facts F.tinv.wf F.tinv.geo path node last nn g0 F.isPath
  have hul := F.updateList
  refine ⟨hul ▸ hnd, fun id hid => ?_, ?_, nn, ln, g0, g1.trans h2, l1,
    by rw [l2, g1, h2, F.steps, Nat.add_comm, Nat.sub_add_eq_max, Nat.max_comm], l3⟩
  · rcases List.mem_cons.1 (hul ▸ hid) with rfl | hid
    · exact lt_length_of_getElem? g0
    · obtain ⟨cn, c1, _⟩ := hall id hid
      exact lt_length_of_getElem? c1
  · simp only [hul]
    exact IsPath.getLast path node last F.isPath

theorem PullFacts.post (F : PullFacts cfg s time dr s' last P1 h l node path)
    (T : TInv cfg.sd s.P) (hK : K s.P = 2) : PullPost cfg s' := by
  obtain ⟨h1, h2, _⟩ := F.path_facts
  exact ⟨h1, h2, F.prob_eq ▸ length_probList (fun h' _ hh' => hK ▸ length_layerAt T hh')⟩

theorem RecvFacts.toPRel {s s' : VROOM α R S} {r : R} (h : RecvFacts cfg s s' r) :
    PRel (fun _ _ _ => True) s.P s'.P where
  kind := h.kind
  layers := h.layers
  depth := h.depth
  len := h.len
  node := fun i nd hi => by
    obtain ⟨nd', h0, h1, h2, h3, h4, h5, _⟩ := h.node i nd hi
    exact ⟨nd', h0, ⟨h1, h2, h3, h4, h5⟩, trivial⟩

end main

section field
variable {α R S : Type} [Field α] [LinearOrder α] [IsStrictOrderedRing α]
variable [Field S] [LinearOrder S] [IsStrictOrderedRing S]
variable {cfg : VrCfg R S} {s : VROOM α R S}

theorem Ranked.probList_sum {P P1 : Part α (VrSt R S)}
    (Rk : Ranked cfg (List.range' 1 cfg.sd) P P1) (FC : FieldCfg cfg) (hsd : 1 ≤ cfg.sd)
    (T : TInv cfg.sd P) (hK : K P = 2) : (probList cfg P P1).sum = 1 :=
  (probList_sum_eq FC _ fun _ h1 h2 => hK ▸ Rk.perm_pow T h1 h2).trans (weights_sum_one hsd)

theorem probAccepted_of_field (FC : FieldCfg cfg) (hsd : 1 ≤ cfg.sd)
    (hOK : ∀ ps : List S, ps.sum = 1 → cfg.probOK ps = true)
    (T : TInv cfg.sd s.P) (hK : K s.P = 2) : ProbAccepted cfg s :=
  fun _ Rk => hOK _ (Rk.probList_sum FC hsd T hK)

end field

end VR
end PyXAB
