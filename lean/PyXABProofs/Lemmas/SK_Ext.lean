/-
  StroquOOL: the frame relation `Ext`, payload-only updates (`Quiet`), the scan of a layer,
  and the expansion of one cell.
-/
import PyXABProofs.Lemmas.SK_Last

namespace PyXAB
namespace SK
open Tree TBA StroquOOL

variable {α R S : Type}

theorem Expd.lt {σ : Type} {P : Part α σ} {m : Nat} (h : Expd P m) : m < P.nodes.length := by
  obtain ⟨nd, _, h1, _⟩ := h
  exact lt_length_of_getElem? h1

theorem prel_expd {σ : Type} {ρ : Nat → Node α σ → Node α σ → Prop} {P P' : Part α σ}
    (h : PRel ρ P P') {m : Nat} (hm : Expd P m) : Expd P' m := by
  obtain ⟨nd, cs, h1, h2⟩ := hm
  obtain ⟨nd', a1, a2, _⟩ := h.node m nd h1
  exact ⟨nd', cs, a1, a2.children.trans h2⟩

theorem DrawsOK.of_eq {P P' : Part α (SkSt R S)} {ds : List (Draw α)} (hd : DrawsOK P ds)
    (hk : P'.kind = P.kind) (hn : dimn P' = dimn P) : DrawsOK P' ds := by
  intro d hdm
  rw [hk, hn]
  exact hd d hdm

namespace Ext
variable {P P' P'' : Part α (SkSt R S)}

theorem rfl' (P : Part α (SkSt R S)) : Ext P P :=
  ⟨rfl, rfl, Nat.le_refl _, fun _ nd h => ⟨nd, h, rfl, rfl⟩,
    fun _ _ h1 h2 => absurd (lt_length_of_getElem? h2) (Nat.not_lt.2 h1), fun _ h => h⟩

theorem trans (h1 : Ext P P') (h2 : Ext P' P'') : Ext P P'' where
  kind := h2.kind.trans h1.kind
  dimn := h2.dimn.trans h1.dimn
  len := Nat.le_trans h1.len h2.len
  old := by
    intro i nd hi
    obtain ⟨x, a1, a2, a3⟩ := h1.old i nd hi
    obtain ⟨y, b1, b2, b3⟩ := h2.old i x a1
    exact ⟨y, b1, b2.trans a2, b3.trans a3⟩
  new := by
    intro i nd'' hi hnd
    by_cases hlt : i < P'.nodes.length
    · obtain ⟨y, b1, b2, b3⟩ := h2.old i _ (List.getElem?_eq_getElem hlt)
      obtain rfl := getElem?_inj b1 hnd
      obtain ⟨c1, c2⟩ := h1.new i _ hi (List.getElem?_eq_getElem hlt)
      exact ⟨b2.trans c1, b3.trans c2⟩
    · exact h2.new i nd'' (Nat.not_lt.1 hlt) hnd
  exp := fun m h => h2.exp m (h1.exp m h)

theorem drawsOK (h : Ext P P') {ds : List (Draw α)} (hd : DrawsOK P ds) : DrawsOK P' ds :=
  hd.of_eq h.kind h.dimn

theorem K_eq (h : Ext P P') : K P' = K P := by
  simp only [K, h.dimn, h.kind]

theorem of_step {s0 : SkSt R S} {p : Nat} {nd : Node α (SkSt R S)}
    (St : Step P P' s0 p nd) (W : WF P) (hp : P.nodes[p]? = some nd)
    (h0 : s0.visited = 0 ∧ s0.rewards = []) : Ext P P' where
  kind := St.kind_eq
  dimn := St.dimn_eq W hp
  len := St.len ▸ Nat.le_add_right ..
  old := by
    intro i x hx
    obtain ⟨x', a1, _, _, _, _, a6, _⟩ := St.pres hp hx
    exact ⟨x', a1, by rw [a6], by rw [a6]⟩
  new := by
    intro i x' hi hx
    rcases St.inv hp hx with ⟨x, a1, _⟩ | ⟨j, _, _, _, _, _, _, _, a⟩
    · exact absurd (lt_length_of_getElem? a1) (Nat.not_lt.2 hi)
    · rw [a]; exact h0
  exp := by
    rintro m ⟨x, cs, a1, a2⟩
    obtain ⟨x', b1, _, _, _, _, _, b7, b8⟩ := St.pres hp a1
    by_cases hm : m = p
    · exact ⟨x', _, b1, b8 hm⟩
    · exact ⟨x', cs, b1, (b7 hm).trans a2⟩

end Ext

/-- payload-only update keeping `visited` and `rewards` -/
def Quiet (P P' : Part α (SkSt R S)) : Prop :=
  PRel (fun _ nd nd' => nd'.st.visited = nd.st.visited ∧ nd'.st.rewards = nd.st.rewards) P P'

namespace Quiet
variable {P P' P'' : Part α (SkSt R S)}

theorem refl (P : Part α (SkSt R S)) : Quiet P P := PRel.refl (fun _ _ => ⟨rfl, rfl⟩) P

theorem trans (h1 : Quiet P P') (h2 : Quiet P' P'') : Quiet P P'' :=
  PRel.trans' h1 h2 (fun _ _ _ _ _ _ a b => ⟨b.1.trans a.1, b.2.trans a.2⟩)

theorem ext (h : Quiet P P') : Ext P P' where
  kind := h.kind
  dimn := h.dimn_eq
  len := Nat.le_of_eq h.len.symm
  old := fun i nd hi =>
    let ⟨nd', a1, _, a3⟩ := h.node i nd hi
    ⟨nd', a1, a3⟩
  new := fun _ _ hi hnd =>
    absurd (h.len ▸ lt_length_of_getElem? hnd) (Nat.not_lt.2 hi)
  exp := fun _ hm => prel_expd h hm

theorem modifySt (P : Part α (SkSt R S)) (i : Nat) (f : SkSt R S → SkSt R S)
    (hv : ∀ st, (f st).visited = st.visited) (hr : ∀ st, (f st).rewards = st.rewards) :
    Quiet P (P.modifySt i f) :=
  (PRel_modifySt P i f).mono fun j a b _ hb => by
    rw [hb]; split
    · exact ⟨hv _, hr _⟩
    · exact ⟨rfl, rfl⟩

end Quiet

theorem quiet_refreshP (cfg : SkCfg R S) (P : Part α (SkSt R S)) (cands : List (Option Nat)) :
    Quiet P (refreshP cfg P cands) :=
  (prel_onCands (compMean cfg) P cands).mono fun j a b _ hb => by
    rw [hb]; split
    · exact ⟨compMean_visited cfg _, compMean_rewards cfg _⟩
    · exact ⟨rfl, rfl⟩

section model
variable [LE S] [DecidableLE S]

/-- one step of the scan: the head cell is left alone, or its mean is refreshed and it may
become the running maximum -/
theorem scanLayer_cons (cfg : SkCfg R S) (thr id : Nat) (rest : List Nat)
    (P : Part α (SkSt R S)) (best : S) (mx : Option Nat) :
    ∃ P' best' mx', scanLayer cfg thr (id :: rest) P best mx = scanLayer cfg thr rest P' best' mx' ∧
      Quiet P P' ∧ (mx' = mx ∨ (mx' = some id ∧ id < P.nodes.length)) := by
  cases hnd : P.nodes[id]? with
  | none => exact ⟨P, best, mx, by simp only [scanLayer, hnd], Quiet.refl P, Or.inl rfl⟩
  | some nd =>
    have hq : Quiet P (P.modifySt id (fun _ => compMean cfg nd.st)) := by
      rw [Part.modifySt_const hnd]
      exact Quiet.modifySt P id _ (compMean_visited cfg) (compMean_rewards cfg)
    by_cases hc : (!nd.st.opened && decide (nd.st.visited ≥ thr)) = true
    · by_cases hb : best ≤ (compMean cfg nd.st).mean
      · exact ⟨_, _, _, by simp only [scanLayer, hnd, hc, hb, if_true]; rfl, hq,
          Or.inr ⟨rfl, lt_length_of_getElem? hnd⟩⟩
      · exact ⟨_, _, _, by simp only [scanLayer, hnd, hc, hb, if_true, if_false]; rfl, hq,
          Or.inl rfl⟩
    · exact ⟨P, best, mx, by simp only [scanLayer, hnd, hc]; rfl, Quiet.refl P, Or.inl rfl⟩

/-- the scan only refreshes means; the maximum it returns is the one it started from or a valid
cell of the layer -/
theorem scanLayer_spec (cfg : SkCfg R S) (thr : Nat) (l : List Nat) (P : Part α (SkSt R S))
    (best : S) (mx : Option Nat) :
    Quiet P (scanLayer cfg thr l P best mx).1 ∧
      ((scanLayer cfg thr l P best mx).2 = mx ∨
        ∃ m ∈ l, (scanLayer cfg thr l P best mx).2 = some m ∧ m < P.nodes.length) := by
  induction l generalizing P best mx with
  | nil => exact ⟨Quiet.refl P, Or.inl rfl⟩
  | cons id rest ih =>
    obtain ⟨P', best', mx', e, hq, hmx⟩ := scanLayer_cons cfg thr id rest P best mx
    rw [e]
    obtain ⟨h1, h2⟩ := ih P' best' mx'
    refine ⟨hq.trans h1, ?_⟩
    rcases h2 with h2 | ⟨m, a, b, c⟩
    · rcases hmx with rfl | ⟨rfl, hid⟩
      · exact Or.inl h2
      · exact Or.inr ⟨id, List.mem_cons_self .., h2, hid⟩
    · exact Or.inr ⟨m, List.mem_cons_of_mem _ a, b, hq.len ▸ c⟩

end model

theorem range'_chosen_append {n : Nat} (hn : 0 < n) (k : Nat) :
    List.range' 1 (n - 1) ++ List.range' n k = List.range' 1 (n + k - 1) := by
  cases n with
  | zero => cases hn
  | succ n =>
    rw [Nat.add_sub_cancel, Nat.add_right_comm, Nat.add_sub_cancel, Nat.add_comm n 1,
      List.range'_append_1]

theorem Inv.mem_chosen {s : StroquOOL α R S} (hI : Inv s) {c : Nat} :
    c ∈ s.chosen ↔ 1 ≤ c ∧ c < s.P.nodes.length := by
  rw [hI.ch, List.mem_range'_1, Nat.add_sub_cancel' hI.wf.length_pos]

/-- all of `Inv` but the clause on `maxNode` -/
theorem Inv.blank {s : StroquOOL α R S} (hI : Inv s) : Inv { s with maxNode := none } :=
  ⟨hI.wf, hI.ar, nofun, hI.ch, hI.cd, hI.cur⟩

theorem Inv.of_blank {s : StroquOOL α R S} (hI : Inv { s with maxNode := none })
    (hmx : ∀ m, s.maxNode = some m → Expd s.P m) : Inv s :=
  ⟨hI.wf, hI.ar, hmx, hI.ch, hI.cd, hI.cur⟩

theorem twoKids_of {P : Part α (SkSt R S)} {m : Nat} {nd : Node α (SkSt R S)} {a b : Nat}
    {l : List Nat} (h : P.nodes[m]? = some nd) (hc : nd.children = some (a :: b :: l)) :
    twoKids P m = .ok (a, b) := by
  simp only [twoKids, h, hc]

theorem twoKids_valid {P : Part α (SkSt R S)} (W : WF P) (hK : K P = 2) {m a b : Nat}
    (h : twoKids P m = .ok (a, b)) :
    Expd P m ∧ 1 ≤ a ∧ a < P.nodes.length ∧ 1 ≤ b ∧ b < P.nodes.length := by
  unfold twoKids at h
  cases hnd : P.nodes[m]? with
  | none => rw [hnd] at h; cases h
  | some nd =>
    cases hc : nd.children with
    | none => simp only [hnd, hc] at h; cases h
    | some cs =>
      obtain ⟨_, x, x1, rfl, x3, _⟩ := W.children m nd cs hnd hc
      rw [hK] at x3
      simp only [hnd, hc, hK, List.range', Except.ok.injEq, Prod.mk.injEq] at h
      obtain ⟨rfl, rfl⟩ := h
      exact ⟨⟨nd, _, hnd, hc⟩, Nat.lt_of_le_of_lt (Nat.zero_le m) x1,
        Nat.lt_of_lt_of_le (Nat.lt_add_of_pos_right Nat.two_pos) x3, Nat.le_add_left 1 x, x3⟩

section arith
variable [Add α] [Sub α] [Mul α] [Div α] [OfNat α 2] [NatCast α]

theorem expandAt_fields (cfg : SkCfg R S) {s s1 : StroquOOL α R S} {m : Nat} {nl : Bool}
    {ds ds1 : List (Draw α)} (h : expandAt cfg s m nl ds = .ok (s1, ds1)) :
    s1 = { s with P := s1.P, chosen := s1.chosen } := by
  unfold expandAt at h
  rw [ListAux.bind_eq_ok] at h
  obtain ⟨⟨P', ds'⟩, _, h⟩ := h
  rw [ListAux.bind_eq_ok] at h
  obtain ⟨⟨a, b⟩, _, h⟩ := h
  cases h
  rfl

/-- One expansion of a leaf with the right `newlayer` flag, arity 2: the tree stays well-formed,
both children (the two new ids) are filed in `chosen`, nothing else changes.  While the cell
being expanded is `maxNode` the clause of `Inv` on `maxNode` fails, hence `maxNode` is blanked on
both sides. -/
theorem expandAt_spec (cfg : SkCfg R S) {s s1 : StroquOOL α R S} {m : Nat} {nl : Bool}
    {ds ds1 : List (Draw α)} {nd : Node α (SkSt R S)} (hI : Inv { s with maxNode := none })
    (hd : DrawsOK s.P ds) (hm : s.P.nodes[m]? = some nd) (hleaf : nd.children = none)
    (hnl : nl = decide (nd.depth ≥ s.P.depth))
    (h : expandAt cfg s m nl ds = .ok (s1, ds1)) :
    Inv { s1 with maxNode := none } ∧ Ext s.P s1.P ∧ Expd s1.P m ∧ DrawsOK s1.P ds1 ∧
      s1.candidate = s.candidate := by
  have W : WF s.P := hI.wf
  have hK : K s.P = 2 := hI.ar
  cases ds with
  | nil => cases h
  | cons d ds' =>
    obtain ⟨P', e1, W', St⟩ := makeChildren_WF_step W (st0 cfg) hm hleaf hnl
      (hd d (List.mem_cons_self ..))
    have hatp := St.atp
    have hlen := St.len
    rw [hK] at hatp hlen
    rw [expandAt, makeChildrenD_cons e1] at h
    replace h : (twoKids P' m >>= _) = _ := h
    rw [twoKids_of hatp rfl] at h
    cases h
    have hext : Ext s.P P' := Ext.of_step St W hm ⟨rfl, rfl⟩
    refine ⟨⟨W', hext.K_eq.trans hK, nofun, ?_, fun c hc => List.mem_append_left _ (hI.cd c hc),
      Nat.lt_of_lt_of_le hI.cur hext.len⟩, hext, ⟨_, _, hatp, rfl⟩,
      hext.drawsOK fun d hdm => hd d (List.mem_cons_of_mem _ hdm), rfl⟩
    show s.chosen ++ List.range' s.P.nodes.length 2 = List.range' 1 (P'.nodes.length - 1)
    rw [show s.chosen = _ from hI.ch, hlen, range'_chosen_append W.length_pos]

end arith

end SK
end PyXAB
