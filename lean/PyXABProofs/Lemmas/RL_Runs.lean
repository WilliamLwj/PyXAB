/-
  Rounds and whole runs of the tree bandits and of Zooming as `>>=` chains, and what they inherit
  from the step lemmas: extra queries are absorbed by the idempotent `pull`, mapped boxes are
  carried along, whatever the partition operations keep is kept.
-/
import PyXABProofs.Lemmas.RL_HCT
import PyXABProofs.Lemmas.RL_Zoom
import PyXABProofs.Spec.TBRun

namespace PyXAB
namespace RL
open Rel ListAux
set_option linter.unusedSectionVars false

section hoo
variable {α R S : Type} [Add α] [Sub α] [Mul α] [Div α] [OfNat α 2] [NatCast α]
variable [LE S] [DecidableLE S] [Max S] [Min S] [Inhabited S] [Inhabited R]

theorem hoo_round_eq (cfg : HOOCfg R S) (s : HOO α R S) (r : R) (ds : List (Draw α)) :
    HOO.round cfg s r ds =
      HOO.pull s >>= fun p => HOO.receive cfg p.1 r ds >>= fun q => pure (q.1, p.2) := by
  unfold HOO.round
  rcases HOO.pull s with _ | ⟨s1, v⟩
  · rfl
  · rw [ok_bind]
    dsimp only
    rcases HOO.receive cfg s1 r ds with _ | ⟨_, _⟩ <;> rfl

theorem hoo_runRounds_cons (cfg : HOOCfg R S) (s : HOO α R S) (r : R) (ds : List (Draw α))
    (rest : List (R × List (Draw α))) :
    HOO.runRounds cfg s ((r, ds) :: rest) =
      HOO.round cfg s r ds >>= fun p =>
        HOO.runRounds cfg p.1 rest >>= fun q => pure (q.1, (p.2, r) :: q.2) := by
  rw [HOO.runRounds]
  rcases HOO.round cfg s r ds with _ | ⟨s1, v⟩
  · rfl
  · rw [ok_bind]
    dsimp only
    rcases HOO.runRounds cfg s1 rest with _ | ⟨_, _⟩ <;> rfl

variable {g : Box α → Box α} {gd : Draw α → Draw α}

theorem hoo_round_map (hg : BoxEquivariant g gd) (cfg : HOOCfg R S) (s : HOO α R S) (r : R)
    (ds : List (Draw α)) :
    HOO.round cfg (hooMapBox g s) r (ds.map gd) = mapRes (hooMapBox g) id (HOO.round cfg s r ds) := by
  rw [hoo_round_eq, hoo_round_eq]
  exact mapRes_bind (hoo_pull_map g s) fun s1 _ =>
    mapRes_bind (hoo_receive_map hg cfg s1 r ds) fun _ _ => rfl

theorem hoo_runRounds_map (hg : BoxEquivariant g gd) (cfg : HOOCfg R S)
    (inputs : List (R × List (Draw α))) (s : HOO α R S) :
    HOO.runRounds cfg (hooMapBox g s) (inputs.map (fun x => (x.1, x.2.map gd))) =
      mapRes (hooMapBox g) id (HOO.runRounds cfg s inputs) := by
  induction inputs generalizing s with
  | nil => rfl
  | cons x rest ih =>
    rw [List.map_cons, hoo_runRounds_cons, hoo_runRounds_cons]
    exact mapRes_bind (hoo_round_map hg cfg s x.1 x.2) fun s1 _ => mapRes_bind (ih s1) fun _ _ => rfl

variable {K : Part α (TBSt R S) → Part α (TBSt R S) → Prop} (hK : KeptByOps K)
include hK

theorem KeptByOps.hooOp (cfg : HOOCfg R S) {s s1 : HOO α R S} {op : TBOp α R} {o : Option Nat}
    (h : hooOp cfg s op = .ok (s1, o)) : K s.P s1.P := by
  cases op with
  | pull =>
    rw [Rel.hooOp] at h
    rcases hp : HOO.pull s with _ | ⟨s2, v⟩ <;> rw [hp] at h <;> cases h
    rw [hoo_pull_P hp]
    exact hK.refl _
  | receive r ds =>
    rw [Rel.hooOp] at h
    rcases hp : HOO.receive cfg s r ds with _ | ⟨s2, ds'⟩ <;> rw [hp] at h <;> cases h
    exact hK.hoo_receive cfg hp

theorem KeptByOps.hoo_runRounds (cfg : HOOCfg R S) (inputs : List (R × List (Draw α)))
    {s s1 : HOO α R S} {H : List (Nat × R)} (h : HOO.runRounds cfg s inputs = .ok (s1, H)) :
    K s.P s1.P := by
  induction inputs generalizing s H with
  | nil => cases h; exact hK.refl _
  | cons x rest ih =>
    rw [hoo_runRounds_cons, hoo_round_eq] at h
    obtain ⟨⟨s2, v⟩, h1, h⟩ := bind_eq_ok.1 h
    obtain ⟨⟨s3, w⟩, hp, h1⟩ := bind_eq_ok.1 h1
    obtain ⟨⟨s4, ds'⟩, hr, h1⟩ := bind_eq_ok.1 h1
    obtain ⟨⟨s5, H'⟩, h2, h⟩ := bind_eq_ok.1 h
    cases h1; cases h
    exact hK.trans _ _ _ (hoo_pull_P hp ▸ hK.hoo_receive cfg hr) (ih h2)

end hoo

section hct
variable {α R S : Type} [Add α] [Sub α] [Mul α] [Div α] [OfNat α 2] [NatCast α]
variable [LE S] [DecidableLE S] [Max S] [Min S] [Inhabited S] [Inhabited R]

theorem hct_round_eq (cfg : HCTCfg R S) (s : HCT α R S) (r : R) (ds : List (Draw α)) :
    HCT.round cfg s r ds =
      HCT.pull cfg s >>= fun p => HCT.receive cfg p.1 r ds >>= fun q => pure (q.1, p.2) := by
  unfold HCT.round
  rcases HCT.pull cfg s with _ | ⟨s1, v⟩
  · rfl
  · rw [ok_bind]
    dsimp only
    rcases HCT.receive cfg s1 r ds with _ | ⟨_, _⟩ <;> rfl

theorem hct_runRounds_cons (cfg : HCTCfg R S) (s : HCT α R S) (r : R) (ds : List (Draw α))
    (rest : List (R × List (Draw α))) :
    HCT.runRounds cfg s ((r, ds) :: rest) =
      HCT.round cfg s r ds >>= fun p =>
        HCT.runRounds cfg p.1 rest >>= fun q => pure (q.1, (p.2, r) :: q.2) := by
  rw [HCT.runRounds]
  rcases HCT.round cfg s r ds with _ | ⟨s1, v⟩
  · rfl
  · rw [ok_bind]
    dsimp only
    rcases HCT.runRounds cfg s1 rest with _ | ⟨_, _⟩ <;> rfl

variable {g : Box α → Box α} {gd : Draw α → Draw α}

theorem hct_round_map (hg : BoxEquivariant g gd) (cfg : HCTCfg R S) (s : HCT α R S) (r : R)
    (ds : List (Draw α)) :
    HCT.round cfg (hctMapBox g s) r (ds.map gd) = mapRes (hctMapBox g) id (HCT.round cfg s r ds) := by
  rw [hct_round_eq, hct_round_eq]
  exact mapRes_bind (hct_pull_map g cfg s) fun s1 _ =>
    mapRes_bind (hct_receive_map hg cfg s1 r ds) fun _ _ => rfl

theorem hct_runRounds_map (hg : BoxEquivariant g gd) (cfg : HCTCfg R S)
    (inputs : List (R × List (Draw α))) (s : HCT α R S) :
    HCT.runRounds cfg (hctMapBox g s) (inputs.map (fun x => (x.1, x.2.map gd))) =
      mapRes (hctMapBox g) id (HCT.runRounds cfg s inputs) := by
  induction inputs generalizing s with
  | nil => rfl
  | cons x rest ih =>
    rw [List.map_cons, hct_runRounds_cons, hct_runRounds_cons]
    exact mapRes_bind (hct_round_map hg cfg s x.1 x.2) fun s1 _ => mapRes_bind (ih s1) fun _ _ => rfl

end hct

section zoom
variable {α R S : Type} [Add α] [Sub α] [Mul α] [Div α] [OfNat α 2] [NatCast α]
variable [LE α] [DecidableLE α] [LE S] [DecidableLE S] [Inhabited S]

/-- a round with `q` extra queries is `pull; receive` -/
theorem zoomRoundQ_eq_round (cfg : ZoomCfg R S) (s : Zooming α S) (q : Nat) (r : R)
    (ds : List (Draw α)) :
    zoomRoundQ cfg s (q, r, ds) =
      Zooming.pull cfg s >>= fun p => Zooming.receive cfg p.1 r ds >>= fun q => pure (q.1, p.2) := by
  rw [← pullN_pull_bind (pn := zoomPullN cfg) (fun _ => rfl)
    (fun q s => by rw [zoomPullN]; rcases Zooming.pull cfg s with _ | ⟨_, _⟩ <;> rfl)
    (fun _ _ _ => zoom_pull_idem cfg) _ q s]
  unfold zoomRoundQ
  rcases zoomPullN cfg q s with _ | s0
  · rfl
  · rw [ok_bind]
    dsimp only
    rcases Zooming.pull cfg s0 with _ | ⟨s1, v⟩
    · rfl
    · rw [ok_bind]
      dsimp only
      rcases Zooming.receive cfg s1 r ds with _ | ⟨_, _⟩ <;> rfl

end zoom

end RL
end PyXAB
