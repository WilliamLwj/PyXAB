/-
  HCT / VHCT: the invariant `HCTInv` node by node; `pull` never raises, changes only thresholds
  and the stored path (`HCTPulled`) and leaves a state ready for `receive` (`HCTReady`).
-/
import PyXABProofs.Lemmas.TBB_HOO

set_option linter.unusedSectionVars false

namespace PyXAB
namespace TBB

open Tree
open TBA (PRel)
open Part (stOf_eq)

variable {α R S : Type} [Add α] [Sub α] [Mul α] [Div α] [OfNat α 2] [NatCast α]
variable [LinearOrder S] [Inhabited S] [Inhabited R]

/-- the part of `HCTInv` that speaks about one payload -/
def HCTNodeInv (cfg : HCTCfg R S) (st : TBSt R S) : Prop :=
  (st.count = 0 → st.u = cfg.inf) ∧
  (0 < st.count → st.mean = cfg.meanOf st.rewards st.count) ∧
  st.var = if cfg.variance = true ∧ 0 < st.count then cfg.varOf st.rewards else cfg.var0

theorem HCTInv.nodes {cfg : HCTCfg R S} {s : HCT α R S} (I : HCTInv cfg s) :
    AllNodes s.P (fun _ nd => HCTNodeInv cfg nd.st) :=
  fun i nd h => ⟨I.unvisited i nd h, I.mean_ok i nd h, I.var_ok i nd h⟩

theorem HCTInv.of_nodes {cfg : HCTCfg R S} {s : HCT α R S} (W : WF s.P)
    (hroot : ∃ r cs, s.P.nodes[0]? = some r ∧ r.children = some cs) (hit : 1 ≤ s.iteration)
    (hn : AllNodes s.P (fun _ nd => HCTNodeInv cfg nd.st))
    (hb : ∀ v, 0 < v → BRec s.P v) : HCTInv cfg s :=
  ⟨W, hroot, hit, fun v nd h => (hn v nd h).1, fun v nd h => (hn v nd h).2.1,
    fun v nd h => (hn v nd h).2.2, hb⟩

theorem st0_inv (cfg : HCTCfg R S) : HCTNodeInv cfg (HCT.st0 cfg) :=
  ⟨fun _ => rfl, fun h => absurd h (Nat.lt_irrefl 0),
    (if_neg (fun h : _ ∧ 0 < (HCT.st0 cfg).count => Nat.lt_irrefl 0 h.2)).symm⟩

namespace SameButTau
variable {P Q : Part α (TBSt R S)}

theorem prel (h : SameButTau P Q) : PRel (SetR fun st t => { st with tau := t }) P Q :=
  prel_setR h.kind h.layers h.depth h.len h.node

theorem refl (P : Part α (TBSt R S)) : SameButTau P P :=
  ⟨rfl, rfl, rfl, rfl, fun _ nd h => ⟨nd.st.tau, h⟩⟩

theorem of_upd {F : Nat → Node α (TBSt R S) → TBSt R S} (h : Upd P Q F)
    (hF : ∀ j nd, P.nodes[j]? = some nd → ∃ t, F j nd = { nd.st with tau := t }) :
    SameButTau P Q :=
  ⟨h.kind, h.layers, h.depth, h.prel.len, fun j nd hj => by
    obtain ⟨t, ht⟩ := hF j nd hj
    exact ⟨t, by rw [h.get hj, ht]⟩⟩

theorem stOf_b (h : SameButTau P Q) (c : Nat) : (Q.stOf c).b = (P.stOf c).b := by
  cases hp : P.nodes[c]? with
  | none => simp only [Part.stOf, hp, ListAux.getElem?_eq_none_of_length_eq h.len hp]
  | some nd =>
    obtain ⟨t, ht⟩ := h.node c nd hp
    rw [stOf_eq hp, stOf_eq ht]

theorem brec (h : SameButTau P Q) {v : Nat} (hb : BRec P v) : BRec Q v := by
  intro nd' hnd'
  obtain ⟨nd, t, h1, rfl⟩ := setR_inv h.prel hnd'
  obtain ⟨b1, b2⟩ := hb nd h1
  refine ⟨b1, fun cs hcs => ?_⟩
  obtain ⟨M, m1, m2, c, m3, m4⟩ := b2 cs hcs
  exact ⟨M, m1, fun c hc => by rw [h.stOf_b]; exact m2 c hc, c, m3, by rw [h.stOf_b]; exact m4⟩

end SameButTau

/-- `HCTInv` does not depend on thresholds, the stored path or `tau_h`. -/
theorem HCTInv.transfer {cfg : HCTCfg R S} {s s' : HCT α R S} (I : HCTInv cfg s)
    (h : SameButTau s.P s'.P) (hit : s'.iteration = s.iteration) : HCTInv cfg s' := by
  obtain ⟨r, cs, h1, h2⟩ := I.root_split
  obtain ⟨t, ht⟩ := h.node 0 r h1
  exact HCTInv.of_nodes (h.prel.wf I.wf) ⟨_, cs, ht, h2⟩ (hit ▸ I.iter_pos)
    (setR_all h.prel (fun _ _ _ q => q) I.nodes) (fun v hv => h.brec (I.brec v hv))

/-- Payload of a node after `refreshTau` has rewritten its threshold. -/
def tauG (cfg : HCTCfg R S) (dt : S) (nd : Node α (TBSt R S)) : TBSt R S :=
  { nd.st with tau := cfg.tauNode dt nd.depth nd.st.var }

def tauLayer (cfg : HCTCfg R S) (dt : S) (P : Part α (TBSt R S)) (layer : List Nat) :
    Part α (TBSt R S) :=
  layer.foldl (fun P id =>
    match P.nodes[id]? with
    | none => P
    | some nd => P.modifySt id (fun st => { st with tau := cfg.tauNode dt nd.depth st.var })) P

/-- One iteration of the loop of `refreshTau`. -/
def tauStep (cfg : HCTCfg R S) (dt : S) (P : Part α (TBSt R S)) (h : Nat) :
    Except Err (Part α (TBSt R S)) :=
  match P.layers[h]? with
  | none => .error .indexError
  | some layer => .ok (tauLayer cfg dt P layer)

theorem refreshTau_eq_foldlM (cfg : HCTCfg R S) (dt : S) (P : Part α (TBSt R S)) :
    HCT.refreshTau cfg dt P = (List.range' 1 P.depth).foldlM (tauStep cfg dt) P := rfl

theorem tauLayer_upd (cfg : HCTCfg R S) (dt : S) (P : Part α (TBSt R S)) {layer : List Nat}
    (hnd : layer.Nodup) :
    Upd P (tauLayer cfg dt P layer) (fun j nd => if j ∈ layer then tauG cfg dt nd else nd.st) := by
  have e : tauLayer cfg dt P layer =
      layer.foldl (fun P id => P.modifyNode id (fun nd => { nd with st := tauG cfg dt nd })) P := by
    unfold tauLayer
    congr 1
    funext Q id
    exact Part.guarded_modifySt (P := Q) (i := id)
      (fun (nd : Node α (TBSt R S)) (st : TBSt R S) =>
        { st with tau := cfg.tauNode dt nd.depth st.var })
      (fun h => by simp only [h]) (fun nd h => by simp only [h])
  exact e ▸ foldl_modifyNode_upd (tauG cfg dt) hnd P

theorem refreshTau_loop (cfg : HCTCfg R S) (dt : S) {P : Part α (TBSt R S)} (W : WF P)
    (n : Nat) : n ≤ P.depth → ∃ Q, (List.range' 1 n).foldlM (tauStep cfg dt) P = .ok Q ∧
      Upd P Q (fun _ nd => if 1 ≤ nd.depth ∧ nd.depth ≤ n then tauG cfg dt nd else nd.st) := by
  induction n with
  | zero =>
    exact fun _ => ⟨P, rfl, (Upd.refl P).congr (fun j nd _ =>
      (if_neg (fun h => Nat.not_succ_le_zero _ (Nat.le_trans h.1 h.2))).symm)⟩
  | succ n ih =>
    intro hn
    obtain ⟨Q, h1, U⟩ := ih (Nat.le_of_succ_le hn)
    have W' : WF Q := U.prel.wf W
    obtain ⟨l, hl⟩ : ∃ l, Q.layers[n + 1]? = some l :=
      ⟨_, List.getElem?_eq_getElem (by rw [U.layers, W.layers_len]; exact Nat.lt_succ_of_le hn)⟩
    refine ⟨tauLayer cfg dt Q l, ?_, ?_⟩
    · rw [List.range'_1_concat, List.foldlM_append, h1]
      simp only [List.foldlM_cons, List.foldlM_nil, bind, Except.bind, tauStep,
        Nat.add_comm 1 n, hl]
      rfl
    · -- the layer `l` holds the nodes of depth `n + 1`, not touched so far
      refine (U.comp (tauLayer_upd cfg dt Q (W'.layer_nodup hl))).congr (fun j nd hj => ?_)
      have hjl : j ∈ l ↔ nd.depth = n + 1 := (W'.mem_layer_iff_depth hl (U.get hj) :)
      by_cases hd : nd.depth = n + 1
      · rw [if_pos (hjl.2 hd),
          if_neg (fun h => Nat.not_succ_le_self n (Nat.le_trans (Nat.le_of_eq hd.symm) h.2)),
          if_pos ⟨Nat.le_trans (Nat.succ_le_succ (Nat.zero_le n)) (Nat.le_of_eq hd.symm),
            Nat.le_of_eq hd⟩]
      · have hiff : (1 ≤ nd.depth ∧ nd.depth ≤ n + 1) ↔ (1 ≤ nd.depth ∧ nd.depth ≤ n) :=
          and_congr_right (fun _ =>
            ⟨fun h => Nat.le_of_lt_succ (Nat.lt_of_le_of_ne h hd), Nat.le_succ_of_le⟩)
        simp only [mt hjl.1 hd, if_false, hiff]

/-- `refreshTau` never raises on a well-formed tree; it sets the threshold of every non-root
node and nothing else. -/
theorem refreshTau_spec (cfg : HCTCfg R S) (dt : S) {P : Part α (TBSt R S)} (W : WF P) :
    ∃ Q, HCT.refreshTau cfg dt P = .ok Q ∧
      Upd P Q (fun _ nd => if 1 ≤ nd.depth then tauG cfg dt nd else nd.st) := by
  obtain ⟨Q, h1, U⟩ := refreshTau_loop cfg dt W P.depth (Nat.le_refl _)
  refine ⟨Q, (refreshTau_eq_foldlM cfg dt P).trans h1, U.congr (fun j nd hj => ?_)⟩
  simp only [and_iff_left (W.depth_le j nd hj)]

/-- The thresholds `pull` writes before it descends (VHCT: `tau` of every cell, HCT: the table
`tau_h`): this never raises and changes thresholds only, as `HCTPulled` says. -/
theorem pull_tau_ok (cfg : HCTCfg R S) {s : HCT α R S} (W : WF s.P) :
    ∃ P1 tauH,
      ((cfg.variance = true ∧
          HCT.refreshTau cfg (cfg.dtHalf (tPlus s.iteration)) s.P = .ok P1 ∧ tauH = s.tauH) ∨
        (cfg.variance = false ∧ P1 = s.P ∧ tauH = HCT.newTauH cfg s)) ∧
      SameButTau s.P P1 ∧
      (cfg.variance = true → tauH = s.tauH ∧
        ∀ (j : Nat) (nd : Node α (TBSt R S)), P1.nodes[j]? = some nd → 1 ≤ nd.depth →
          nd.st.tau = cfg.tauNode (cfg.dtHalf (tPlus s.iteration)) nd.depth nd.st.var) := by
  cases hv : cfg.variance with
  | false =>
    exact ⟨_, _, Or.inr ⟨rfl, rfl, rfl⟩, SameButTau.refl _, nofun⟩
  | true =>
    obtain ⟨P1, hP1, U⟩ := refreshTau_spec cfg (cfg.dtHalf (tPlus s.iteration)) W
    refine ⟨P1, s.tauH, Or.inl ⟨rfl, hP1, rfl⟩, SameButTau.of_upd U (fun j nd _ => ?_),
      fun _ => ⟨rfl, fun j nd' hnd' hd => ?_⟩⟩
    · by_cases h1 : 1 ≤ nd.depth
      · exact ⟨_, if_pos h1⟩
      · exact ⟨nd.st.tau, if_neg h1⟩
    · obtain ⟨nd, _, rfl⟩ := U.get_inv hnd'
      simp only [show 1 ≤ nd.depth from hd, if_true, tauG]

/-- what the loop test returned, in terms of the threshold `thr` of the new state -/
theorem pullCont_eq {cfg : HCTCfg R S} {s' : HCT α R S} {nd : Node α (TBSt R S)} {go : Bool}
    (h : HCT.pullCont cfg s'.tauH nd = .ok go) :
    go = cfg.countGE nd.st.count (thr cfg s' nd) := by
  unfold HCT.pullCont at h
  unfold thr
  cases hv : cfg.variance with
  | true =>
    simp only [hv, if_true, Except.ok.injEq] at h ⊢
    exact h.symm
  | false =>
    simp only [hv, Bool.false_eq_true, if_false] at h ⊢
    cases ht : s'.tauH[nd.depth]? with
    | none => rw [ht] at h; cases h
    | some t =>
      simp only [ht, Except.ok.injEq] at h
      exact h.symm

/-- a greedy run with the loop test of HCT is a greedy path for the stop condition `stopHCT` -/
theorem hct_toPath {cfg : HCTCfg R S} {s' : HCT α R S} {rest : List Nat} {v : Nat}
    (h : GreedyIdx s'.P (HCT.pullCont cfg s'.tauH) (0 :: rest))
    (hv : (0 :: rest).getLast? = some v) :
    GreedyPath s'.P (stopHCT cfg s') (0 :: rest) v := by
  refine h.toPath hv (fun nd hc hch hs => ?_) (fun nd go hc hor => ?_)
  · have := pullCont_eq hc
    rcases hs with hs | hs
    · exact hch hs
    · rw [hs] at this; cases this
  · have := pullCont_eq hc
    rcases hor with rfl | hch
    · exact Or.inr this.symm
    · exact Or.inl hch

/-- **`pull`** (HCT / VHCT): never raises from an invariant state; the new state differs by
thresholds and path only, and is ready for `receive`. -/
theorem HCT_pull_full {cfg : HCTCfg R S} {s : HCT α R S} (I : HCTInv cfg s) :
    ∃ s' v, HCT.pull cfg s = .ok (s', v) ∧ HCTPulled cfg s s' v ∧ HCTReady cfg s' v := by
  obtain ⟨P1, tauH, h1, hsame, hB⟩ := pull_tau_ok cfg I.wf
  have hA : cfg.variance = false → P1 = s.P ∧ tauH = HCT.newTauH cfg s := fun hv =>
    h1.elim (fun h => by rw [h.1] at hv; cases hv) (·.2)
  have W1 : WF P1 := hsame.prel.wf I.wf
  have hlen : cfg.variance = false → tauH.length = P1.depth + 1 := by
    intro hv
    obtain ⟨rfl, rfl⟩ := hA hv
    exact HCT.length_newTauH cfg s
  obtain ⟨rest, v, hdesc, hlast, hidx⟩ := descend_root W1 (HCT.pullCont cfg tauH)
    (fun i nd hnd => HCT.pullCont_isOk
      (fun hv => hlen hv ▸ Nat.lt_succ_of_le (W1.depth_le i nd hnd)))
  have hpath := hct_toPath (s' := { s with P := P1, tauH := tauH, path := some (0 :: rest) })
    hidx hlast
  exact ⟨_, v, HCT.pull_eq_ok.2 ⟨P1, tauH, _, h1, hdesc, hlast, rfl⟩,
    ⟨hsame, rfl, hA, hB, _, rfl, hpath⟩, ⟨I.transfer hsame rfl, ⟨_, rfl, hpath⟩, hlen⟩⟩

end TBB
end PyXAB
