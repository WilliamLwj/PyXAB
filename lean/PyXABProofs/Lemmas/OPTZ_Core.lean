/-
  The optimism lemma of Zooming (`Props/ZoomingOptimism.lean`) at the level of a single state
  satisfying the invariant `Cover` of C11, and an executable test for `Optimistic` used by the
  non-vacuity examples.
-/
import PyXABProofs.Lemmas.ZM_Run
import PyXABProofs.Lemmas.ZM_Pull
import PyXABProofs.Spec.OptZSpec

set_option linter.unusedSectionVars false

namespace PyXAB
namespace OPTZ
open Zooming ZM _root_.PyXAB.Tree

section
variable {α R S : Type} [LinearOrder S]

/-- What is known of the `pull` that succeeds holds of any given successful `pull` (the model is
deterministic). -/
theorem of_pull_ok {cfg : ZoomCfg R S} {s s1 : Zooming α S} {i : Nat} {pt : List α}
    {Q : Arm α S → Prop}
    (h : ∃ i a, s.arms[i]? = some a ∧ pull cfg s = .ok ({ s with best := some i }, i, a.pt) ∧ Q a)
    (hp : pull cfg s = .ok (s1, i, pt)) :
    ∃ a, s.arms[i]? = some a ∧ pt = a.pt ∧ s1 = { s with best := some i } ∧ Q a := by
  obtain ⟨i', a, h1, h2, h3⟩ := h
  obtain ⟨rfl, rfl, rfl⟩ : _ ∧ i' = i ∧ a.pt = pt := by
    simpa only [Except.ok.injEq, Prod.mk.injEq] using h2.symm.trans hp
  exact ⟨a, h1, rfl, rfl, h3⟩

end

section state
variable {α R S : Type} [LinearOrder α]

/-- In a `Cover` state every point of the domain lies in the (closed) cell of some active arm;
that cell is a leaf of depth `≥ 1` of the arena and also contains the arm's own point. -/
theorem cover_exists {root : Box α} {s : Zooming α S} (hC : Cover root s) {xstar : List α}
    (hx : Box.Mem root xstar) :
    ∃ a, CoversAt s xstar a ∧ ∃ nd, LeafAt s.P a.cell nd ∧ 1 ≤ nd.depth ∧
      Box.Mem nd.box xstar ∧ Box.Mem nd.box a.pt := by
  obtain ⟨c, hc, hcx⟩ := (hC.arm_cells_tile.2.1 xstar).1 hx
  obtain ⟨a, ha, rfl⟩ := List.mem_map.1 hc
  obtain ⟨nd, hl, hd, hp⟩ := hC.arm_leaf a ha
  exact ⟨a, ⟨ha, hcx⟩, nd, hl, hd, cellBox_eq hl.1 ▸ hcx, hp⟩

variable [LinearOrder S]

/-- `pull` from a `Cover` state: it succeeds, returns a position `i` of `arms` and the point of
the arm `a` stored there, `a` maximises the index over all active arms, and some active arm
responsible for `xstar` exists — so the index of `a` dominates the index of that arm. -/
theorem pull_dominates (cfg : ZoomCfg R S) {root : Box α} {s : Zooming α S} (hC : Cover root s)
    (hbot : NegInfLe cfg s) {xstar : List α} (hx : Box.Mem root xstar) :
    ∃ i a, s.arms[i]? = some a ∧ pull cfg s = .ok ({ s with best := some i }, i, a.pt) ∧
      (∀ b ∈ s.arms, idx cfg s.phase b ≤ idx cfg s.phase a) ∧
      ∃ c, CoversAt s xstar c ∧ idx cfg s.phase c ≤ idx cfg s.phase a := by
  obtain ⟨i, a, h1, h2, h3, _⟩ := pull_spec cfg s hC.arms_ne_nil hbot
  obtain ⟨c, hc, _⟩ := cover_exists hC hx
  exact ⟨i, a, h1, h2, h3, c, hc, h3 c hc.1⟩

/-- In an optimistic `Cover` state the arm which `pull` returns has index `≥ fstar`. -/
theorem pull_optimistic (cfg : ZoomCfg R S) {root : Box α} {s : Zooming α S} (hC : Cover root s)
    (hbot : NegInfLe cfg s) {xstar : List α} (hx : Box.Mem root xstar) {fstar : S}
    (hO : Optimistic cfg s s.phase xstar fstar) :
    ∃ i a, s.arms[i]? = some a ∧ pull cfg s = .ok ({ s with best := some i }, i, a.pt) ∧
      fstar ≤ idx cfg s.phase a ∧ ∀ b ∈ s.arms, idx cfg s.phase b ≤ idx cfg s.phase a := by
  obtain ⟨i, a, h1, h2, h3, c, hc, hca⟩ := pull_dominates cfg hC hbot hx
  exact ⟨i, a, h1, h2, le_trans (hO c hc.1 hc.2) hca, h3⟩

end state

section check
variable {α R S : Type} [LinearOrder α] [LinearOrder S]

/-- executable version of `Optimistic` for points of the right dimension -/
def optCheck (cfg : ZoomCfg R S) (s : Zooming α S) (ph : Nat) (x : List α) (f : S) : Bool :=
  s.arms.all (fun a => !(contains (cellBox s.P a.cell) x) || decide (f ≤ idx cfg ph a))

theorem optimistic_of_check {cfg : ZoomCfg R S} {s : Zooming α S} {ph : Nat} {x : List α} {f : S}
    (h : optCheck cfg s ph x f = true) : Optimistic cfg s ph x f := by
  intro a ha hm
  have h1 := List.all_eq_true.1 h a ha
  have h2 : contains (cellBox s.P a.cell) x = true :=
    (contains_iff (Box.Mem.length_eq hm).symm).2 hm
  simpa [h2] using h1

/-- a witness against `Optimistic`: an arm (given by its position `j`) whose cell has the
dimension of `x` and contains `x`, and whose index is below `f` -/
theorem not_optimistic_of_witness {cfg : ZoomCfg R S} {s : Zooming α S} {ph : Nat} {x : List α}
    {f : S} (j : Nat)
    (h : (s.arms[j]?.map fun a => decide ((cellBox s.P a.cell).length = x.length) &&
      contains (cellBox s.P a.cell) x && decide (idx cfg ph a < f)) = some true) :
    ¬ Optimistic cfg s ph x f := by
  intro hO
  cases ha : s.arms[j]? with
  | none => rw [ha] at h; cases h
  | some a =>
    rw [ha] at h
    simp only [Option.map_some, Option.some.injEq, Bool.and_eq_true, decide_eq_true_eq] at h
    have hm := List.mem_of_getElem? ha
    exact absurd (hO a hm ((contains_iff h.1.1).1 h.1.2)) (not_le_of_gt h.2)

end check

end OPTZ
end PyXAB
