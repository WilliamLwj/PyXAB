/-
  The B-value of the root.  `updateBackwardTree` never writes the root (`TBB.backward_spec`) and no
  other operation of T-HOO / HCT / VHCT lowers a B-value equal to `inf`, so in every state
  reachable by rounds `pull; receive` (`TBB.HOORun`, `TBB.HCTRun`) the root still carries its
  initial B-value `cfg.inf` (`HOORun.rootB`, `HCTRun.rootB`).  With `inf` a top element this gives
  `B ≥ fstar` at the root as well, whatever `fstar`.
-/
import PyXABProofs.Lemmas.OPTH_Run

set_option linter.unusedSectionVars false
set_option linter.unusedVariables false

namespace PyXAB
namespace OPTH
open _root_.PyXAB.Tree TBA TT TBB

section generic
variable {α R S : Type}

/-- the root cell carries the B-value `inf` -/
def RootB (inf : S) (P : Part α (TBSt R S)) : Prop :=
  ∃ r, P.nodes[0]? = some r ∧ r.st.b = inf

variable [Add α] [Sub α] [Mul α] [Div α] [OfNat α 2] [NatCast α]

theorem RootB.makeChildren {inf : S} {P P' : Part α (TBSt R S)} {s0 : TBSt R S} {p : Nat}
    {nl : Bool} {d : Draw α} (hR : RootB inf P) (h : P.makeChildren s0 p nl d = .ok P') :
    RootB inf P' := by
  obtain ⟨nd, hp⟩ := Part.makeChildren_valid h
  obtain ⟨r, hr, hb⟩ := hR
  exact ⟨_, Part.makeChildren_old hp h hr, by split <;> exact hb⟩

theorem RootB.expand {inf : S} {P P' : Part α (TBSt R S)} {s0 : TBSt R S} {p : Nat}
    {ds ds' : List (Draw α)} (hR : RootB inf P) (h : P.expand s0 p ds = .ok (P', ds')) :
    RootB inf P' := by
  obtain ⟨nd, d, _, _, hm⟩ := Part.expand_eq_ok.1 h
  exact hR.makeChildren hm

end generic

variable {α R S : Type} [Add α] [Sub α] [Mul α] [Div α] [OfNat α 2] [NatCast α]
variable [LinearOrder S] [Inhabited S] [Inhabited R]

/-- `updateBackwardTree` does not touch the root of a well-formed tree -/
theorem RootB.backward {inf negInf : S} (hbot : ∀ x, negInf ≤ x) {P Q : Part α (TBSt R S)}
    (W : WF P) (hR : RootB inf P) (h : backward negInf P = .ok Q) : RootB inf Q := by
  obtain ⟨r, hr, hb⟩ := hR
  obtain ⟨Q', h1, _, h3, _⟩ := backward_spec hbot W
  obtain rfl := Except.ok.inj (h.symm.trans h1)
  exact ⟨r, h3.trans hr, hb⟩

omit [Add α] [Sub α] [Mul α] [Div α] [OfNat α 2] [NatCast α] [Inhabited S] [Inhabited R] in
/-- When the root carries `B = inf` and `inf` is a top element, every cell of an optimistic path
has `B ≥ fstar`, the root included. -/
theorem PathOptimistic.top {inf : S} (htop : ∀ x, x ≤ inf) {P : Part α (TBSt R S)}
    (hR : RootB inf P) {path : List Nat} {fstar : S} (hP : PathOptimistic P path fstar) :
    ∀ p ∈ path, ∃ nd, P.nodes[p]? = some nd ∧ fstar ≤ nd.st.b ∧ fstar ≤ nd.st.u := by
  intro p hp
  obtain ⟨nd, hnd, hu, hb⟩ := hP p hp
  refine ⟨nd, hnd, ?_, hu⟩
  rcases Nat.eq_zero_or_pos p with rfl | h0
  · obtain ⟨r, hr, hrb⟩ := hR
    obtain rfl := getElem?_inj hr hnd
    exact hrb ▸ htop _
  · exact hb h0

theorem HOOStages.rootB {cfg : HOOCfg R S} {s s' : HOO α R S} {v : Nat} {r : R}
    {ds ds' : List (Draw α)} {path : List Nat} {nd : Node α (TBSt R S)}
    {P3 : Part α (TBSt R S)} (T : HOOStages cfg s s' v r ds ds' path nd P3)
    (hR : RootB cfg.inf s.P) : RootB cfg.inf s'.P := by
  obtain ⟨r0, hr0, hb⟩ := hR
  obtain ⟨x3, g1, _, g3, _⟩ := T.grow.old 0 _ (T.upd.get hr0)
  refine ⟨x3, T.root.trans g1, ?_⟩
  rw [g3]
  exact (hooF_b cfg r path 0 r0).elim id (fun h => h.2.trans hb)

/-- **The root keeps `B = inf` along every run of T-HOO.** -/
theorem HOORun.rootB {cfg : HOOCfg R S} (hbot : ∀ x, cfg.negInf ≤ x) {k : Kind} {root : Box α}
    {s : HOO α R S} (h : HOORun cfg k root s) : RootB cfg.inf s.P := by
  induction h with
  | init _ h =>
    obtain ⟨P1, he, rfl⟩ := HOO.init_eq_ok.1 h
    exact RootB.expand ⟨_, rfl, rfl⟩ he
  | @round s s1 s2 v r d ds ds' hrun hp hd hr ih =>
    have Rd := C05.HOO_pull_ready (C05.HOO_run_inv hbot hrun) hp
    obtain ⟨path, nd, P3, T⟩ := ListAux.of_eq_ok₂ (HOO_receive_stages hbot Rd r d ds hd) hr
    exact HOOStages.rootB T ((C05.HOO_pull_greedy hp).1 ▸ ih)

theorem HCTStages.rootB {cfg : HCTCfg R S} {s s' : HCT α R S} {v : Nat} {r : R}
    {ds ds' : List (Draw α)} {P4 : Part α (TBSt R S)} {c : Bool}
    (T : HCTStages cfg s s' v r ds ds' P4 c) (hR : RootB cfg.inf s.P) :
    RootB cfg.inf s'.P := by
  obtain ⟨r0, hr0, hb⟩ := hR
  obtain ⟨_, g1, _, x, rfl, hx⟩ := T.upd.node 0 r0 hr0
  obtain ⟨x5, g5, _, g6, _⟩ := T.grow.old 0 _ g1
  refine ⟨x5, g5, ?_⟩
  rw [g6]
  exact (hx rfl).trans ((hctF_b cfg r s.iteration v 0 r0).trans hb)

/-- **The root keeps `B = inf` along every run of HCT / VHCT.** -/
theorem HCTRun.rootB {cfg : HCTCfg R S} (hbot : ∀ x, cfg.negInf ≤ x) (htop : ∀ x, x ≤ cfg.inf)
    {k : Kind} {root : Box α} {s : HCT α R S} {ts : Nat → Nat} (h : HCTRun cfg k root s ts) :
    RootB cfg.inf s.P := by
  induction h with
  | init _ _ h =>
    obtain ⟨P1, he, rfl⟩ := HCT.init_eq_ok.1 h
    exact RootB.expand ⟨_, rfl, rfl⟩ he
  | @round s s1 s2 ts v r d ds ds' hrun hp hd hr ih =>
    have I := (C05.HCT_run_inv hbot htop hrun).1
    obtain ⟨P4, c, T⟩ := ListAux.of_eq_ok₂
      (HCT_receive_stages hbot htop (C05.HCT_pull_ready I hp) r d ds hd) hr
    obtain ⟨r0, hr0, hb⟩ := ih
    obtain ⟨t, ht⟩ := (C05.HCT_pull_greedy I hp).same.node 0 r0 hr0
    exact HCTStages.rootB T ⟨_, ht, hb⟩

end OPTH
end PyXAB
