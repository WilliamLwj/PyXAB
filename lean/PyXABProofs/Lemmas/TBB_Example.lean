/-
  Concrete configurations and runs used by the non-vacuity examples of `Props/C05.lean`
  (α := Nat, R := Nat, S := Fin 16 — a linear order in which `inf = 15` is the top and
  `negInf = 0` the bottom element).  States are obtained by evaluating the models; `hRun_ok`,
  `cRun_ok` (checked by kernel evaluation) say that every step returned `.ok`.
-/
import PyXABProofs.Lemmas.TBB_HCTRecv
import Mathlib.Order.Fin.Basic

namespace PyXAB
namespace TBB
namespace Ex

open Tree

instance : Inhabited (HOO Nat Nat (Fin 16)) := ⟨⟨default, 0, none⟩⟩
instance : Inhabited (HCT Nat Nat (Fin 16)) := ⟨⟨default, 0, [], none⟩⟩

theorem getOk_spec2 {β γ : Type} [Inhabited β] [Inhabited γ] {x : Except Err (β × γ)}
    (h : x.isOk = true) : x = .ok ((getOk x).1, (getOk x).2) := eq_ok_getOk h

/-- to show `∃ x, o = some x ∧ p x` by evaluation -/
theorem exists_of_any {β : Type} {o : Option β} {p : β → Prop} [DecidablePred p]
    (h : o.any (fun x => decide (p x)) = true) : ∃ x, o = some x ∧ p x := by
  obtain ⟨x, h1, h2⟩ := (Option.any_eq_true _ _).1 h
  exact ⟨x, h1, of_decide_eq_true h2⟩

def clamp (n : Nat) : Fin 16 := ⟨min n 15, by omega⟩

/-- the interval `[0,16]`, split at the midpoint by `BinaryPartition` -/
def dom1 : Box Nat := [⟨0, 16⟩]
def dr0 : Draw Nat := ⟨0, []⟩

def cfgH : HOOCfg Nat (Fin 16) where
  inf := 15
  negInf := 0
  mean0 := 0
  meanOf := fun rs n => clamp (rs.sum / n)
  uOf := fun m count depth => clamp (m.val + 6 / count + (3 - depth))
  expandOK := fun depth => decide (depth ≤ 2)

theorem cfgH_bot : ∀ x, cfgH.negInf ≤ x := fun x => Fin.zero_le x

def hS0 := (getOk (HOO.init cfgH .binary dom1 [dr0])).1
def hP0 := getOk (HOO.pull hS0)
def hS1 := (getOk (HOO.receive cfgH hP0.1 3 [dr0])).1
def hP1 := getOk (HOO.pull hS1)
def hS2 := (getOk (HOO.receive cfgH hP1.1 5 [dr0])).1
def hP2 := getOk (HOO.pull hS2)
def hS3 := (getOk (HOO.receive cfgH hP2.1 2 [dr0])).1
def hP3 := getOk (HOO.pull hS3)

/-- what we look at: per node `(count, u, b, children)` -/
def view (P : Part Nat (TBSt Nat (Fin 16))) :=
  P.nodes.map (fun nd => (nd.st.count, nd.st.u.val, nd.st.b.val, nd.children))

/-- Every step of three rounds and of the fourth `pull` returned, and the draws offered to
`receive` were well-formed (one evaluation of the whole run). -/
theorem hRun_ok :
    (HOO.init cfgH .binary dom1 [dr0]).isOk ∧ (HOO.pull hS0).isOk ∧
    DrawOKLen hP0.1.P.kind (dimn hP0.1.P) dr0 ∧ (HOO.receive cfgH hP0.1 3 [dr0]).isOk ∧
    (HOO.pull hS1).isOk ∧
    DrawOKLen hP1.1.P.kind (dimn hP1.1.P) dr0 ∧ (HOO.receive cfgH hP1.1 5 [dr0]).isOk ∧
    (HOO.pull hS2).isOk ∧
    DrawOKLen hP2.1.P.kind (dimn hP2.1.P) dr0 ∧ (HOO.receive cfgH hP2.1 2 [dr0]).isOk ∧
    (HOO.pull hS3).isOk := by decide +kernel

theorem hP3_eq : HOO.pull hS3 = .ok (hP3.1, hP3.2) := getOk_spec2 hRun_ok.2.2.2.2.2.2.2.2.2.2

theorem hS3_run : HOORun cfgH .binary dom1 hS3 := by
  obtain ⟨i0, p0, d0, r1, p1, d1, r2, p2, d2, r3, _⟩ := hRun_ok
  have r0 : HOORun cfgH .binary dom1 hS0 := .init (ds := [dr0]) (by decide) (getOk_spec2 i0)
  have r1 : HOORun cfgH .binary dom1 hS1 :=
    .round (d := dr0) (ds := []) r0 (getOk_spec2 p0) d0 (getOk_spec2 r1)
  have r2 : HOORun cfgH .binary dom1 hS2 :=
    .round (d := dr0) (ds := []) r1 (getOk_spec2 p1) d1 (getOk_spec2 r2)
  exact .round (d := dr0) (ds := []) r2 (getOk_spec2 p2) d2 (getOk_spec2 r3)

def cfgC (var : Bool) : HCTCfg Nat (Fin 16) where
  variance := var
  inf := 15
  negInf := 0
  zero := 0
  var0 := 1
  meanOf := fun rs n => clamp (rs.sum / n)
  varOf := fun rs => clamp (rs.length + 1)
  dtHalf := fun tp => clamp tp
  dtOne := fun tp => clamp tp
  tauH := fun _ h => clamp h
  tauNode := fun _ depth var => clamp (depth + var.val - 2)
  uOf := fun dt depth mean count var => clamp (mean.val + (dt.val + var.val) / count + (3 - depth))
  countGE := fun n t => decide (t.val ≤ n)

theorem cfgC_bot (var : Bool) : ∀ x, (cfgC var).negInf ≤ x := fun x => Fin.zero_le x
theorem cfgC_top (var : Bool) : ∀ x, x ≤ (cfgC var).inf := fun x => Fin.le_last x

def cS0 (var : Bool) := (getOk (HCT.init (cfgC var) .binary dom1 [dr0])).1
def cP0 (var : Bool) := getOk (HCT.pull (cfgC var) (cS0 var))
def cS1 (var : Bool) := (getOk (HCT.receive (cfgC var) (cP0 var).1 3 [dr0])).1
def cP1 (var : Bool) := getOk (HCT.pull (cfgC var) (cS1 var))
def cS2 (var : Bool) := (getOk (HCT.receive (cfgC var) (cP1 var).1 5 [dr0])).1
def cP2 (var : Bool) := getOk (HCT.pull (cfgC var) (cS2 var))
def cS3 (var : Bool) := (getOk (HCT.receive (cfgC var) (cP2 var).1 2 [dr0])).1
def cP3 (var : Bool) := getOk (HCT.pull (cfgC var) (cS3 var))
def cS4 (var : Bool) := (getOk (HCT.receive (cfgC var) (cP3 var).1 2 [dr0])).1
def cP4 (var : Bool) := getOk (HCT.pull (cfgC var) (cS4 var))

/-- ghost time stamps along the run -/
def cT1 (var : Bool) := tsStep (cP0 var).1.iteration (cP0 var).1.P (cP0 var).2 (fun _ => 0)
def cT2 (var : Bool) := tsStep (cP1 var).1.iteration (cP1 var).1.P (cP1 var).2 (cT1 var)
def cT3 (var : Bool) := tsStep (cP2 var).1.iteration (cP2 var).1.P (cP2 var).2 (cT2 var)
def cT4 (var : Bool) := tsStep (cP3 var).1.iteration (cP3 var).1.P (cP3 var).2 (cT3 var)

/-- Every step of four rounds and of the fifth `pull` returned, for HCT and VHCT, and the draws
offered to `receive` were well-formed. -/
theorem cRun_ok (var : Bool) :
    (HCT.init (cfgC var) .binary dom1 [dr0]).isOk ∧ (HCT.pull (cfgC var) (cS0 var)).isOk ∧
    DrawOKLen (cP0 var).1.P.kind (dimn (cP0 var).1.P) dr0 ∧
    (HCT.receive (cfgC var) (cP0 var).1 3 [dr0]).isOk ∧ (HCT.pull (cfgC var) (cS1 var)).isOk ∧
    DrawOKLen (cP1 var).1.P.kind (dimn (cP1 var).1.P) dr0 ∧
    (HCT.receive (cfgC var) (cP1 var).1 5 [dr0]).isOk ∧ (HCT.pull (cfgC var) (cS2 var)).isOk ∧
    DrawOKLen (cP2 var).1.P.kind (dimn (cP2 var).1.P) dr0 ∧
    (HCT.receive (cfgC var) (cP2 var).1 2 [dr0]).isOk ∧ (HCT.pull (cfgC var) (cS3 var)).isOk ∧
    DrawOKLen (cP3 var).1.P.kind (dimn (cP3 var).1.P) dr0 ∧
    (HCT.receive (cfgC var) (cP3 var).1 2 [dr0]).isOk ∧ (HCT.pull (cfgC var) (cS4 var)).isOk := by
  cases var <;> decide +kernel

theorem cP4_eq (var : Bool) : HCT.pull (cfgC var) (cS4 var) = .ok ((cP4 var).1, (cP4 var).2) :=
  getOk_spec2 (cRun_ok var).2.2.2.2.2.2.2.2.2.2.2.2.2

theorem cS4_run (var : Bool) : HCTRun (cfgC var) .binary dom1 (cS4 var) (cT4 var) := by
  obtain ⟨i0, p0, d0, r1, p1, d1, r2, p2, d2, r3, p3, d3, r4, _⟩ := cRun_ok var
  have r0 : HCTRun (cfgC var) .binary dom1 (cS0 var) (fun _ => 0) :=
    .init (ds := [dr0]) _ (by decide) (getOk_spec2 i0)
  have r1 : HCTRun (cfgC var) .binary dom1 (cS1 var) (cT1 var) :=
    .round (d := dr0) (ds := []) r0 (getOk_spec2 p0) d0 (getOk_spec2 r1)
  have r2 : HCTRun (cfgC var) .binary dom1 (cS2 var) (cT2 var) :=
    .round (d := dr0) (ds := []) r1 (getOk_spec2 p1) d1 (getOk_spec2 r2)
  have r3 : HCTRun (cfgC var) .binary dom1 (cS3 var) (cT3 var) :=
    .round (d := dr0) (ds := []) r2 (getOk_spec2 p2) d2 (getOk_spec2 r3)
  exact .round (d := dr0) (ds := []) r3 (getOk_spec2 p3) d3 (getOk_spec2 r4)

/-- per node `(count, u, b, tau, children)` -/
def viewC (P : Part Nat (TBSt Nat (Fin 16))) :=
  P.nodes.map (fun nd => (nd.st.count, nd.st.u.val, nd.st.b.val, nd.st.tau.val, nd.children))

end Ex
end TBB
end PyXAB
