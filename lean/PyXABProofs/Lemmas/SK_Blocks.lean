/-
  StroquOOL: the blocks of `pull`, one specification per block, assembled into `pull_spec`.
  The branches in which a block does nothing, or goes straight to `finish`, are also stated as
  equations: the behaviour after the end (`SK_End`) is computed with them.
-/
import PyXABProofs.Lemmas.SK_Pull

namespace PyXAB
namespace SK
open Tree TBA StroquOOL

variable {α R S : Type}

theorem advance_give (cfg : SkCfg R S) (s : StroquOOL α R S) (m p : Nat) :
    Give s (advance cfg s m p) s.curr := by
  unfold advance
  dsimp only
  split <;>
    exact ⟨Quiet.modifySt s.P m (fun st => { st with opened := true }) (fun _ => rfl)
      (fun _ => rfl), rfl, rfl, rfl, rfl, rfl⟩

/-- no `candidate` list before, `cs` built, then a block -/
theorem PullFrame.of_build {s s' : StroquOOL α R S} {cs : List (Option Nat)}
    (hnil : s.candidate = []) (hext : Ext (clearP s.P cs) s'.P) (hc : s'.candidate = cs) :
    PullFrame s s' := by
  have hq := prel_onCands (fun st : SkSt R S => { st with rewards := [] }) s.P cs
  refine ⟨hext.kind, hext.dimn.trans hq.dimn_eq, hq.len ▸ hext.len, fun i nd hi => ?_,
    fun i nd' hi => hext.new i nd' (hq.len.symm ▸ hi), fun hne => absurd hnil hne⟩
  obtain ⟨nb, b1, _, b3⟩ := hq.node i nd hi
  obtain ⟨nd', c1, c2, c3⟩ := hext.old i nb b1
  refine ⟨nd', c1, ?_, ?_⟩
  · rw [c2, b3]; split <;> rfl
  · rw [c3, b3, hc]
    simp only [hnil, true_and]
    split <;> rfl

theorem PullFrame.of_ext {s s' : StroquOOL α R S} (hext : Ext s.P s'.P)
    (hc : s'.candidate = s.candidate) : PullFrame s s' := by
  refine ⟨hext.kind, hext.dimn, hext.len, fun i nd hi => ?_, hext.new, fun _ => hc⟩
  obtain ⟨nd', a1, a2, a3⟩ := hext.old i nd hi
  refine ⟨nd', a1, a2, ?_⟩
  rw [a3, hc]
  split
  · next h => cases h.1 ▸ h.2
  · rfl

/-- What a successful `pull` from an invariant state leaves: the invariant, well-formed remaining
draws, the frame `PullFrame` between the two states, and a returned id which is in `chosen`. -/
structure Good (s s' : StroquOOL α R S) (ds' : List (Draw α)) (v : Nat) : Prop where
  inv : Inv s'
  dok : DrawsOK s'.P ds'
  frame : PullFrame s s'
  mem : v ∈ s'.chosen

section arith
variable [Add α] [Sub α] [Mul α] [Div α] [OfNat α 2] [NatCast α]

theorem rootPart_pos (cfg : SkCfg R S) (s : StroquOOL α R S) (t : Nat) (ds : List (Draw α))
    (h0 : s.currDepth ≠ 0) : rootPart cfg s t ds = pure (s, ds, none) := if_neg h0

theorem rootExpand_spec (cfg : SkCfg R S) {s s2 : StroquOOL α R S} {ds ds2 : List (Draw α)}
    (h : (if s.P.isLeaf 0 then expandAt cfg s 0 (decide (0 ≥ s.P.depth)) ds else pure (s, ds)) =
      .ok (s2, ds2)) :
    s2 = { s with P := s2.P, chosen := s2.chosen } ∧
    (Inv s → DrawsOK s.P ds → Blk s s2 ds2) := by
  by_cases hl : s.P.isLeaf 0 = true
  · rw [if_pos hl] at h
    have hf := expandAt_fields cfg h
    refine ⟨hf, fun hI hd => ?_⟩
    obtain ⟨nd, h1, h2⟩ := isLeaf_iff.1 hl
    obtain ⟨r, r1, r2, _⟩ := hI.wf.root
    obtain rfl := getElem?_inj h1 r1
    obtain ⟨I1, hext, _, hd', hc⟩ := expandAt_spec cfg hI.blank hd h1 h2 (by rw [r2]) h
    exact ⟨I1.of_blank fun m hm => hext.exp m (hI.mx m (by rw [hf] at hm; exact hm)), hd', hext,
      hc⟩
  · rw [if_neg hl, pure_ok] at h
    cases h
    exact ⟨rfl, Blk.rfl'⟩

theorem rootPart_spec (cfg : SkCfg R S) {s s1 : StroquOOL α R S} {t : Nat}
    {ds ds1 : List (Draw α)} {ret : Option Nat}
    (h : rootPart cfg s t ds = .ok (s1, ds1, ret)) :
    (s1.ended = s.ended ∧ ∀ v ∈ ret, s1.curr = v) ∧
    (Inv s → DrawsOK s.P ds → Blk s s1 ds1 ∧ ∀ v ∈ ret, v ∈ s1.chosen) := by
  by_cases h0 : s.currDepth = 0
  · unfold rootPart at h
    rw [if_pos h0, ListAux.bind_eq_ok] at h
    obtain ⟨⟨s2, ds2⟩, hx, h⟩ := h
    obtain ⟨hf, hB⟩ := rootExpand_spec cfg hx
    rw [ListAux.bind_eq_ok] at h
    obtain ⟨⟨a, b⟩, htk, h⟩ := h
    dsimp only at h
    have he : s2.ended = s.ended := by rw [hf]
    -- a child `c` of the root is handed out, the schedule moving on from `s2` to `s3`
    have key : ∀ {s3 : StroquOOL α R S} {c : Nat}, Give s2 s3 c → c = a ∨ c = b →
        (s3.ended = s.ended ∧ ∀ v ∈ some c, s3.curr = v) ∧
        (Inv s → DrawsOK s.P ds → Blk s s3 ds2 ∧ ∀ v ∈ some c, v ∈ s3.chosen) := by
      intro s3 c G hc
      refine ⟨⟨G.ended.trans he, fun v hv => Option.some.inj hv ▸ G.curr⟩, fun hI hd => ?_⟩
      have B := hB hI hd
      obtain ⟨_, a1, a2, b1, b2⟩ := twoKids_valid B.inv.wf B.inv.ar htk
      obtain ⟨B', hm⟩ := G.blk B.inv B.dok
        (B.inv.mem_chosen.2 (hc.elim (fun e => e ▸ ⟨a1, a2⟩) (fun e => e ▸ ⟨b1, b2⟩)))
      exact ⟨B.trans B', fun v hv => Option.some.inj hv ▸ hm⟩
    by_cases h1 : t ≤ cfg.hmax
    · rw [if_pos h1, pure_ok] at h
      cases h
      exact key ((Give.refl s2).setCurr a) (Or.inl rfl)
    · rw [if_neg h1] at h
      by_cases h2 : t ≤ 2 * cfg.hmax
      · rw [if_pos h2, pure_ok] at h
        cases h
        refine key ?_ (Or.inr rfl)
        split
        · exact ⟨Quiet.refl _, rfl, rfl, rfl, rfl, rfl⟩
        · exact (Give.refl s2).setCurr b
      · rw [if_neg h2, pure_ok] at h
        cases h
        exact ⟨⟨he, nofun⟩, fun hI hd => ⟨hB hI hd, nofun⟩⟩
  · rw [rootPart_pos cfg s t ds h0, pure_ok] at h
    cases h
    exact ⟨⟨rfl, nofun⟩, fun hI hd => ⟨Blk.rfl' hI hd, nofun⟩⟩

end arith

section model
variable [LE S] [DecidableLE S]

theorem handOut_late (cfg : SkCfg R S) {s : StroquOOL α R S} {p t m : Nat} (ds : List (Draw α))
    (hm : s.maxNode = some m) (h : s.timeStamp + 2 ^ (p + 1) < t) :
    handOut cfg s p t ds = finish cfg s ds := by
  have h' : s.timeStamp + 2 ^ p < t :=
    Nat.lt_of_le_of_lt (Nat.add_le_add_left (Nat.pow_le_pow_right Nat.two_pos (Nat.le_succ p)) _) h
  unfold handOut
  rw [hm]
  exact (if_neg (Nat.not_le.2 h')).trans (if_neg (Nat.not_le.2 h))

/-- `handOut` ends the run once both children of `maxNode` have had their evaluations, and
hands out one of them before. -/
theorem handOut_spec (cfg : SkCfg R S) {s s' : StroquOOL α R S} {p t : Nat}
    {ds ds' : List (Draw α)} {v : Nat} (h : handOut cfg s p t ds = .ok (s', ds', v)) :
    (s.maxNode.isSome = true ∧ s.timeStamp + 2 ^ (p + 1) < t ∧
      finish cfg s ds = .ok (s', ds', v)) ∨
    (Give s s' v ∧ ds' = ds ∧ (Inv s → v ∈ s.chosen)) := by
  cases hm : s.maxNode with
  | none => rw [handOut, hm] at h; cases h
  | some m =>
    by_cases h2 : t ≤ s.timeStamp + 2 ^ (p + 1)
    · right
      unfold handOut at h
      simp only [hm] at h
      by_cases h1 : t ≤ s.timeStamp + 2 ^ p
      · rw [if_pos h1, ListAux.bind_eq_ok] at h
        obtain ⟨⟨a, b⟩, htk, h⟩ := h
        dsimp only at h
        cases h
        refine ⟨⟨Quiet.refl _, hm.symm, rfl, rfl, rfl, rfl⟩, rfl, fun hI => ?_⟩
        obtain ⟨_, a1, a2, _⟩ := twoKids_valid hI.wf hI.ar htk
        exact hI.mem_chosen.2 ⟨a1, a2⟩
      · rw [if_neg h1, if_pos h2, ListAux.bind_eq_ok] at h
        obtain ⟨⟨a, b⟩, htk, h⟩ := h
        simp only [pure, Except.pure, Except.ok.injEq, Prod.mk.injEq] at h
        obtain ⟨e, rfl, rfl⟩ := h
        have G : Give s s' b := by
          rw [← e]
          split
          · exact (advance_give cfg s m p).setCurr b
          · exact (Give.refl s).setCurr b
        refine ⟨G, rfl, fun hI => ?_⟩
        have hP : s'.P = _ := congrArg StroquOOL.P e.symm
        rw [← hP] at htk
        obtain ⟨_, _, _, b1, b2⟩ := twoKids_valid (G.quiet.wf hI.wf) (G.quiet.K_eq.trans hI.ar) htk
        exact hI.mem_chosen.2 ⟨b1, G.quiet.len ▸ b2⟩
    · rw [handOut_late cfg ds hm (Nat.not_le.1 h2)] at h
      exact Or.inl ⟨rfl, Nat.not_le.1 h2, h⟩

theorem crossOut_late (cfg : SkCfg R S) {s : StroquOOL α R S} {t : Nat} (ds : List (Draw α))
    (h : s.candidate.length ≤ s.currLoc ∨ s.timeStamp + cfg.hmax < t) :
    crossOut cfg s t ds = finish cfg s ds := by
  unfold crossOut
  by_cases h1 : s.currLoc < s.candidate.length
  · rw [if_pos h1, if_neg (Nat.not_le.2 (h.resolve_left (Nat.not_le.2 h1)))]
  · rw [if_neg h1]

theorem crossOut_spec (cfg : SkCfg R S) {s s' : StroquOOL α R S} {t : Nat}
    {ds ds' : List (Draw α)} {v : Nat} (h : crossOut cfg s t ds = .ok (s', ds', v))
    (hb : cfg.hmax < s.currDepth) (hne : s.candidate ≠ []) :
    Out cfg s t s' v ∧ (Inv s → DrawsOK s.P ds → Blk s s' ds' ∧ v ∈ s'.chosen) := by
  by_cases hc : s.candidate.length ≤ s.currLoc ∨ s.timeStamp + cfg.hmax < t
  · rw [crossOut_late cfg ds hc] at h
    obtain ⟨rfl, F⟩ := finish_spec cfg h
    exact ⟨.fin s rfl (fun _ => Or.inr ⟨hb, hne, hc⟩) F, fun hI hd => F.blk (Blk.rfl' hI hd)⟩
  · unfold crossOut at h
    rw [if_pos (Nat.not_le.1 (not_or.1 hc).1), if_pos (Nat.not_lt.1 (not_or.1 hc).2)] at h
    cases hc : s.candidate[s.currLoc]? with
    | none => rw [hc] at h; cases h
    | some oc =>
      cases oc with
      | none => rw [hc] at h; cases h
      | some c =>
        simp only [hc, pure, Except.pure, Except.ok.injEq, Prod.mk.injEq] at h
        obtain ⟨e, rfl, rfl⟩ := h
        have G : Give s s' c := by
          rw [← e]
          split <;> exact ⟨Quiet.refl _, rfl, rfl, rfl, rfl, rfl⟩
        exact ⟨.of_give G rfl, fun hI hd => G.blk hI hd (hI.cd c (List.mem_of_getElem? hc))⟩

theorem crossPart_built (cfg : SkCfg R S) {s : StroquOOL α R S} (t : Nat) (ds : List (Draw α))
    (hne : s.candidate ≠ []) : crossPart cfg s t ds = crossOut cfg s t ds := by
  unfold crossPart
  rw [if_neg (by rw [List.isEmpty_iff]; exact hne)]
  rfl

theorem crossPart_spec (cfg : SkCfg R S) {s s' : StroquOOL α R S} {t : Nat}
    {ds ds' : List (Draw α)} {v : Nat} (h : crossPart cfg s t ds = .ok (s', ds', v))
    (hb : cfg.hmax < s.currDepth) :
    Out cfg s t s' v ∧ (Inv s → DrawsOK s.P ds → Good s s' ds' v) := by
  by_cases hne : s.candidate = []
  · unfold crossPart at h
    rw [if_pos (by rw [hne]; rfl), ListAux.bind_eq_ok] at h
    obtain ⟨sb, hbld, h⟩ := h
    obtain ⟨_, rfl⟩ := (buildCandidates_ok_iff cfg s sb).1 hbld
    obtain ⟨hO, hG⟩ := crossOut_spec cfg h hb (candList_ne_nil cfg s)
    refine ⟨hO.of_eq rfl rfl, fun hI hd => ?_⟩
    have hq := prel_onCands (fun st : SkSt R S => { st with rewards := [] }) s.P (candList cfg s)
    obtain ⟨B, hm⟩ := hG (hI.prel hq rfl rfl (fun c hc => (candList_mem cfg s hc).1) hI.cur)
      (hd.of_eq hq.kind hq.dimn_eq)
    exact ⟨B.inv, B.dok, .of_build hne B.ext B.cand, hm⟩
  · rw [crossPart_built cfg t ds hne] at h
    obtain ⟨hO, hG⟩ := crossOut_spec cfg h hb hne
    exact ⟨hO, fun hI hd =>
      have ⟨B, hm⟩ := hG hI hd
      ⟨B.inv, B.dok, .of_ext B.ext B.cand, hm⟩⟩

variable [Add α] [Sub α] [Mul α] [Div α] [OfNat α 2] [NatCast α]

theorem evalPart_idle (cfg : SkCfg R S) {s : StroquOOL α R S} (p : Nat) (ds : List (Draw α))
    (he : s.eval = false) : evalPart cfg s p ds = pure (s, ds) := by
  unfold evalPart
  rw [he]
  rfl

/-- The scan-and-expand block: only `P`, `chosen`, `maxNode`, `eval` may change, and `eval` is
off afterwards. -/
theorem evalPart_spec (cfg : SkCfg R S) {s s1 : StroquOOL α R S} {p : Nat}
    {ds ds1 : List (Draw α)} (h : evalPart cfg s p ds = .ok (s1, ds1)) :
    s1 = { s with P := s1.P, chosen := s1.chosen, maxNode := s1.maxNode, eval := false } ∧
    (Inv s → DrawsOK s.P ds → Blk s s1 ds1) := by
  cases he : s.eval with
  | false =>
    rw [evalPart_idle cfg p ds he, pure_ok] at h
    cases h
    exact ⟨by rw [← he], Blk.rfl'⟩
  | true =>
    unfold evalPart at h
    rw [if_pos he] at h
    cases hl : s.P.layers[s.currDepth]? with
    | none => rw [hl] at h; cases h
    | some layer =>
      simp only [hl] at h
      obtain ⟨hq, hmx⟩ := scanLayer_spec cfg (2 ^ p) layer s.P cfg.negInf s.maxNode
      generalize scanLayer cfg (2 ^ p) layer s.P cfg.negInf s.maxNode = res at h hq hmx
      obtain ⟨P1, mx⟩ := res
      cases mx with
      | none => cases h
      | some m =>
        simp only at h
        have hI0 : Inv s → Inv { s with P := P1, maxNode := none, eval := false } := fun hI =>
          (hI.prel (s' := { s with P := P1, eval := false }) hq rfl rfl hI.cd hI.cur).blank
        -- the new `maxNode` is the old one, hence expanded, or a cell of the current layer
        have hm : Inv s → Expd P1 m ∨ (m ∈ layer ∧ m < P1.nodes.length) := fun hI => by
          rcases hmx with hmx | ⟨m', hm', e, hv⟩
          · exact Or.inl (prel_expd hq (hI.mx m hmx.symm))
          · cases e
            exact Or.inr ⟨hm', hq.len ▸ hv⟩
        by_cases hleaf : P1.isLeaf m = true
        · rw [if_pos hleaf] at h
          have hf := expandAt_fields cfg h
          refine ⟨by rw [hf], fun hI hd => ?_⟩
          obtain ⟨nd, n1, n2⟩ := isLeaf_iff.1 hleaf
          -- a leaf cannot be the old `maxNode` (expanded), so it comes from the current layer: its
          -- depth is `currDepth`, and the flag `currDepth ≥ depth` asks for a new layer exactly
          -- when the cell lies in the deepest one
          have hdep : nd.depth = s.currDepth := by
            rcases hm hI with ⟨x, cs, x1, x2⟩ | ⟨hm', _⟩
            · cases getElem?_inj x1 n1
              rw [n2] at x2
              cases x2
            · obtain ⟨nd0, a1, a2⟩ := (hI.wf.mem_layer_iff hl m).1 hm'
              obtain ⟨nd', b1, b2, _⟩ := hq.node m nd0 a1
              obtain rfl := getElem?_inj b1 n1
              rw [b2.depth, a2]
          obtain ⟨I1, hext, hexp, hd', hc⟩ := expandAt_spec cfg (hI0 hI) (hq.ext.drawsOK hd) n1 n2
            (by rw [hdep, hq.depth]) h
          refine ⟨I1.of_blank fun m' hm' => ?_, hd', hq.ext.trans hext, hc⟩
          rw [hf] at hm'
          cases hm'
          exact hexp
        · rw [if_neg hleaf, pure_ok] at h
          cases h
          refine ⟨rfl, fun hI hd => ⟨(hI0 hI).of_blank fun m' hm' => ?_, hq.ext.drawsOK hd,
            hq.ext, rfl⟩⟩
          cases hm'
          rcases hm hI with hx | ⟨_, hv⟩
          · exact hx
          · have hnd := List.getElem?_eq_getElem hv
            obtain ⟨cs, hc⟩ := (isLeaf_eq_false_iff hnd).1 (Bool.eq_false_iff.2 hleaf)
            exact ⟨_, cs, hnd, hc⟩

theorem searchPart_spec (cfg : SkCfg R S) {s s' : StroquOOL α R S} {t : Nat}
    {ds ds' : List (Draw α)} {v : Nat} (h : searchPart cfg s t ds = .ok (s', ds', v))
    (hb : s.currDepth ≤ cfg.hmax) :
    Out cfg s t s' v ∧ (Inv s → DrawsOK s.P ds → Blk s s' ds' ∧ v ∈ s'.chosen) := by
  unfold searchPart at h
  rw [ListAux.bind_eq_ok] at h
  obtain ⟨⟨s1, ds1, ret⟩, hr, h⟩ := h
  have h0 : s.currDepth ≠ 0 → s1 = s := fun h0 => by
    rw [rootPart_pos cfg s t ds h0, pure_ok] at hr
    cases hr; rfl
  obtain ⟨⟨r1, r3⟩, hR⟩ := rootPart_spec cfg hr
  cases ret with
  | some id =>
    cases h
    exact ⟨.eval r1 (r3 _ rfl), fun hI hd => ⟨(hR hI hd).1, (hR hI hd).2 _ rfl⟩⟩
  | none =>
    simp only at h
    by_cases hp : s1.currP ≥ 0
    · rw [if_pos hp, ListAux.bind_eq_ok] at h
      obtain ⟨⟨s2, ds2⟩, he, h⟩ := h
      obtain ⟨e1, hE⟩ := evalPart_spec cfg he
      have e2 : s2.ended = s.ended := by rw [e1]; exact r1
      have hB : Inv s → DrawsOK s.P ds → Blk s s2 ds2 := fun hI hd =>
        have B := (hR hI hd).1
        B.trans (hE B.inv B.dok)
      rcases handOut_spec cfg h with ⟨c1, c2, hf⟩ | ⟨G, rfl, hv⟩
      · obtain ⟨rfl, F⟩ := finish_spec cfg hf
        refine ⟨.fin s2 e2 (fun hd0 => ?_) F, fun hI hd => F.blk (hB hI hd)⟩
        obtain rfl := h0 hd0
        have e3 : s2.currDepth = s1.currDepth := by rw [e1]
        have e4 : s2.currP = s1.currP := by rw [e1]
        exact Or.inl ⟨e3 ▸ Nat.pos_of_ne_zero hd0, e3 ▸ hb,
          Or.inr ⟨by rw [e1], c1, by rw [e4]; exact c2⟩⟩
      · refine ⟨.of_give G e2, fun hI hd => ?_⟩
        have B := hB hI hd
        obtain ⟨B', hm⟩ := G.blk B.inv B.dok (hv B.inv)
        exact ⟨B.trans B', hm⟩
    · rw [if_neg hp] at h
      obtain ⟨rfl, F⟩ := finish_spec cfg h
      refine ⟨.fin s1 r1 (fun hd0 => ?_) F, fun hI hd => F.blk (hR hI hd).1⟩
      obtain rfl := h0 hd0
      exact Or.inl ⟨Nat.pos_of_ne_zero hd0, hb, Or.inl (Int.not_le.1 hp)⟩

variable [Inhabited S] [Inhabited R]

theorem pull_spec (cfg : SkCfg R S) {s s' : StroquOOL α R S} {t : Nat}
    {ds ds' : List (Draw α)} {v : Nat} (h : pull cfg s t ds = .ok (s', ds', v)) :
    Out cfg s t s' v ∧ (Inv s → DrawsOK s.P ds → Good s s' ds' v) := by
  rw [pull_eq] at h
  -- `iteration` is recorded first; nothing looks at it
  have hI' : Inv s → Inv { s with iteration := t } := fun hI =>
    ⟨hI.wf, hI.ar, hI.mx, hI.ch, hI.cd, hI.cur⟩
  by_cases hd : s.currDepth ≤ cfg.hmax
  · rw [if_pos hd] at h
    obtain ⟨h1, hG⟩ := searchPart_spec cfg h hd
    exact ⟨h1.of_eq rfl rfl, fun hI hd =>
      have ⟨B, hm⟩ := hG (hI' hI) hd
      ⟨B.inv, B.dok, .of_ext B.ext B.cand, hm⟩⟩
  · rw [if_neg hd] at h
    obtain ⟨h1, hG⟩ := crossPart_spec cfg h (Nat.not_le.1 hd)
    exact ⟨h1.of_eq rfl rfl, fun hI hd =>
      have G := hG (hI' hI) hd
      ⟨G.inv, G.dok, ⟨G.frame.kind, G.frame.dimn, G.frame.len, G.frame.old, G.frame.new,
        G.frame.cand⟩, G.mem⟩⟩

end model

end SK
end PyXAB
