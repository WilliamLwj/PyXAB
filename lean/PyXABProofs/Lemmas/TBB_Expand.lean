/-
  The conditional `Part.expand` of the three `receive_reward`s, the "growth" frame `Grow` common
  to "expanded" and "not expanded", and the basic consequences of a stored greedy path.
-/
import PyXABProofs.Lemmas.TBB_Backward
import PyXABProofs.Lemmas.TBB_Descend

set_option linter.unusedSectionVars false

namespace PyXAB
namespace TBB

open Tree

section general
variable {α σ : Type} [Add α] [Sub α] [Mul α] [Div α] [OfNat α 2] [NatCast α]

omit [Add α] [Sub α] [Mul α] [Div α] [OfNat α 2] [NatCast α] in
theorem dimn_init (k : Kind) (domain : Box α) (s0 : σ) :
    dimn (Part.init k domain s0) = domain.length := rfl

/-- `P'` is `P`, possibly after splitting the leaf `p` into new leaves with payload `s0`. -/
structure Grow (P P' : Part α σ) (s0 : σ) (p : Nat) : Prop where
  old : ∀ (i : Nat) (x : Node α σ), P.nodes[i]? = some x →
    ∃ x', P'.nodes[i]? = some x' ∧ x'.depth = x.depth ∧ x'.st = x.st ∧
      (i ≠ p ∨ x.children ≠ none → x'.children = x.children)
  new : ∀ (i : Nat) (x' : Node α σ), P'.nodes[i]? = some x' → P.nodes[i]? = none →
    x'.st = s0 ∧ x'.children = none ∧ 0 < i

omit [Add α] [Sub α] [Mul α] [Div α] [OfNat α 2] [NatCast α] in
theorem Grow.refl (P : Part α σ) (s0 : σ) (p : Nat) : Grow P P s0 p :=
  ⟨fun _ x h => ⟨x, h, rfl, rfl, fun _ => rfl⟩, fun i x' h h' => by
    rw [h] at h'; cases h'⟩

omit [Add α] [Sub α] [Mul α] [Div α] [OfNat α 2] [NatCast α] in
theorem Step.grow {P P' : Part α σ} {s0 : σ} {p : Nat} {nd : Node α σ} (S : Step P P' s0 p nd)
    (W : WF P) (hp : P.nodes[p]? = some nd) (hleaf : nd.children = none) : Grow P P' s0 p where
  old := by
    intro i x hx
    obtain ⟨x', h1, h2, _, _, _, h3, h4, _⟩ := S.pres hp hx
    refine ⟨x', h1, h2, h3, fun hor => h4 ?_⟩
    rintro rfl
    obtain rfl := getElem?_inj hp hx
    exact hor.elim (fun h => h rfl) (fun h => h hleaf)
  new := by
    intro i x' hx' hnone
    rcases S.inv hp hx' with ⟨x, h0, _⟩ | ⟨j, _, hi, _, _, _, h1, _, h2⟩
    · rw [hnone] at h0; cases h0
    · exact ⟨h2, h1, hi ▸ Nat.lt_of_lt_of_le W.length_pos (Nat.le_add_right _ _)⟩

omit [Add α] [Sub α] [Mul α] [Div α] [OfNat α 2] [NatCast α] in
/-- A property of the single nodes survives the growth if it survives at the old nodes (whose
child list can only change at `p`, if `p` was a leaf) and holds of fresh leaves. -/
theorem Grow.all {P P' : Part α σ} {s0 : σ} {p : Nat} (G : Grow P P' s0 p)
    {A A' : Nat → Node α σ → Prop} (hP : AllNodes P A)
    (hold : ∀ i x x', x'.depth = x.depth → x'.st = x.st →
      (i ≠ p ∨ x.children ≠ none → x'.children = x.children) → A i x → A' i x')
    (hnew : ∀ i x', x'.st = s0 → x'.children = none → 0 < i → A' i x') : AllNodes P' A' := by
  intro i x' hx'
  cases hi : P.nodes[i]? with
  | none =>
    obtain ⟨h1, h2, h3⟩ := G.new i x' hx' hi
    exact hnew i x' h1 h2 h3
  | some x =>
    obtain ⟨x'', h1, h2, h3, h4⟩ := G.old i x hi
    obtain rfl := getElem?_inj h1 hx'
    exact hold i x x'' h2 h3 h4 (hP i x hi)

/-- The conditional expansion of the three `receive_reward`s: given a well-formed first draw
(and a leaf, when the test says "expand") it never raises. -/
theorem expand_if_ok (c : Bool) {P : Part α σ} (W : WF P) (s0 : σ) {p : Nat} {nd : Node α σ}
    (hp : P.nodes[p]? = some nd) (hleaf : c = true → nd.children = none) {d : Draw α}
    (ds : List (Draw α)) (hd : DrawOKLen P.kind (dimn P) d) :
    ∃ P' ds', (if c = true then P.expand s0 p (d :: ds) else .ok (P, d :: ds)) = .ok (P', ds') ∧
      WF P' ∧ Grow P P' s0 p ∧ (c = false ∧ P' = P ∨ c = true ∧ Step P P' s0 p nd) := by
  cases c with
  | false => exact ⟨P, d :: ds, rfl, W, Grow.refl P s0 p, Or.inl ⟨rfl, rfl⟩⟩
  | true =>
    obtain ⟨P', e, W', St⟩ := TBA.expand_ok W s0 hp (hleaf rfl) ds hd
    exact ⟨P', ds, e, W', Step.grow St W hp (hleaf rfl), Or.inr ⟨rfl, St⟩⟩

end general

section paths
variable {α R S : Type} [LinearOrder S] [Inhabited S] [Inhabited R]

theorem GreedyPath.nodup {P : Part α (TBSt R S)} (W : WF P) {stop : Node α (TBSt R S) → Prop}
    {path : List Nat} {v : Nat} (h : GreedyPath P stop path v) : path.Nodup :=
  (pairwise_of_consecutive path (lt_of_step W h.step)).imp (fun h => Nat.ne_of_lt h)

theorem GreedyIdx.toPath {P : Part α (TBSt R S)} {cont : Node α (TBSt R S) → Except Err Bool}
    {stop : Node α (TBSt R S) → Prop} {rest : List Nat} {v : Nat}
    (h : GreedyIdx P cont (0 :: rest)) (hv : (0 :: rest).getLast? = some v)
    (hgo : ∀ nd, cont nd = .ok true → nd.children ≠ none → ¬ stop nd)
    (hstop : ∀ nd go, cont nd = .ok go → (go = false ∨ nd.children = none) → stop nd) :
    GreedyPath P stop (0 :: rest) v where
  head := rfl
  last := hv
  step := h.step
  go := by
    intro i p hi hlt
    obtain ⟨nd, h1, h2, h3⟩ := h.go i p hi hlt
    exact ⟨nd, h1, hgo nd h2 h3⟩
  stop := by
    obtain ⟨nd, go, h1, h2, h3⟩ := h.stop v hv
    exact ⟨nd, h1, hstop nd go h2 h3⟩

/-- A greedy path only depends on the skeleton, the B-values and the stop predicate. -/
theorem GreedyPath.transfer {P Q : Part α (TBSt R S)} {stop stop' : Node α (TBSt R S) → Prop}
    {path : List Nat} {v : Nat} (h : GreedyPath P stop path v)
    (hnode : ∀ (i : Nat) (nd : Node α (TBSt R S)), P.nodes[i]? = some nd →
      ∃ nd', Q.nodes[i]? = some nd' ∧ nd'.children = nd.children ∧ nd'.st.b = nd.st.b ∧
        (stop' nd' ↔ stop nd))
    (hlen : Q.nodes.length = P.nodes.length) :
    GreedyPath Q stop' path v where
  head := h.head
  last := h.last
  step := by
    intro i p c h1 h2
    obtain ⟨nd, cs, a1, a2, a3⟩ := h.step i p c h1 h2
    obtain ⟨nd', b1, b2, _⟩ := hnode p nd a1
    have hb : (fun j => (Q.stOf j).b) = (fun j => (P.stOf j).b) := by
      funext j
      cases hj : P.nodes[j]? with
      | none => simp only [Part.stOf, hj, ListAux.getElem?_eq_none_of_length_eq hlen hj]
      | some x =>
        obtain ⟨x', c1, _, c3, _⟩ := hnode j x hj
        rw [Part.stOf_eq c1, Part.stOf_eq hj, c3]
    exact ⟨nd', cs, b1, b2.trans a2, hb ▸ a3⟩
  go := by
    intro i p hi hlt
    obtain ⟨nd, h1, h2⟩ := h.go i p hi hlt
    obtain ⟨nd', b1, _, _, b4⟩ := hnode p nd h1
    exact ⟨nd', b1, fun hs => h2 (b4.1 hs)⟩
  stop := by
    obtain ⟨nd, h1, h2⟩ := h.stop
    obtain ⟨nd', b1, _, _, b4⟩ := hnode v nd h1
    exact ⟨nd', b1, b4.2 h2⟩

end paths

end TBB
end PyXAB
