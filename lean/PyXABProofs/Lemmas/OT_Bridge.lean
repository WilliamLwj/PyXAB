/-
  Order-type tie, bridge: the rule `OT.amaxArm` (Zooming's arm choice, the model's `Zooming.argmaxArm` on plain
  values) is exactly the "last maximal element" predicate `SW.IsLastMax` the sweep-algorithm theorems are stated with.
-/
import PyXABProofs.Spec.OrderType
import PyXABProofs.Spec.SweepSpec

namespace PyXAB.OT
open PyXAB

section
variable {S : Type} [LinearOrder S]

/-- the loop body of `Zooming.argmaxArm` on plain values -/
def armStep (acc : Nat × S × Option Nat) (y : S) : Nat × S × Option Nat :=
  if acc.2.1 ≤ y then (acc.1 + 1, y, some acc.1) else (acc.1 + 1, acc.2.1, acc.2.2)

theorem amaxArm_cons (bot : S) (xs : List S) :
    amaxArm (bot :: xs) = (xs.foldl armStep (0, bot, none)).2.2.toList := by
  unfold amaxArm
  simp only [Zooming.argmaxArm, List.foldl_map]
  rfl

theorem amaxArm_bot (bot : S) : amaxArm (bot :: []) = [] := rfl

/-- values below the running maximum leave it, and the stored position, alone -/
theorem foldl_armStep_of_lt (post : List S) (n : Nat) (mx : S) (bi : Option Nat)
    (h : ∀ w ∈ post, w < mx) : post.foldl armStep (n, mx, bi) = (n + post.length, mx, bi) := by
  induction post generalizing n with
  | nil => rfl
  | cons w ws ih =>
    obtain ⟨hw, hws⟩ := List.forall_mem_cons.1 h
    rw [List.foldl_cons, armStep, if_neg (not_le.2 hw), ih _ hws, List.length_cons, Nat.add_right_comm,
      Nat.add_assoc]

/-- values `≤ y` keep the running maximum `≤ y` -/
theorem foldl_armStep_le (pre : List S) (y : S) (n : Nat) (mx : S) (bi : Option Nat) (hmx : mx ≤ y)
    (h : ∀ w ∈ pre, w ≤ y) :
    (pre.foldl armStep (n, mx, bi)).1 = n + pre.length ∧ (pre.foldl armStep (n, mx, bi)).2.1 ≤ y := by
  induction pre generalizing n mx bi with
  | nil => exact ⟨rfl, hmx⟩
  | cons w ws ih =>
    obtain ⟨hw, hws⟩ := List.forall_mem_cons.1 h
    rw [List.foldl_cons, armStep, List.length_cons, ← Nat.add_assoc, Nat.add_right_comm]
    split
    · exact ih _ _ _ hw hws
    · exact ih _ _ _ hmx hws

/-- `amaxArm` returns the position of the last maximal value: everything before it is `≤`, everything after it
is strictly `<` -/
theorem amaxArm_lastMax (bot : S) (pre post : List S) (y : S) (hbot : bot ≤ y) (hpre : ∀ w ∈ pre, w ≤ y)
    (hpost : ∀ w ∈ post, w < y) : amaxArm (bot :: (pre ++ y :: post)) = [pre.length] := by
  obtain ⟨h1, h2⟩ := foldl_armStep_le pre y 0 bot none hbot hpre
  rw [amaxArm_cons, List.foldl_append, List.foldl_cons]
  generalize pre.foldl armStep (0, bot, none) = r at h1 h2
  rw [armStep, if_pos h2, foldl_armStep_of_lt post _ _ _ hpost, h1, Nat.zero_add]
  rfl

/-- every non-empty list has a last element of maximal key -/
theorem exists_lastMax {A : Type} (g : A → S) : ∀ l : List A, l ≠ [] →
    ∃ pre m post, l = pre ++ m :: post ∧ (∀ w ∈ pre, g w ≤ g m) ∧ ∀ w ∈ post, g w < g m
  | [a], _ => ⟨[], a, [], rfl, nofun, nofun⟩
  | a :: b :: l, _ => by
    obtain ⟨pre, m, post, hl, hpre, hpost⟩ := exists_lastMax g (b :: l) (List.cons_ne_nil _ _)
    rcases le_or_gt (g a) (g m) with h | h
    · exact ⟨a :: pre, m, post, by rw [hl]; rfl, List.forall_mem_cons.2 ⟨h, hpre⟩, hpost⟩
    · refine ⟨[], a, b :: l, rfl, nofun, ?_⟩
      rw [hl]
      intro w hw
      rcases List.mem_append.1 hw with hw | hw
      · exact (hpre w hw).trans_lt h
      · rcases List.mem_cons.1 hw with rfl | hw
        · exact h
        · exact (hpost w hw).trans h

end

/-! ## the bridge to `SW.IsLastMax` -/

section bridge
variable {S : Type} [LinearOrder S]
open PyXAB.SW

/-- With every candidate scored, `IsLastMax` at the split `pre ++ m :: post` says that `m` is a last maximum of
the scores `(f ·).getD bot`. -/
theorem isLastMax_split (bot : S) (f : Nat → Option S) (pre post : List Nat) (m : Nat) (x : S)
    (hx : f m = some x) (hdef : ∀ w ∈ pre ++ m :: post, ∃ y, f w = some y) :
    ((∀ w ∈ pre, ∀ y, f w = some y → y ≤ x) ∧ (∀ w ∈ post, ∀ y, f w = some y → y < x)) ↔
      ((∀ w ∈ pre, (f w).getD bot ≤ (f m).getD bot) ∧ ∀ w ∈ post, (f w).getD bot < (f m).getD bot) := by
  rw [hx, Option.getD_some]
  constructor
  · rintro ⟨h1, h2⟩
    refine ⟨fun w hw => ?_, fun w hw => ?_⟩
    · obtain ⟨y, hy⟩ := hdef w (List.mem_append_left _ hw)
      rw [hy]
      exact h1 w hw y hy
    · obtain ⟨y, hy⟩ := hdef w (List.mem_append_right _ (List.mem_cons_of_mem _ hw))
      rw [hy]
      exact h2 w hw y hy
  · rintro ⟨h1, h2⟩
    refine ⟨fun w hw y hy => ?_, fun w hw y hy => ?_⟩
    · have := h1 w hw
      rwa [hy] at this
    · have := h2 w hw
      rwa [hy] at this

/-- the position `amaxArm` returns on the scores of `pre ++ m :: post` when `m` is a last maximum -/
theorem amaxArm_split (bot : S) (f : Nat → Option S) (pre post : List Nat) (m : Nat)
    (hbot : bot ≤ (f m).getD bot) (hpre : ∀ w ∈ pre, (f w).getD bot ≤ (f m).getD bot)
    (hpost : ∀ w ∈ post, (f w).getD bot < (f m).getD bot) :
    amaxArm (bot :: (pre ++ m :: post).map (fun w => (f w).getD bot)) = [pre.length] := by
  rw [List.map_append, List.map_cons, amaxArm_lastMax bot _ _ _ hbot (List.forall_mem_map.2 hpre)
    (List.forall_mem_map.2 hpost), List.length_map]

/-- what `amaxArm` returns on the scores of the candidates `l` is a last maximum in the sense of the sweep
theorems -/
theorem amaxArm_isLastMax (bot : S) (f : Nat → Option S) (l : List Nat)
    (hdef : ∀ w ∈ l, ∃ y, f w = some y) (hbot : ∀ w ∈ l, ∀ y, f w = some y → bot ≤ y) (i : Nat)
    (h : amaxArm (bot :: l.map (fun w => (f w).getD bot)) = [i]) :
    ∃ m x, l[i]? = some m ∧ IsLastMax f l m x := by
  have hne : l ≠ [] := by
    rintro rfl
    exact List.cons_ne_nil _ _ h.symm
  obtain ⟨pre, m, post, rfl, hpre, hpost⟩ := exists_lastMax (fun w => (f w).getD bot) l hne
  obtain ⟨x, hx⟩ := hdef m (List.mem_append_right _ List.mem_cons_self)
  have hb : bot ≤ (f m).getD bot := by
    rw [hx]
    exact hbot m (List.mem_append_right _ List.mem_cons_self) x hx
  rw [amaxArm_split bot f pre post m hb hpre hpost] at h
  obtain rfl := List.singleton_inj.1 h
  exact ⟨m, x, by rw [List.getElem?_append_right le_rfl, Nat.sub_self]; rfl, pre, post, rfl, hx,
    (isLastMax_split bot f pre post m x hx hdef).2 ⟨hpre, hpost⟩⟩

/-- conversely, a last maximum in the sense of the sweep theorems is what `amaxArm` returns (no `Nodup` needed:
`IsLastMax` fixes the position, not only the element) -/
theorem isLastMax_amaxArm (bot : S) (f : Nat → Option S) (l : List Nat)
    (hdef : ∀ w ∈ l, ∃ y, f w = some y) (hbot : ∀ w ∈ l, ∀ y, f w = some y → bot ≤ y) (m : Nat) (x : S)
    (h : IsLastMax f l m x) :
    ∃ i, l[i]? = some m ∧ amaxArm (bot :: l.map (fun w => (f w).getD bot)) = [i] := by
  obtain ⟨pre, post, rfl, hx, h⟩ := h
  obtain ⟨hpre, hpost⟩ := (isLastMax_split bot f pre post m x hx hdef).1 h
  have hb : bot ≤ (f m).getD bot := by
    rw [hx]
    exact hbot m (List.mem_append_right _ List.mem_cons_self) x hx
  exact ⟨pre.length, by rw [List.getElem?_append_right le_rfl, Nat.sub_self]; rfl,
    amaxArm_split bot f pre post m hb hpre hpost⟩

end bridge

end PyXAB.OT
