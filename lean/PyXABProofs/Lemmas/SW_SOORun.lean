/-
  SOO: rounds (`pull` + `receive`) and the whole loop.
-/
import PyXABProofs.Lemmas.SW_SOO
import PyXABProofs.Lemmas.SW_Hist
import PyXABProofs.Lemmas.SW_Loop

set_option linter.unusedSectionVars false

namespace PyXAB
namespace SOO
open Tree TBA SW

variable {α S : Type} [Add α] [Sub α] [Mul α] [Div α] [OfNat α 2] [NatCast α]
variable [LinearOrder S] [Inhabited S]

theorem init_inv (negInf : S) (k : Kind) (domain : Box α) (hmax : Nat) :
    Inv negInf (init negInf k domain hmax) ∧ (init negInf k domain hmax).P.kind = k ∧
      dimn (init negInf k domain hmax).P = domain.length ∧
      (init negInf k domain hmax).P.depth = 0 ∧ (init negInf k domain hmax).hmax = hmax ∧
      HistOK (init negInf k domain hmax).P [] :=
  ⟨⟨PInv.init k domain rfl, fun _ hc => nomatch hc⟩, rfl, rfl, rfl, rfl,
    HistOK.init k domain _ rfl⟩

theorem receive_eq {s : SOO α S} {c : Nat} (hc : s.curr = some c) (r : S) :
    receive s r = .ok { s with P := setReward s.P c r } := by
  rw [receive, hc]; rfl

structure RoundPost (negInf : S) (s : SOO α S) (x : Input α S) (s2 : SOO α S) (v : Nat)
    (s1 : SOO α S) (ds' : List (Draw α)) (trs : List (List (Ev α (SwSt S) S)))
    (Pb : Part α (SwSt S)) : Prop where
  pullT : pullT negInf s x.1 x.2.1 = .ok (s1, ds', v, trs)
  pull : pull negInf s x.1 x.2.1 = .ok (s1, ds', v)
  recv : receive s1 x.2.2 = .ok s2
  post : PullPost negInf s.hmax s.P x.2.1 s1.P ds' v trs Pb
  inv1 : Inv negInf s1
  curr1 : s1.curr = some v
  eq2 : s2 = { s1 with P := setReward s1.P v x.2.2 }
  P2 : s2.P = setReward (mark Pb v) v x.2.2
  inv2 : Inv negInf s2
  hmax : s2.hmax = s.hmax
  kind : s2.P.kind = s.P.kind
  dimn : dimn s2.P = dimn s.P

theorem round_spec (negInf : S) (hbot : ∀ x, negInf ≤ x) {s s2 : SOO α S} {x : Input α S}
    {v : Nat} (hI : Inv negInf s) (hds : ∀ d ∈ x.2.1, DrawOKLen s.P.kind (dimn s.P) d)
    (hrun : round negInf s x = .ok (s2, v)) :
    ∃ s1 ds' trs Pb, RoundPost negInf s x s2 v s1 ds' trs Pb := by
  unfold round at hrun
  cases hp : pull negInf s x.1 x.2.1 with
  | error e => rw [hp] at hrun; cases hrun
  | ok res =>
    obtain ⟨s1, ds', v'⟩ := res
    rw [hp] at hrun
    obtain ⟨trs, hpT⟩ := (pull_ok_iff negInf s x.1 x.2.1 s1 ds' v').1 hp
    obtain ⟨⟨Pb, hpost⟩, hI1, hc1, hm1, _, hk1, hd1⟩ := pullT_spec negInf hbot hI hds hpT
    dsimp only at hrun
    rw [receive_eq hc1] at hrun
    cases hrun
    have h2 := hI1.pinv.receive hI1.curr hc1 x.2.2
    exact ⟨s1, ds', trs, Pb, hpT, hp, receive_eq hc1 _, hpost, hI1, hc1, rfl,
      by rw [hpost.marked], ⟨h2.1, h2.2⟩, hm1, hk1, (PRel_modifySt s1.P v _).dimn_eq.trans hd1⟩

theorem round_total (negInf : S) (hbot : ∀ x, negInf ≤ x) {s : SOO α S} (x : Input α S)
    (hI : Inv negInf s) (hcap : s.P.depth < s.hmax) (hlen : 1 ≤ x.2.1.length)
    (hds : ∀ d ∈ x.2.1, DrawOKLen s.P.kind (dimn s.P) d) :
    ∃ s2 v, round negInf s x = .ok (s2, v) ∧ s2.P.depth ≤ s.P.depth + 1 := by
  obtain ⟨s1, ds', v, trs, e, hd⟩ := pullT_total negInf hbot x.1 hI hcap hlen hds
  have hp := (pull_ok_iff negInf s x.1 x.2.1 s1 ds' v).2 ⟨trs, e⟩
  obtain ⟨_, _, hc1, _, _⟩ := pullT_spec negInf hbot hI hds e
  refine ⟨{ s1 with P := setReward s1.P v x.2.2 }, v, ?_, hd⟩
  unfold round
  simp only [hp, receive_eq hc1]

theorem isLoop (negInf : S) : IsLoop (·.2.2) (round (α := α) negInf) (runRounds negInf) :=
  ⟨fun _ => rfl, fun s x rest => by
    rw [runRounds]
    cases round negInf s x with
    | error e => rfl
    | ok r =>
      obtain ⟨s1, v⟩ := r
      dsimp only
      cases runRounds negInf s1 rest <;> rfl⟩

/-- The loop never fails as long as the depth cap is not reached: `T` rounds from a state of
depth `d` with `d + T ≤ hmax`. -/
theorem runRounds_total (negInf : S) (hbot : ∀ x, negInf ≤ x) (inputs : List (Input α S))
    (s : SOO α S) (hI : Inv negInf s) (hin : InputsOK s.P.kind (dimn s.P) inputs)
    (hcap : s.P.depth + inputs.length ≤ s.hmax) :
    ∃ s' H, runRounds negInf s inputs = .ok (s', H) ∧ Inv negInf s' ∧
      H.map (·.2) = inputs.map (·.2.2) ∧ s'.P.depth ≤ s.P.depth + inputs.length := by
  obtain ⟨s', H, e, ⟨hI', _, _, _, hd⟩, hH⟩ := (isLoop (α := α) negInf).total
    (I := fun t _ n => Inv negInf t ∧ t.P.kind = s.P.kind ∧ dimn t.P = dimn s.P ∧
      t.hmax = s.hmax ∧ t.P.depth + n ≤ s.P.depth + inputs.length)
    (OK := fun x => 1 ≤ x.2.1.length ∧ ∀ d ∈ x.2.1, DrawOKLen s.P.kind (dimn s.P) d)
    (fun t _ n x ⟨hIt, hk, hd, hm, hdep⟩ ⟨hl, hds⟩ => by
      rw [← hk, ← hd] at hds
      obtain ⟨t2, v, hr, hd2⟩ := round_total negInf hbot x hIt (by omega) hl hds
      obtain ⟨_, _, _, _, hp⟩ := round_spec negInf hbot hIt hds hr
      exact ⟨t2, v, hr, hp.inv2, hp.kind.trans hk, hp.dimn.trans hd, hp.hmax.trans hm, by omega⟩)
    inputs s [] ⟨hI, rfl, rfl, rfl, Nat.le_refl _⟩ hin
  exact ⟨s', H, e, hI', hH, hd⟩

theorem runRounds_hist (negInf : S) (hbot : ∀ x, negInf ≤ x) (inputs : List (Input α S))
    (s : SOO α S) (H0 : List (Nat × S)) (s' : SOO α S) (H : List (Nat × S))
    (hI : Inv negInf s) (hds : ∀ x ∈ inputs, ∀ d ∈ x.2.1, DrawOKLen s.P.kind (dimn s.P) d)
    (hH : HistOK s.P H0) (hrun : runRounds negInf s inputs = .ok (s', H)) :
    HistOK s'.P (H0 ++ H) ∧ Inv negInf s' ∧ H.map (·.2) = inputs.map (·.2.2) := by
  obtain ⟨⟨a1, _, _, a2⟩, a3⟩ := (isLoop (α := α) negInf).induct
    (I := fun t K => Inv negInf t ∧ t.P.kind = s.P.kind ∧ dimn t.P = dimn s.P ∧ HistOK t.P K)
    (OK := fun x => ∀ d ∈ x.2.1, DrawOKLen s.P.kind (dimn s.P) d)
    (fun t K x t2 v ⟨hIt, hk, hd, hK⟩ hx hr => by
      rw [← hk, ← hd] at hx
      obtain ⟨_, _, _, Pb, hp⟩ := round_spec negInf hbot hIt hx hr
      obtain ⟨nd, n1, _, n3, _⟩ := hp.post.node
      refine ⟨hp.inv2, hp.kind.trans hk, hp.dimn.trans hd, ?_⟩
      rw [hp.P2]
      exact HistOK.round x.2.2 hK (hp.post.ext.mono (fun a b h => by rw [h]; exact SameVR.rfl' _))
        rfl ⟨nd, n1, n3⟩)
    inputs s H0 s' H ⟨hI, rfl, rfl, hH⟩ hds hrun
  exact ⟨a2, a1, a3⟩

end SOO
end PyXAB
