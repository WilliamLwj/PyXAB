/-
  Lemmas shared by SOO and DOO (payload `SwSt`): the invariant `PInv` under payload updates and
  expansions, `LowVisited`, expansion of a leaf with a draw from the list.
-/
import PyXABProofs.Lemmas.SW_Basic

set_option linter.unusedSectionVars false

namespace PyXAB
namespace SW
open Tree TBA

variable {α σ S : Type}

section mk
variable [Add α] [Sub α] [Mul α] [Div α] [OfNat α 2] [NatCast α]

theorem expand_ok {ρ : σ → σ → Prop} (hρ : ∀ a, ρ a a) {P P' : Part α σ} (W : WF P) {s0 : σ}
    {m : Nat} {nd : Node α σ} {fl : Bool} {ds ds' : List (Draw α)} (hm : P.nodes[m]? = some nd)
    (hleaf : nd.children = none) (hfl : fl = decide (nd.depth ≥ P.depth))
    (hds : ∀ d ∈ ds, DrawOKLen P.kind (dimn P) d)
    (hrun : P.makeChildrenD s0 m fl ds = .ok (P', ds')) :
    (∃ d, ds = d :: ds') ∧ Step P P' s0 m nd ∧ WF P' ∧ 1 ≤ K P ∧ Ext ρ s0 P P' ∧
      ∀ d ∈ ds', DrawOKLen P'.kind (dimn P') d := by
  obtain ⟨d, rfl, hmc⟩ := Part.makeChildrenD_eq_ok.1 hrun
  have hd := hds d (List.mem_cons_self ..)
  obtain ⟨P'', e, W', St⟩ := makeChildren_WF_step W s0 hm hleaf hfl hd
  rw [hmc] at e
  cases e
  have hE : Ext ρ s0 P P' := Ext.of_step hρ St W hm hleaf
  refine ⟨⟨d, rfl⟩, St, W', arity_pos_of_drawOK hd, hE, fun d' hd' => ?_⟩
  rw [hE.kind, hE.dimn]
  exact hds d' (List.mem_cons_of_mem _ hd')

theorem expand_total {P : Part α σ} (W : WF P) (s0 : σ) {m : Nat} {nd : Node α σ} {fl : Bool}
    {ds : List (Draw α)} (hm : P.nodes[m]? = some nd) (hleaf : nd.children = none)
    (hfl : fl = decide (nd.depth ≥ P.depth)) (hlen : 1 ≤ ds.length)
    (hds : ∀ d ∈ ds, DrawOKLen P.kind (dimn P) d) :
    ∃ d ds0 P', ds = d :: ds0 ∧ P.makeChildrenD s0 m fl ds = .ok (P', ds0) ∧
      Step P P' s0 m nd ∧ WF P' ∧ 1 ≤ K P := by
  obtain ⟨d, ds0, rfl⟩ := List.exists_cons_of_length_pos hlen
  have hd := hds d (List.mem_cons_self ..)
  obtain ⟨P', e, W', St⟩ := makeChildren_WF_step W s0 hm hleaf hfl hd
  exact ⟨d, ds0, P', rfl, makeChildrenD_cons e, St, W', arity_pos_of_drawOK hd⟩

end mk

theorem Step_new_layer {P P' : Part α σ} {s0 : σ} {p : Nat} {nd : Node α σ}
    (St : Step P P' s0 p nd) (W : WF P) (hK : 1 ≤ K P) :
    ∃ l, P'.layers[nd.depth + 1]? = some l ∧ nd.depth + 1 ≤ P'.depth ∧
      P'.depth ≤ P.depth + 1 ∧ l.getLast? = some (P.nodes.length + (K P - 1)) ∧
      ∀ j, j < K P → P.nodes.length + j ∈ l ∧
        ∃ c, P'.nodes[P.nodes.length + j]? = some c ∧ c.children = none ∧ c.st = s0 := by
  have hl := St.layers_getElem? W.layers_len (nd.depth + 1)
  rw [if_pos rfl] at hl
  refine ⟨_, hl, by rw [St.depth_eq]; exact Nat.le_max_right _ _, ?_, ?_, fun j hj => ?_⟩
  · rcases St.layers with ⟨_, _, e⟩ | ⟨_, _, e⟩ <;> omega
  · rw [List.getLast?_append, List.getLast?_range', if_neg (by omega), Nat.add_sub_assoc hK]
    rfl
  · obtain ⟨c, c1, _, _, _, c5, _, c7⟩ := St.new j hj
    exact ⟨List.mem_append_right _ (List.mem_range'_1.2 ⟨Nat.le_add_right _ _, by omega⟩),
      c, c1, c5, c7⟩

theorem Step_new_unvisited {P P' : Part α (SwSt S)} {s0 : SwSt S} {p : Nat}
    {nd : Node α (SwSt S)} (St : Step P P' s0 p nd) (W : WF P) (hK : 1 ≤ K P)
    (h0 : s0.visited = false) :
    ∃ l, P'.layers[nd.depth + 1]? = some l ∧ P.nodes.length ∈ l ∧
      unvisitedLeaf P' P.nodes.length = true ∧ nd.depth + 1 ≤ P'.depth ∧
      P'.depth ≤ P.depth + 1 := by
  obtain ⟨l, hl, hd1, hd2, _, hnew⟩ := Step_new_layer St W hK
  obtain ⟨hmem, c, c1, c5, c7⟩ := hnew 0 hK
  exact ⟨l, hl, hmem, unvisitedLeaf_eq_true_iff.2 ⟨c, c1, c5, by rw [c7]; exact h0⟩, hd1, hd2⟩

theorem mark_node_self {P : Part α (SwSt S)} {v : Nat} {nd : Node α (SwSt S)}
    (h : P.nodes[v]? = some nd) :
    (mark P v).nodes[v]? = some { nd with st := { nd.st with visited := true } } :=
  (Part.getElem?_modifySt_of h _).trans (congrArg some (if_pos rfl))

theorem PInv.init {r0 : S} (k : Kind) (domain : Box α) {s0 : SwSt S} (h0 : s0.reward = r0) :
    PInv r0 (Part.init k domain s0) :=
  ⟨init_WF' k domain s0, fun _ _ hi hne => absurd ((Part.getElem?_init.1 hi).2 ▸ rfl) hne,
    fun _ _ hi _ => by rw [(Part.getElem?_init.1 hi).2]; exact h0⟩

theorem PInv.of_prel {r0 : S} {P P' : Part α (SwSt S)}
    {τ : Nat → Node α (SwSt S) → Node α (SwSt S) → Prop} (h : PInv r0 P) (hr : PRel τ P P')
    (hτ : ∀ i a b, τ i a b → (a.st.visited = true → b.st.visited = true) ∧
      (b.st.visited = false → b.st.reward = a.st.reward)) : PInv r0 P' where
  wf := hr.wf h.wf
  internal := by
    intro i nd' hi hne
    obtain ⟨nd, a1, a2, a3⟩ := hr.bwd hi
    exact (hτ _ _ _ a3).1 (h.internal i nd a1 (by rw [← a2.children]; exact hne))
  fresh := by
    intro i nd' hi hv
    obtain ⟨nd, a1, a2, a3⟩ := hr.bwd hi
    obtain ⟨b1, b2⟩ := hτ _ _ _ a3
    rw [b2 hv]
    apply h.fresh i nd a1
    cases hq : nd.st.visited with
    | false => rfl
    | true => rw [b1 hq] at hv; cases hv

theorem PInv.mark {r0 : S} {P : Part α (SwSt S)} (h : PInv r0 P) (v : Nat) :
    PInv r0 (mark P v) := by
  refine h.of_prel (PRel_modifySt P v _) ?_
  intro i a b hb
  by_cases hi : i = v
  · simp only [hi, if_true] at hb
    simp [hb]
  · simp only [hi, if_false] at hb
    simp [hb]

theorem PInv.handout {r0 : S} {Pb : Part α (SwSt S)} (h : PInv r0 Pb) {v : Nat}
    {nd : Node α (SwSt S)} (hv : Pb.nodes[v]? = some nd) :
    PInv r0 (SW.mark Pb v) ∧
      (∀ c, some v = some c → ∃ nd', (SW.mark Pb v).nodes[c]? = some nd' ∧ nd'.st.visited = true) ∧
      (SW.mark Pb v).kind = Pb.kind ∧ dimn (SW.mark Pb v) = dimn Pb :=
  ⟨h.mark v, fun _ hc => Option.some.inj hc ▸ ⟨_, mark_node_self hv, rfl⟩, rfl,
    (PRel_modifySt Pb v _).dimn_eq⟩

/-- `receive_reward` on an evaluated cell keeps the invariant. -/
theorem PInv.setReward {r0 : S} {P : Part α (SwSt S)} (h : PInv r0 P) {c : Nat}
    {nd : Node α (SwSt S)} (hc : P.nodes[c]? = some nd) (hv : nd.st.visited = true) (r : S) :
    PInv r0 (P.modifySt c (fun st => { st with reward := r })) := by
  refine h.of_prel (PRel_modifySt P c _).with_src ?_
  intro i a b ⟨hb, ha⟩
  by_cases hi : i = c
  · subst hi
    obtain rfl := getElem?_inj hc ha
    simp only [if_true] at hb
    simp [hb, hv]
  · simp only [hi, if_false] at hb
    simp [hb]

theorem PInv.step {r0 : S} {P P' : Part α (SwSt S)} {s0 : SwSt S} {p : Nat}
    {nd : Node α (SwSt S)} (h : PInv r0 P) (St : Step P P' s0 p nd)
    (hp : P.nodes[p]? = some nd) (hleaf : nd.children = none) (hv : nd.st.visited = true)
    (h0 : s0.visited = false → s0.reward = r0) (hK : 1 ≤ K P) : PInv r0 P' where
  wf := St.wf h.wf hp hleaf hK
  internal := by
    intro i x' hi hne
    rcases St.inv hp hi with ⟨x, a1, _, _, _, _, a6, a7, _⟩ | ⟨j, _, _, _, _, _, a6, _⟩
    · rw [a6]
      by_cases hip : i = p
      · subst hip
        obtain rfl := getElem?_inj hp a1
        exact hv
      · exact h.internal i x a1 (by rw [← a7 hip]; exact hne)
    · exact absurd a6 hne
  fresh := by
    intro i x' hi hvis
    rcases St.inv hp hi with ⟨x, a1, _, _, _, _, a6, _⟩ | ⟨j, _, _, _, _, _, _, _, a8⟩
    · rw [a6] at hvis ⊢
      exact h.fresh i x a1 hvis
    · rw [a8] at hvis ⊢
      exact h0 hvis

theorem LowVisited.mono {P : Part α (SwSt S)} {h h' : Nat} (hl : LowVisited P h) (hh : h' ≤ h) :
    LowVisited P h' :=
  fun a l w ha => hl a l w (Nat.lt_of_lt_of_le ha hh)

theorem LowVisited.zero (P : Part α (SwSt S)) : LowVisited P 0 :=
  fun _ _ _ ha => absurd ha (Nat.not_lt_zero _)

theorem LowVisited.succ {P : Part α (SwSt S)} {h : Nat} {l : List Nat} (hl : LowVisited P h)
    (hlay : P.layers[h]? = some l) (hall : ∀ w ∈ l, unvisitedLeaf P w = false) :
    LowVisited P (h + 1) := by
  intro a l' w ha hl' hw
  by_cases hah : a = h
  · subst hah
    rw [hlay] at hl'
    cases hl'
    exact hall w hw
  · exact hl a l' w (Nat.lt_of_le_of_ne (Nat.le_of_lt_succ ha) hah) hl' hw

/-- the test `unvisitedLeaf` only reads `children` and `visited` -/
theorem unvisitedLeaf_prel {P P' : Part α (SwSt S)}
    {τ : Nat → Node α (SwSt S) → Node α (SwSt S) → Prop} (hr : PRel τ P P')
    (hτ : ∀ i a b, τ i a b → b.st.visited = a.st.visited) (w : Nat) :
    unvisitedLeaf P' w = unvisitedLeaf P w :=
  leafTest_prel hr (fun a b h _ => by rw [hτ w a b h])

theorem LowVisited.prel {P P' : Part α (SwSt S)}
    {τ : Nat → Node α (SwSt S) → Node α (SwSt S) → Prop} {h : Nat} (hl : LowVisited P h)
    (hr : PRel τ P P') (hτ : ∀ i a b, τ i a b → b.st.visited = a.st.visited) :
    LowVisited P' h := by
  intro a l w ha hl' hw
  rw [unvisitedLeaf_prel hr hτ]
  rw [hr.layers] at hl'
  exact hl a l w ha hl' hw

theorem LowVisited.step {P P' : Part α (SwSt S)} {s0 : SwSt S} {p h : Nat}
    {nd : Node α (SwSt S)} (hl : LowVisited P (h + 1)) (St : Step P P' s0 p nd)
    (W : WF P) (hp : P.nodes[p]? = some nd) (hd : nd.depth = h) : LowVisited P' (h + 1) := by
  subst hd
  intro a l w ha hl' hw
  rw [St.layers_getElem? W.layers_len, if_neg (Nat.ne_of_lt ha)] at hl'
  have h0 := hl a l w ha hl' hw
  obtain ⟨x, hx, _⟩ := (W.mem_layer_iff hl' w).1 hw
  obtain ⟨x', a1, _, _, _, _, a6, a7, a8⟩ := St.pres hp hx
  rw [unvisitedLeaf_eq_false_iff] at h0 ⊢
  intro y hy hyc
  obtain rfl := getElem?_inj a1 hy
  rw [a6]
  by_cases hip : w = p
  · rw [a8 hip] at hyc; cases hyc
  · exact h0 x hx (by rw [← a7 hip]; exact hyc)

/-- If all leaves of the layers `< h` are evaluated and `v` is the first unevaluated leaf of
layer `h`, then `v` is the first unevaluated leaf of the tree in top-down order. -/
theorem firstUnvisited_of_layer {P : Part α (SwSt S)} {h : Nat} {l : List Nat} {v : Nat}
    (hl : LowVisited P h) (hlay : P.layers[h]? = some l)
    (hv : l.find? (unvisitedLeaf P) = some v) : firstUnvisited P = some v := by
  suffices ∀ (L : List (List Nat)) (h : Nat), L[h]? = some l →
      (∀ h' l' w, h' < h → L[h']? = some l' → w ∈ l' → unvisitedLeaf P w = false) →
      L.flatten.find? (unvisitedLeaf P) = some v from this P.layers h hlay hl
  intro L
  induction L with
  | nil => exact fun _ hl _ => nomatch hl
  | cons l0 L ih =>
    intro h hl hlow
    rw [List.flatten_cons, List.find?_append]
    cases h with
    | zero =>
      cases hl
      rw [hv]; rfl
    | succ h =>
      have h0 : l0.find? (unvisitedLeaf P) = none :=
        List.find?_eq_none.2 (fun w hw => by rw [hlow 0 l0 w (Nat.succ_pos h) rfl hw]; exact nofun)
      rw [h0]
      exact ih h hl (fun h' l' w hh hl' hw => hlow (h' + 1) l' w (Nat.succ_lt_succ hh) hl' hw)

theorem firstUnvisited_none {P : Part α (SwSt S)} (W : WF P)
    (hl : LowVisited P (P.depth + 1)) : firstUnvisited P = none := by
  rw [firstUnvisited, List.find?_eq_none]
  intro w hw
  obtain ⟨l', h1, h2⟩ := List.mem_flatten.1 hw
  obtain ⟨h', hh⟩ := List.mem_iff_getElem?.1 h1
  have hlt := lt_length_of_getElem? hh
  rw [W.layers_len] at hlt
  rw [hl h' l' w hlt hh h2]
  exact nofun

end SW
end PyXAB
