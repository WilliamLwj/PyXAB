/-
  Optimism of T-HOO / HCT, run part: the geometric invariant `OPTH.TInv` holds in every state
  reachable by rounds `pull; receive` with admissible draws (`OPTH.HOORunFit`, `OPTH.HCTRunFit`);
  these runs are runs in the sense of C05 (`TBB.HOORun`, `TBB.HCTRun`), for the deterministic
  partition classes every C05 run on a valid domain is such a run, and so is what the documented
  loop (`HOO.run`, `HCT.run` with good draws) returns.
-/
import PyXABProofs.Lemmas.OPTH_Opt
import PyXABProofs.Props.C05

set_option linter.unusedSectionVars false
set_option linter.unusedVariables false

namespace PyXAB
namespace OPTH
open _root_.PyXAB.Tree TBA TT TBB

section runs
variable {α R S : Type} [Add α] [Sub α] [Mul α] [Div α] [OfNat α 2] [NatCast α] [LE α]
variable [LinearOrder S] [Inhabited S] [Inhabited R]

theorem HOORunFit.toRun {cfg : HOOCfg R S} {k : Kind} {root : Box α} {s : PyXAB.HOO α R S}
    (h : HOORunFit cfg k root s) : HOORun cfg k root s := by
  induction h with
  | init hds _ h => exact HOORun.init hds h
  | round _ hp hd _ hr ih => exact HOORun.round ih hp hd hr

theorem HCTRunFit.toRun {cfg : HCTCfg R S} {k : Kind} {root : Box α} {s : PyXAB.HCT α R S}
    (h : HCTRunFit cfg k root s) : ∃ ts, HCTRun cfg k root s ts := by
  induction h with
  | init hds _ h => exact ⟨fun _ => 0, HCTRun.init _ hds h⟩
  | round _ hp hd _ hr ih =>
    obtain ⟨ts, ih⟩ := ih
    exact ⟨_, HCTRun.round ih hp hd hr⟩

theorem HCTRunFit.inv {cfg : HCTCfg R S} (hbot : ∀ x, cfg.negInf ≤ x) (htop : ∀ x, x ≤ cfg.inf)
    {k : Kind} {root : Box α} {s : PyXAB.HCT α R S} (h : HCTRunFit cfg k root s) :
    HCTInv cfg s := by
  obtain ⟨ts, hr⟩ := h.toRun
  exact (C05.HCT_run_inv hbot htop hr).1

end runs

/-- a well-formed draw for the class `k` and the dimension of the domain is well-formed for
the arena of a run on that domain -/
theorem drawOKLen_of_tinv {α R S : Type} [LinearOrder α] {k : Kind} {root : Box α}
    {P : Part α (TBSt R S)} (W : WF P) (hT : TInv k root P) {d : Draw α} :
    DrawOKLen P.kind (dimn P) d ↔ DrawOKLen k root.length d := by
  rw [hT.dom.kind, dimn_of_boxInv W hT.dom.box]

variable {α R S : Type} [Field α] [LinearOrder α] [IsStrictOrderedRing α]
variable [LinearOrder S] [Inhabited S] [Inhabited R]

theorem TInv.init_expand {k : Kind} {root : Box α} {s0 : TBSt R S} {ds ds' : List (Draw α)}
    {P1 : Part α (TBSt R S)} (hv : Box.Valid root) (hd : HeadFits k root root ds)
    (h : (Part.init k root s0).expand s0 0 ds = .ok (P1, ds')) : TInv k root P1 :=
  (TInv.init hv s0).expand (fun _ hn => by cases hn; exact hd) (fun _ hn => by cases hn; rfl) h

theorem HOOStages.tinv {cfg : HOOCfg R S} {k : Kind} {root : Box α} {s s' : HOO α R S} {v : Nat}
    {r : R} {ds ds' : List (Draw α)} {path : List Nat} {nd : Node α (TBSt R S)}
    {P3 : Part α (TBSt R S)} (T : HOOStages cfg s s' v r ds ds' path nd P3)
    (hT : TInv k root s.P) (hS : SplitFits k root s.P v ds) : TInv k root s'.P := by
  refine ((hT.of_prel T.upd.prel).expand_if (SplitFits.of_prel T.upd.prel hS)
    (fun _ x hx => ?_) T.exp).of_prel T.onlyB.prel
  obtain ⟨x0, h0, rfl⟩ := T.upd.get_inv hx
  obtain rfl := getElem?_inj h0 T.leaf.1
  exact T.leaf.2

theorem HOORunFit.tinv {cfg : HOOCfg R S} (hbot : ∀ x, cfg.negInf ≤ x) {k : Kind} {root : Box α}
    (hroot : Box.Valid root) {s : PyXAB.HOO α R S} (h : HOORunFit cfg k root s) :
    TInv k root s.P := by
  induction h with
  | init _ hf h =>
    obtain ⟨P1, he, rfl⟩ := HOO.init_eq_ok.1 h
    exact TInv.init_expand hroot hf he
  | @round s s1 s2 v r d ds ds' hrun hp hd hf hr ih =>
    have Rd := C05.HOO_pull_ready (C05.HOO_run_inv hbot hrun.toRun) hp
    obtain ⟨path, nd, P3, T⟩ := ListAux.of_eq_ok₂ (HOO_receive_stages hbot Rd r d ds hd) hr
    exact HOOStages.tinv T ((C05.HOO_pull_greedy hp).1 ▸ ih) hf

/-- For the deterministic partition classes (Binary, DimensionBinary, Kary) every C05 run on a
valid domain is a run with admissible draws. -/
theorem HOORunFit.of_det {cfg : HOOCfg R S} (hbot : ∀ x, cfg.negInf ≤ x) {k : Kind}
    (hk : Kind.Deterministic k) {root : Box α} (hroot : Box.Valid root) {s : PyXAB.HOO α R S}
    (h : HOORun cfg k root s) : HOORunFit cfg k root s := by
  induction h with
  | init hds h => exact HOORunFit.init hds (headFits_of_det hk hds) h
  | @round s s1 s2 v r d ds ds' hrun hp hd hr ih =>
    have hd' := hd
    rw [(C05.HOO_pull_greedy hp).1,
      drawOKLen_of_tinv (C05.HOO_run_inv hbot hrun).wf (ih.tinv hbot hroot)] at hd'
    exact HOORunFit.round ih hp hd (fun _ _ => drawFits_of_det hk hd') hr

/-- The documented loop `HOO.runRounds` (`Spec/TBRun.lean`) from a reachable state, with
well-formed inputs (`InputsOK`) and good draws (`TT.HOO.GoodDraws`, C01), never raises and ends in
a reachable state. -/
theorem HOORunFit.runRounds {cfg : HOOCfg R S} (hbot : ∀ x, cfg.negInf ≤ x) {k : Kind}
    {root : Box α} (hroot : Box.Valid root) :
    ∀ (inputs : List (R × List (Draw α))) (s : PyXAB.HOO α R S),
      HOORunFit cfg k root s → InputsOK k root.length inputs →
      TT.HOO.GoodDraws cfg k root s inputs →
      ∃ s' H, PyXAB.HOO.runRounds cfg s inputs = .ok (s', H) ∧ HOORunFit cfg k root s' := by
  intro inputs
  induction inputs with
  | nil => exact fun s hs _ _ => ⟨s, [], rfl, hs⟩
  | cons x rest ih =>
    obtain ⟨r, ds⟩ := x
    intro s hs hin hG
    have I := C05.HOO_run_inv hbot hs.toRun
    obtain ⟨s1, v, hp⟩ := C05.HOO_pull_ok I
    obtain ⟨hS, hG'⟩ := hG s1 v hp
    obtain ⟨hlen, hall⟩ := hin _ (List.mem_cons_self ..)
    cases ds with
    | nil => cases hlen
    | cons d ds0 =>
      have hd : DrawOKLen s1.P.kind (dimn s1.P) d := by
        rw [(C05.HOO_pull_greedy hp).1, drawOKLen_of_tinv I.wf (hs.tinv hbot hroot)]
        exact hall d (List.mem_cons_self ..)
      obtain ⟨s2, ds2, hr⟩ := C05.HOO_receive_ok hbot (C05.HOO_pull_ready I hp) r d ds0 hd
      obtain ⟨s', H, hrest, hs'⟩ := ih s2 (HOORunFit.round hs hp hd hS hr)
        (fun x hx => hin x (List.mem_cons_of_mem _ hx)) (hG' s2 ds2 hr)
      exact ⟨s', (v, r) :: H,
        by simp only [PyXAB.HOO.runRounds, PyXAB.HOO.round, hp, hr, hrest], hs'⟩

theorem HOORunFit.of_run {cfg : HOOCfg R S} (hbot : ∀ x, cfg.negInf ≤ x) {k : Kind}
    {root : Box α} (hroot : Box.Valid root) {ds0 : List (Draw α)}
    {inputs : List (R × List (Draw α))} (hds0 : ∀ d ∈ ds0, DrawOKLen k root.length d)
    (hf0 : HeadFits k root root ds0) (hin : InputsOK k root.length inputs)
    (hG : ∀ s0 ds', PyXAB.HOO.init cfg k root ds0 = .ok (s0, ds') →
      TT.HOO.GoodDraws cfg k root s0 inputs)
    {s : PyXAB.HOO α R S} {H : List (Nat × R)}
    (h : PyXAB.HOO.run cfg k root ds0 inputs = .ok (s, H)) : HOORunFit cfg k root s := by
  unfold PyXAB.HOO.run at h
  split at h
  · cases h
  · next s0 ds' hi =>
    exact ListAux.of_eq_ok₂ (HOORunFit.runRounds hbot hroot inputs s0 (HOORunFit.init hds0 hf0 hi)
      hin (hG s0 ds' hi)) h

/-- The stages of `receive` keep the invariant, provided the first draw fits the pulled cell
(the expansion test of HCT / VHCT includes "the pulled cell is a leaf"). -/
theorem HCTStages.tinv {cfg : HCTCfg R S} {k : Kind} {root : Box α} {s s' : HCT α R S} {v : Nat}
    {r : R} {ds ds' : List (Draw α)} {P4 : Part α (TBSt R S)} {c : Bool}
    (T : HCTStages cfg s s' v r ds ds' P4 c) (hT : TInv k root s.P)
    (hS : SplitFits k root s.P v ds) : TInv k root s'.P :=
  (hT.of_prel T.upd).expand_if (SplitFits.of_prel T.upd hS) T.leaf T.exp

theorem HCTRunFit.tinv {cfg : HCTCfg R S} (hbot : ∀ x, cfg.negInf ≤ x) (htop : ∀ x, x ≤ cfg.inf)
    {k : Kind} {root : Box α} (hroot : Box.Valid root) {s : PyXAB.HCT α R S}
    (h : HCTRunFit cfg k root s) : TInv k root s.P := by
  induction h with
  | init _ hf h =>
    obtain ⟨P1, he, rfl⟩ := HCT.init_eq_ok.1 h
    exact TInv.init_expand hroot hf he
  | @round s s1 s2 v r d ds ds' hrun hp hd hf hr ih =>
    have I := hrun.inv hbot htop
    obtain ⟨P4, c, T⟩ := ListAux.of_eq_ok₂
      (HCT_receive_stages hbot htop (C05.HCT_pull_ready I hp) r d ds hd) hr
    exact HCTStages.tinv T (ih.of_prel (C05.HCT_pull_greedy I hp).same.prel) hf

/-- After a `pull` the tree still asks of a draw what `(k, root)` asks: `pull` keeps kind and
dimension. -/
theorem HCTRunFit.drawOKLen_pull {cfg : HCTCfg R S} (hbot : ∀ x, cfg.negInf ≤ x) (htop : ∀ x, x ≤ cfg.inf)
    {k : Kind} {root : Box α} (hroot : Box.Valid root) {s s1 : PyXAB.HCT α R S} {v : Nat}
    (h : HCTRunFit cfg k root s) (hp : PyXAB.HCT.pull cfg s = .ok (s1, v)) {d : Draw α} :
    DrawOKLen s1.P.kind (dimn s1.P) d ↔ DrawOKLen k root.length d :=
  have I := h.inv hbot htop
  drawOKLen_of_tinv (C05.HCT_pull_ready I hp).inv.wf
    ((h.tinv hbot htop hroot).of_prel (C05.HCT_pull_greedy I hp).same.prel)

theorem HCTRunFit.of_det {cfg : HCTCfg R S} (hbot : ∀ x, cfg.negInf ≤ x) (htop : ∀ x, x ≤ cfg.inf)
    {k : Kind} (hk : Kind.Deterministic k) {root : Box α} (hroot : Box.Valid root)
    {s : PyXAB.HCT α R S} {ts : Nat → Nat} (h : HCTRun cfg k root s ts) :
    HCTRunFit cfg k root s := by
  induction h with
  | init _ hds h => exact HCTRunFit.init hds (headFits_of_det hk hds) h
  | @round s s1 s2 ts v r d ds ds' hrun hp hd hr ih =>
    exact HCTRunFit.round ih hp hd
      (fun _ _ => drawFits_of_det hk ((ih.drawOKLen_pull hbot htop hroot hp).1 hd)) hr

/-- The documented loop `HCT.runRounds` from a reachable state, with well-formed inputs and good
draws (`TT.HCT.GoodDraws`, C01), never raises and ends in a reachable state. -/
theorem HCTRunFit.runRounds {cfg : HCTCfg R S} (hbot : ∀ x, cfg.negInf ≤ x)
    (htop : ∀ x, x ≤ cfg.inf) {k : Kind} {root : Box α} (hroot : Box.Valid root) :
    ∀ (inputs : List (R × List (Draw α))) (s : PyXAB.HCT α R S),
      HCTRunFit cfg k root s → InputsOK k root.length inputs →
      TT.HCT.GoodDraws cfg k root s inputs →
      ∃ s' H, PyXAB.HCT.runRounds cfg s inputs = .ok (s', H) ∧ HCTRunFit cfg k root s' := by
  intro inputs
  induction inputs with
  | nil => exact fun s hs _ _ => ⟨s, [], rfl, hs⟩
  | cons x rest ih =>
    obtain ⟨r, ds⟩ := x
    intro s hs hin hG
    have I := hs.inv hbot htop
    obtain ⟨s1, v, hp⟩ := C05.HCT_pull_ok I
    obtain ⟨hS, hG'⟩ := hG s1 v hp
    obtain ⟨hlen, hall⟩ := hin _ (List.mem_cons_self ..)
    cases ds with
    | nil => cases hlen
    | cons d ds0 =>
      have hd := (hs.drawOKLen_pull hbot htop hroot hp).2 (hall d (List.mem_cons_self ..))
      obtain ⟨s2, ds2, hr⟩ := C05.HCT_receive_ok hbot htop (C05.HCT_pull_ready I hp) r d ds0 hd
      obtain ⟨s', H, hrest, hs'⟩ := ih s2 (HCTRunFit.round hs hp hd hS hr)
        (fun x hx => hin x (List.mem_cons_of_mem _ hx)) (hG' s2 ds2 hr)
      exact ⟨s', (v, r) :: H,
        by simp only [PyXAB.HCT.runRounds, PyXAB.HCT.round, hp, hr, hrest], hs'⟩

theorem HCTRunFit.of_run {cfg : HCTCfg R S} (hbot : ∀ x, cfg.negInf ≤ x)
    (htop : ∀ x, x ≤ cfg.inf) {k : Kind} {root : Box α} (hroot : Box.Valid root)
    {ds0 : List (Draw α)} {inputs : List (R × List (Draw α))}
    (hds0 : ∀ d ∈ ds0, DrawOKLen k root.length d) (hf0 : HeadFits k root root ds0)
    (hin : InputsOK k root.length inputs)
    (hG : ∀ s0 ds', PyXAB.HCT.init cfg k root ds0 = .ok (s0, ds') →
      TT.HCT.GoodDraws cfg k root s0 inputs)
    {s : PyXAB.HCT α R S} {H : List (Nat × R)}
    (h : PyXAB.HCT.run cfg k root ds0 inputs = .ok (s, H)) : HCTRunFit cfg k root s := by
  unfold PyXAB.HCT.run at h
  split at h
  · cases h
  · next s0 ds' hi =>
    exact ListAux.of_eq_ok₂ (HCTRunFit.runRounds hbot htop hroot inputs s0
      (HCTRunFit.init hds0 hf0 hi) hin (hG s0 ds' hi)) h

end OPTH
end PyXAB
