/-
  Generic lemmas for C08: running "last maximum" folds, `find?` over the flattened layers,
  the extension relation `Ext`, leaf tests and scores (at a known cell, under payload updates),
  the fold which refreshes the payload of the leaves of a list, and where the cells of a
  well-formed tree are listed.
-/
import PyXABProofs.Spec.SweepSpec
import PyXABProofs.Lemmas.TBA_Rel

set_option linter.unusedSectionVars false

namespace PyXAB
namespace SW
open Tree TBA

variable {α σ S : Type}

section am
variable [LinearOrder S]

/-- one step of `if value >= max_value: max_value, max_node = value, node` -/
def amStep (f : Nat → Option S) (acc : S × Option Nat) (id : Nat) : S × Option Nat :=
  match f id with
  | none => acc
  | some x => if acc.1 ≤ x then (x, some id) else acc

/-- The argmax loop over a list of ids: running maximum and its cell, later cells winning ties;
cells on which `f` is `none` (not leaves, or filtered out) are skipped. -/
def amFold (f : Nat → Option S) (l : List Nat) (acc : S × Option Nat) : S × Option Nat :=
  l.foldl (amStep f) acc

@[simp] theorem amFold_nil (f : Nat → Option S) (acc : S × Option Nat) : amFold f [] acc = acc := rfl

@[simp] theorem amFold_cons (f : Nat → Option S) (a : Nat) (l : List Nat) (acc : S × Option Nat) :
    amFold f (a :: l) acc = amFold f l (amStep f acc a) := rfl

theorem foldl_eq_amFold (f : Nat → Option S) (g : S × Option Nat → Nat → S × Option Nat)
    (hg : ∀ acc id, g acc id = amStep f acc id) (l : List Nat) (acc : S × Option Nat) :
    l.foldl g acc = amFold f l acc := by
  rw [show g = amStep f from funext fun a => funext fun b => hg a b]; rfl

theorem amFold_append (f : Nat → Option S) (l1 l2 : List Nat) (acc : S × Option Nat) :
    amFold f (l1 ++ l2) acc = amFold f l2 (amFold f l1 acc) := by
  simp [amFold, List.foldl_append]

theorem amFold_congr {f g : Nat → Option S} {l : List Nat} (h : ∀ w ∈ l, f w = g w)
    (acc : S × Option Nat) : amFold f l acc = amFold g l acc := by
  induction l generalizing acc with
  | nil => rfl
  | cons a l ih =>
    simp only [amFold_cons]
    have : amStep f acc a = amStep g acc a := by
      simp only [amStep, h a (List.mem_cons_self ..)]
    rw [this]
    exact ih (fun w hw => h w (List.mem_cons_of_mem _ hw)) _

theorem amStep_le (f : Nat → Option S) (acc : S × Option Nat) (a : Nat) :
    acc.1 ≤ (amStep f acc a).1 ∧ ∀ y, f a = some y → y ≤ (amStep f acc a).1 := by
  unfold amStep
  cases h : f a with
  | none => simp
  | some x =>
    by_cases hc : acc.1 ≤ x
    · simp [hc]
    · simp only [hc, if_false, le_refl, true_and]
      intro y hy
      cases hy
      exact le_of_lt (not_le.1 hc)

theorem amFold_spec (f : Nat → Option S) (l : List Nat) (acc : S × Option Nat) :
    (amFold f l acc = acc ∧ ∀ w ∈ l, ∀ y, f w = some y → y < acc.1) ∨
    (∃ m x, amFold f l acc = (x, some m) ∧ acc.1 ≤ x ∧ IsLastMax f l m x) := by
  induction l generalizing acc with
  | nil => exact Or.inl ⟨rfl, fun _ h => (nomatch h)⟩
  | cons a l ih =>
    rw [amFold_cons]
    obtain ⟨hle1, hle2⟩ := amStep_le f acc a
    rcases ih (amStep f acc a) with ⟨h1, h2⟩ | ⟨m, x, h1, h2, pre, post, e, h3, h4, h5⟩
    · -- nothing taken in the tail: `a` is taken, or nothing at all
      by_cases hc : ∃ xa, f a = some xa ∧ acc.1 ≤ xa
      · obtain ⟨xa, hfa, hc⟩ := hc
        have e : amStep f acc a = (xa, some a) := by rw [amStep, hfa]; exact if_pos hc
        rw [e] at h1 h2 ⊢
        exact Or.inr ⟨a, xa, h1, hc, [], l, rfl, hfa, fun _ h => (nomatch h), h2⟩
      · have e : amStep f acc a = acc := by
          rw [amStep]
          cases hfa : f a with
          | none => rfl
          | some xa => exact if_neg (fun h => hc ⟨xa, hfa, h⟩)
        rw [e] at h1 h2 ⊢
        refine Or.inl ⟨h1, List.forall_mem_cons.2 ⟨fun y hy => ?_, h2⟩⟩
        exact not_le.1 (fun h => hc ⟨y, hy, h⟩)
    · refine Or.inr ⟨m, x, h1, le_trans hle1 h2, a :: pre, post, by rw [e]; rfl, h3,
        List.forall_mem_cons.2 ⟨fun y hy => le_trans (hle2 y hy) h2, h4⟩, h5⟩

theorem amFold_bot {f : Nat → Option S} {l : List Nat} {bot x : S} {mn : Option Nat}
    (hbot : ∀ x, bot ≤ x) (h : amFold f l (bot, none) = (x, mn)) :
    match mn with
    | some m => IsLastMax f l m x
    | none => ∀ w ∈ l, f w = none := by
  rcases amFold_spec f l (bot, none) with ⟨h1, h2⟩ | ⟨m, y, h1, _, h3⟩
  · rw [h1] at h
    cases h
    intro w hw
    cases hf : f w with
    | none => rfl
    | some y => exact absurd (h2 w hw y hf) (not_lt.2 (hbot y))
  · rw [h1] at h
    cases h
    exact h3

theorem IsLastMax.mem {f : Nat → Option S} {l : List Nat} {m : Nat} {x : S}
    (h : IsLastMax f l m x) : m ∈ l := by
  obtain ⟨pre, post, e, _⟩ := h
  simp [e]

theorem IsLastMax.score {f : Nat → Option S} {l : List Nat} {m : Nat} {x : S}
    (h : IsLastMax f l m x) : f m = some x := by
  obtain ⟨_, _, _, h1, _⟩ := h
  exact h1

theorem IsLastMax.le {f : Nat → Option S} {l : List Nat} {m : Nat} {x : S}
    (h : IsLastMax f l m x) {w : Nat} (hw : w ∈ l) {y : S} (hy : f w = some y) : y ≤ x := by
  obtain ⟨pre, post, e, h1, h2, h3⟩ := h
  rw [e] at hw
  rcases List.mem_append.1 hw with hw | hw
  · exact h2 w hw y hy
  · rcases List.mem_cons.1 hw with rfl | hw
    · rw [h1] at hy; cases hy; exact le_refl _
    · exact le_of_lt (h3 w hw y hy)

theorem IsLastMax.congr {f g : Nat → Option S} {l : List Nat} {m : Nat} {x : S}
    (h : IsLastMax f l m x) (hfg : ∀ w ∈ l, f w = g w) : IsLastMax g l m x := by
  obtain ⟨pre, post, e, h1, h2, h3⟩ := h
  have hm : ∀ w, w ∈ pre ∨ w = m ∨ w ∈ post → w ∈ l := by
    intro w hw; rw [e]; simp only [List.mem_append, List.mem_cons]; exact hw
  refine ⟨pre, post, e, ?_, ?_, ?_⟩
  · rw [← hfg m (hm m (Or.inr (Or.inl rfl)))]; exact h1
  · intro w hw y hy
    rw [← hfg w (hm w (Or.inl hw))] at hy; exact h2 w hw y hy
  · intro w hw y hy
    rw [← hfg w (hm w (Or.inr (Or.inr hw)))] at hy; exact h3 w hw y hy

theorem IsLastMax.eq_last {f : Nat → Option S} {l : List Nat} {m : Nat} {x : S}
    (h : IsLastMax f l m x) {z : Nat} {top : S} (hz : l.getLast? = some z) (hfz : f z = some top)
    (htop : ∀ y, y ≤ top) : m = z := by
  obtain ⟨pre, post, e, h1, h2, h3⟩ := h
  cases hp : post with
  | nil =>
    subst hp
    rw [e] at hz
    simpa using hz
  | cons p ps =>
    exfalso
    have hz' : z ∈ post := by
      have : (pre ++ m :: post).getLast? = post.getLast? := by
        rw [hp, List.getLast?_append, List.getLast?_cons_cons]
        cases hq : (p :: ps).getLast? with
        | none => simp at hq
        | some q => rfl
      rw [e, this] at hz
      exact List.mem_of_getLast? hz
    exact absurd (h3 z hz' top hfz) (not_lt.2 (htop x))

end am

section amO
variable [LinearOrder S]

/-- `amStep` for StoSOO's loop, which starts without a maximum (`None`) and also records the
position `j` of the best cell in its layer. -/
def amStepO (f : Nat → Option S) (best : Option (Nat × Nat × S)) (j id : Nat) :
    Option (Nat × Nat × S) :=
  match f id with
  | none => best
  | some x =>
    match best with
    | none => some (j, id, x)
    | some (bj, bid, bb) => if bb ≤ x then some (j, id, x) else some (bj, bid, bb)

/-- the loop of `amStepO` over a layer, `j` counting positions -/
def amFoldO (f : Nat → Option S) : List Nat → Nat → Option (Nat × Nat × S) →
    Option (Nat × Nat × S)
  | [], _, best => best
  | id :: rest, j, best => amFoldO f rest (j + 1) (amStepO f best j id)

theorem amStepO_some (f : Nat → Option S) (bj bid : Nat) (bb : S) (j a : Nat) :
    ∃ k' m x, amStepO f (some (bj, bid, bb)) j a = some (k', m, x) ∧
      amStep f (bb, some bid) a = (x, some m) ∧ ((k', m) = (bj, bid) ∨ (k', m) = (j, a)) := by
  unfold amStepO amStep
  cases f a with
  | none => exact ⟨bj, bid, bb, rfl, rfl, Or.inl rfl⟩
  | some xa =>
    by_cases hc : bb ≤ xa
    · exact ⟨j, a, xa, if_pos hc, if_pos hc, Or.inr rfl⟩
    · exact ⟨bj, bid, bb, if_neg hc, if_neg hc, Or.inl rfl⟩

theorem amFoldO_some (f : Nat → Option S) (l : List Nat) (j bj bid : Nat) (bb : S) :
    ∃ k' m x, amFoldO f l j (some (bj, bid, bb)) = some (k', m, x) ∧
      amFold f l (bb, some bid) = (x, some m) ∧
      ((k', m) = (bj, bid) ∨ ∃ k, k' = j + k ∧ l[k]? = some m) := by
  induction l generalizing j bj bid bb with
  | nil => exact ⟨bj, bid, bb, rfl, rfl, Or.inl rfl⟩
  | cons a l ih =>
    obtain ⟨k1, m1, x1, e1, e2, e3⟩ := amStepO_some f bj bid bb j a
    obtain ⟨k', m, x, h1, h2, h3⟩ := ih (j + 1) k1 m1 x1
    refine ⟨k', m, x, by rw [amFoldO, e1, h1], by rw [amFold_cons, e2, h2], ?_⟩
    rcases h3 with h3 | ⟨k, rfl, hk⟩
    · rcases e3 with e3 | e3
      · exact Or.inl (h3.trans e3)
      · obtain ⟨rfl, rfl⟩ := Prod.mk.inj (h3.trans e3)
        exact Or.inr ⟨0, rfl, rfl⟩
    · exact Or.inr ⟨k + 1, by rw [Nat.add_right_comm, Nat.add_assoc], hk⟩

theorem IsLastMax.cons_none {f : Nat → Option S} {l : List Nat} {m : Nat} {x : S}
    (h : IsLastMax f l m x) {a : Nat} (ha : f a = none) : IsLastMax f (a :: l) m x := by
  obtain ⟨pre, post, e, h1, h2, h3⟩ := h
  refine ⟨a :: pre, post, by rw [e]; rfl, h1, ?_, h3⟩
  intro w hw y hy
  rcases List.mem_cons.1 hw with rfl | hw
  · rw [ha] at hy; cases hy
  · exact h2 w hw y hy

theorem amFoldO_none (f : Nat → Option S) (l : List Nat) (j : Nat) :
    (amFoldO f l j none = none ∧ ∀ w ∈ l, f w = none) ∨
    (∃ k m x, amFoldO f l j none = some (j + k, m, x) ∧ l[k]? = some m ∧ IsLastMax f l m x) := by
  induction l generalizing j with
  | nil => exact Or.inl ⟨rfl, fun _ h => (nomatch h)⟩
  | cons a l ih =>
    cases hfa : f a with
    | none =>
      have e : amStepO f none j a = none := by unfold amStepO; rw [hfa]
      rw [amFoldO, e]
      rcases ih (j + 1) with ⟨h1, h2⟩ | ⟨k, m, x, h1, h2, h3⟩
      · exact Or.inl ⟨h1, List.forall_mem_cons.2 ⟨hfa, h2⟩⟩
      · exact Or.inr ⟨k + 1, m, x, by rw [h1, Nat.add_right_comm, Nat.add_assoc], h2,
          h3.cons_none hfa⟩
    | some xa =>
      have e : amStepO f none j a = some (j, a, xa) := by unfold amStepO; rw [hfa]
      obtain ⟨k', m, x, h1, h2, h3⟩ := amFoldO_some f l (j + 1) j a xa
      -- the same fold is `amFold` over the whole list with threshold `xa`
      have h4 : amFold f (a :: l) (xa, none) = (x, some m) := by
        rw [amFold_cons, ← h2, amStep, hfa]; exact congrArg _ (if_pos (le_refl xa))
      rw [amFoldO, e, h1]
      rcases amFold_spec f (a :: l) (xa, none) with ⟨h5, _⟩ | ⟨m', x', h5, _, h6⟩
      · rw [h4] at h5; cases h5
      · rw [h4] at h5
        cases h5
        rcases h3 with h3 | ⟨k, rfl, hk⟩
        · cases h3
          exact Or.inr ⟨0, _, _, rfl, rfl, h6⟩
        · exact Or.inr ⟨k + 1, _, _, by rw [Nat.add_right_comm, Nat.add_assoc], hk, h6⟩

end amO

namespace Ext
variable {ρ : σ → σ → Prop} {s0 : σ} {P P' P'' : Part α σ}

theorem refl (hr : ∀ a, ρ a a) (P : Part α σ) : Ext ρ s0 P P :=
  ⟨rfl, rfl, Nat.le_refl _, Nat.le_refl _,
    fun _ nd hi => ⟨nd, hi, rfl, rfl, rfl, rfl, fun _ => rfl, hr _⟩,
    fun _ _ h1 h2 => absurd (lt_length_of_getElem? h2) (Nat.not_lt_of_le h1)⟩

theorem trans (ht : ∀ a b c, ρ a b → ρ b c → ρ a c) (h1 : Ext ρ s0 P P') (h2 : Ext ρ s0 P' P'') :
    Ext ρ s0 P P'' where
  kind := h2.kind.trans h1.kind
  dimn := h2.dimn.trans h1.dimn
  len := Nat.le_trans h1.len h2.len
  depth := Nat.le_trans h1.depth h2.depth
  old := by
    intro i nd hi
    obtain ⟨b, b1, b2, b3, b4, b5, b6, b7⟩ := h1.old i nd hi
    obtain ⟨c, c1, c2, c3, c4, c5, c6, c7⟩ := h2.old i b b1
    refine ⟨c, c1, c2.trans b2, c3.trans b3, c4.trans b4, c5.trans b5, ?_, ht _ _ _ b7 c7⟩
    intro hne
    have := b6 hne
    rw [c6 (by rw [this]; exact hne), this]
  new := by
    intro i nd'' hi hn
    by_cases hlt : i < P'.nodes.length
    · obtain ⟨b, hb⟩ : ∃ b, P'.nodes[i]? = some b := ⟨_, List.getElem?_eq_getElem hlt⟩
      obtain ⟨c, c1, _, _, _, _, _, c7⟩ := h2.old i b hb
      obtain rfl := getElem?_inj c1 hn
      exact ht _ _ _ (h1.new i b hi hb) c7
    · exact h2.new i nd'' (Nat.le_of_not_lt hlt) hn

theorem refl_eq (s0 : σ) (P : Part α σ) : Ext (· = ·) s0 P P := refl (fun _ => rfl) P

theorem trans_eq (h1 : Ext (· = ·) s0 P P') (h2 : Ext (· = ·) s0 P' P'') :
    Ext (· = ·) s0 P P'' :=
  trans (fun _ _ _ a b => a.trans b) h1 h2

theorem of_prel {τ : Nat → Node α σ → Node α σ → Prop} (h : PRel τ P P')
    (hτ : ∀ i a b, τ i a b → ρ a.st b.st) : Ext ρ s0 P P' where
  kind := h.kind
  dimn := h.dimn_eq
  len := by rw [h.len]; exact Nat.le_refl _
  depth := by rw [h.depth]; exact Nat.le_refl _
  old := by
    intro i nd hi
    obtain ⟨nd', a1, a2, a3⟩ := h.node i nd hi
    exact ⟨nd', a1, a2.depth, a2.index, a2.parent, a2.box, fun _ => a2.children, hτ _ _ _ a3⟩
  new := by
    intro i nd' h1 h2
    have := lt_length_of_getElem? h2
    rw [h.len] at this
    omega

theorem of_step (hr : ∀ a, ρ a a) {p : Nat} {nd : Node α σ} (S : Step P P' s0 p nd)
    (W : WF P) (hp : P.nodes[p]? = some nd) (hleaf : nd.children = none) : Ext ρ s0 P P' where
  kind := S.kind_eq
  dimn := S.dimn_eq W hp
  len := by rw [S.len]; omega
  depth := by rcases S.layers with ⟨_, _, e⟩ | ⟨_, _, e⟩ <;> omega
  old := by
    intro i x hi
    obtain ⟨x', a1, a2, a3, a4, a5, a6, a7, _⟩ := S.pres hp hi
    refine ⟨x', a1, a2, a3, a4, a5, ?_, by rw [a6]; exact hr _⟩
    intro hne
    by_cases hip : i = p
    · subst hip
      obtain rfl := getElem?_inj hp hi
      exact absurd hleaf hne
    · exact a7 hip
  new := by
    intro i x' h1 h2
    rcases S.inv hp h2 with ⟨x, a1, _⟩ | ⟨j, _, _, _, _, _, _, _, a8⟩
    · exact absurd (lt_length_of_getElem? a1) (Nat.not_lt_of_le h1)
    · rw [a8]; exact hr _

theorem mono {ρ' : σ → σ → Prop} (h : Ext ρ s0 P P') (hm : ∀ a b, ρ a b → ρ' a b) :
    Ext ρ' s0 P P' :=
  ⟨h.kind, h.dimn, h.len, h.depth,
    fun i nd hi => by
      obtain ⟨nd', a1, a2, a3, a4, a5, a6, a7⟩ := h.old i nd hi
      exact ⟨nd', a1, a2, a3, a4, a5, a6, hm _ _ a7⟩,
    fun i nd' h1 h2 => hm _ _ (h.new i nd' h1 h2)⟩

end Ext

theorem leafTest_at {P : Part α σ} {w : Nat} {nd : Node α σ} (h : P.nodes[w]? = some nd)
    (p : σ → Bool) : leafTest P p w = (nd.children.isNone && p nd.st) := by
  unfold leafTest; rw [h]

theorem leafTest_none {P : Part α σ} {w : Nat} (h : P.nodes[w]? = none) (p : σ → Bool) :
    leafTest P p w = false := by
  unfold leafTest; rw [h]

theorem leafScore_at {P : Part α σ} {w : Nat} {nd : Node α σ} (h : P.nodes[w]? = some nd)
    (sc : σ → S) : leafScore P sc w = if nd.children.isNone then some (sc nd.st) else none := by
  unfold leafScore; rw [h]

theorem leafScore_none {P : Part α σ} {w : Nat} (h : P.nodes[w]? = none) (sc : σ → S) :
    leafScore P sc w = none := by
  unfold leafScore; rw [h]

theorem nodeScore_at {P : Part α σ} {w : Nat} {nd : Node α σ} (h : P.nodes[w]? = some nd)
    (sc : σ → S) : nodeScore P sc w = some (sc nd.st) := by
  unfold nodeScore; rw [h]

theorem leafTest_eq_true_iff {P : Part α σ} {p : σ → Bool} {w : Nat} :
    leafTest P p w = true ↔
      ∃ nd, P.nodes[w]? = some nd ∧ nd.children = none ∧ p nd.st = true := by
  cases h : P.nodes[w]? with
  | none => simp [leafTest_none h]
  | some nd => simp [leafTest_at h]

theorem leafTest_eq_false_iff {P : Part α σ} {p : σ → Bool} {w : Nat} :
    leafTest P p w = false ↔
      ∀ nd, P.nodes[w]? = some nd → nd.children = none → p nd.st = false := by
  cases h : P.nodes[w]? with
  | none => simp [leafTest_none h]
  | some nd => simp [leafTest_at h]

theorem unvisitedLeaf_eq_true_iff {P : Part α (SwSt S)} {w : Nat} :
    unvisitedLeaf P w = true ↔
      ∃ nd, P.nodes[w]? = some nd ∧ nd.children = none ∧ nd.st.visited = false := by
  unfold unvisitedLeaf
  rw [leafTest_eq_true_iff]
  simp

theorem unvisitedLeaf_eq_false_iff {P : Part α (SwSt S)} {w : Nat} :
    unvisitedLeaf P w = false ↔
      ∀ nd, P.nodes[w]? = some nd → nd.children = none → nd.st.visited = true := by
  unfold unvisitedLeaf
  rw [leafTest_eq_false_iff]
  simp

theorem leafScore_eq_some_iff {P : Part α σ} {sc : σ → S} {w : Nat} {x : S} :
    leafScore P sc w = some x ↔
      ∃ nd, P.nodes[w]? = some nd ∧ nd.children = none ∧ sc nd.st = x := by
  cases h : P.nodes[w]? with
  | none => simp [leafScore_none h]
  | some nd => cases hc : nd.children <;> simp [leafScore_at h, hc]

theorem leafScore_eq_none_iff {P : Part α σ} {sc : σ → S} {w : Nat} :
    leafScore P sc w = none ↔ ∀ nd, P.nodes[w]? = some nd → nd.children ≠ none := by
  cases h : P.nodes[w]? with
  | none => simp [leafScore_none h]
  | some nd => cases hc : nd.children <;> simp [leafScore_at h, hc]

theorem _root_.PyXAB.TBA.PRel.getElem?_none {P P' : Part α σ}
    {τ : Nat → Node α σ → Node α σ → Prop} (hr : PRel τ P P') {w : Nat}
    (h : P.nodes[w]? = none) : P'.nodes[w]? = none := by
  rw [List.getElem?_eq_none_iff] at h ⊢; rw [hr.len]; exact h

theorem _root_.PyXAB.TBA.PRel.draws {P P' : Part α σ} {τ : Nat → Node α σ → Node α σ → Prop}
    (hr : PRel τ P P') {ds : List (Draw α)} (hds : ∀ d ∈ ds, DrawOKLen P.kind (dimn P) d) :
    ∀ d ∈ ds, DrawOKLen P'.kind (dimn P') d := by
  rw [hr.kind, hr.dimn_eq]; exact hds

theorem _root_.PyXAB.TBA.PRel.with_src {P P' : Part α σ} {τ : Nat → Node α σ → Node α σ → Prop}
    (h : PRel τ P P') : PRel (fun i a b => τ i a b ∧ P.nodes[i]? = some a) P P' :=
  ⟨h.kind, h.layers, h.depth, h.len, fun i nd hi => by
    obtain ⟨nd', a1, a2, a3⟩ := h.node i nd hi
    exact ⟨nd', a1, a2, a3, hi⟩⟩

theorem leafTest_prel {P P' : Part α σ} {τ : Nat → Node α σ → Node α σ → Prop}
    (hr : PRel τ P P') {p p' : σ → Bool} {w : Nat}
    (hτ : ∀ a b, τ w a b → a.children = none → p' b.st = p a.st) :
    leafTest P' p' w = leafTest P p w := by
  cases h0 : P.nodes[w]? with
  | none => rw [leafTest_none h0, leafTest_none (hr.getElem?_none h0)]
  | some nd =>
    obtain ⟨nd', h1, h2, h3⟩ := hr.node w nd h0
    rw [leafTest_at h0, leafTest_at h1, h2.children]
    cases hc : nd.children with
    | none => rw [hτ _ _ h3 hc]
    | some cs => rfl

theorem leafScore_prel {P P' : Part α σ} {τ : Nat → Node α σ → Node α σ → Prop}
    (hr : PRel τ P P') {sc sc' : σ → S} {w : Nat}
    (hτ : ∀ a b, τ w a b → a.children = none → sc' b.st = sc a.st) :
    leafScore P' sc' w = leafScore P sc w := by
  cases h0 : P.nodes[w]? with
  | none => rw [leafScore_none h0, leafScore_none (hr.getElem?_none h0)]
  | some nd =>
    obtain ⟨nd', h1, h2, h3⟩ := hr.node w nd h0
    rw [leafScore_at h0, leafScore_at h1, h2.children]
    cases hc : nd.children with
    | none => rw [hτ _ _ h3 hc]
    | some cs => rfl

/-! The scans of DOO and StoSOO rewrite the payload of the leaves they pass (`g`, on the leaves
satisfying `c`) while they look for the maximum. -/

/-- one step of such a scan at the cell `a` -/
def refreshAt (g : σ → σ) (c : σ → Bool) (P : Part α σ) (a : Nat) : Part α σ :=
  if leafTest P c a then P.modifySt a g else P

/-- the payload relation, cell by cell, of a scan which has passed the cells `l` -/
def Refreshed (g : σ → σ) (c : σ → Bool) (l : List Nat) (i : Nat) (nd nd' : Node α σ) : Prop :=
  nd'.st = if i ∈ l ∧ nd.children = none ∧ c nd.st = true then g nd.st else nd.st

theorem refreshAt_rel (g : σ → σ) (c : σ → Bool) (P : Part α σ) (a : Nat) :
    PRel (Refreshed g c [a]) P (refreshAt g c P a) := by
  unfold refreshAt
  cases ht : leafTest P c a with
  | false =>
    refine (PRel.refl (ρ := fun _ a b => b.st = a.st) (fun _ _ => rfl) P).with_src.mono ?_
    rintro i nd nd' _ ⟨e, hi⟩
    have : ¬ (i ∈ [a] ∧ nd.children = none ∧ c nd.st = true) := by
      rintro ⟨hm, h1, h2⟩
      obtain rfl := List.mem_singleton.1 hm
      rw [leafTest_at hi, h1, h2] at ht; cases ht
    rw [Refreshed, if_neg this]; exact e
  | true =>
    obtain ⟨x, hx, hl, hcx⟩ := leafTest_eq_true_iff.1 ht
    refine (PRel_modifySt P a g).with_src.mono ?_
    rintro i nd nd' _ ⟨e, hi⟩
    rw [Refreshed, e]
    by_cases hia : i = a
    · subst hia
      obtain rfl := getElem?_inj hx hi
      rw [if_pos rfl, if_pos ⟨List.mem_singleton.2 rfl, hl, hcx⟩]
    · rw [if_neg hia, if_neg (fun h => hia (List.mem_singleton.1 h.1))]

theorem leafScore_refreshAt {g : σ → σ} (c : σ → Bool) (P : Part α σ) (a : Nat) {sc : σ → S}
    (hs : ∀ s, sc (g s) = sc s) : leafScore (refreshAt g c P a) sc = leafScore P sc :=
  funext fun _ => leafScore_prel (refreshAt_rel g c P a) (fun x y h _ => by
    rw [h]; split
    · exact hs _
    · rfl)

theorem foldl_refreshAt_rel {g : σ → σ} {c : σ → Bool} (hg : ∀ s, g (g s) = g s)
    (hc : ∀ s, c (g s) = c s) (l : List Nat) (P : Part α σ) :
    PRel (Refreshed g c l) P (l.foldl (refreshAt g c) P) := by
  induction l generalizing P with
  | nil => exact PRel.refl (fun i nd => by simp [Refreshed]) P
  | cons a l ih =>
    refine (refreshAt_rel g c P a).trans' (ih _) ?_
    intro i x y z s1 _ h1 h2
    unfold Refreshed at *
    rw [h2, h1, s1.children]
    by_cases hleaf : x.children = none ∧ c x.st = true
    · by_cases hia : i = a
      · simp [hia, hleaf, hg, hc]
      · simp [hia, hleaf]
    · have h3 : ¬ (i ∈ [a] ∧ x.children = none ∧ c x.st = true) := fun h => hleaf h.2
      have h4 : ¬ (i ∈ a :: l ∧ x.children = none ∧ c x.st = true) := fun h => hleaf h.2
      have h5 : ¬ (i ∈ l ∧ x.children = none ∧ c x.st = true) := fun h => hleaf h.2
      rw [if_neg h3, if_neg h4, if_neg h5]

theorem IsLastMax.node_of_layer [LinearOrder S] {P : Part α σ} (W : WF P) {sc : σ → S}
    {h : Nat} {l : List Nat} {m : Nat} {x : S} (hl : P.layers[h]? = some l)
    (hmax : IsLastMax (leafScore P sc) l m x) :
    ∃ nd, P.nodes[m]? = some nd ∧ nd.children = none ∧ sc nd.st = x ∧ nd.depth = h := by
  obtain ⟨nd, hm, hleaf, hx⟩ := leafScore_eq_some_iff.1 hmax.score
  obtain ⟨nd2, hm2, hdep⟩ := (W.mem_layer_iff hl m).1 hmax.mem
  obtain rfl := getElem?_inj hm hm2
  exact ⟨nd, hm, hleaf, hx, hdep⟩

theorem lt_depth_of_all_none {P : Part α σ} (W : WF P) {sc : σ → S} {h : Nat} {l : List Nat}
    (hh : h ≤ P.depth) (hl : P.layers[h]? = some l)
    (hn : ∀ w ∈ l, leafScore P sc w = none) : h < P.depth := by
  refine Nat.lt_of_le_of_ne hh (fun e => ?_)
  obtain ⟨w, hw⟩ := List.exists_mem_of_ne_nil l (W.layer_ne_nil hl)
  obtain ⟨nd, h1, h2⟩ := (W.mem_layer_iff hl w).1 hw
  exact leafScore_eq_none_iff.1 (hn w hw) nd h1 (W.leaf_of_deepest h1 (h2.trans e))

end SW
end PyXAB
