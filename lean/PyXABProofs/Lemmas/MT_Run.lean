/-
  Shared by the POO and GPO wrappers: inversion of `Except.bind`, lookups which raise, and runs
  of a step function `σ → ι → Except ε (σ × β)` over a list of inputs with the outputs collected
  in a log.  No Mathlib.
-/
import PyXABProofs.Lemmas.PartBasic

namespace PyXAB.MT

variable {ε β γ : Type}

theorem ok_bind (b : β) (f : β → Except ε γ) : (Except.ok b >>= f) = f b := rfl

/-- `match o with | none => .error e | some a => .ok a`: the lookups of the model, as a computation
which `ListAux.bind_eq_ok` can invert. -/
def orErr (o : Option β) (e : ε) : Except ε β :=
  match o with
  | none => .error e
  | some a => .ok a

theorem orErr_some (a : β) (e : ε) : orErr (some a) e = .ok a := rfl

theorem orErr_eq_ok_iff {o : Option β} {e : ε} {a : β} : orErr o e = .ok a ↔ o = some a := by
  cases o with
  | none => exact ⟨nofun, nofun⟩
  | some b => exact ⟨fun h => by cases h; rfl, fun h => by cases h; rfl⟩

-- Lists read with a default: an appended default is invisible, `set` changes one place.

theorem getD_getElem?_concat (l : List β) (d : β) (j : Nat) :
    ((l ++ [d])[j]?).getD d = (l[j]?).getD d := by
  rw [List.getElem?_append]
  split
  · rfl
  · rename_i h
    rw [List.getElem?_eq_none (l := l) (Nat.le_of_not_lt h), List.getElem?_singleton]
    split <;> rfl

theorem getElem?_set_of_some {l : List β} {i : Nat} {v : β} (h : l[i]? = some v) (x : β) (j : Nat) :
    (l.set i x)[j]? = if j = i then some x else l[j]? := by
  rw [List.getElem?_set, if_pos (List.getElem?_eq_some_iff.mp h).1]
  split <;> split <;> first | rfl | omega

theorem getElem?_concat_cases {l : List β} {a e : β} {k : Nat} (h : (l ++ [a])[k]? = some e) :
    l[k]? = some e ∨ (k = l.length ∧ e = a) := by
  rw [List.getElem?_append] at h
  split at h
  · exact .inl h
  · rw [List.getElem?_singleton] at h
    split at h
    · exact .inr ⟨by omega, (Option.some.inj h).symm⟩
    · cases h

theorem getElem?_concat_of_some {l : List β} {e : β} {k : Nat} (h : l[k]? = some e) (a : β) :
    (l ++ [a])[k]? = some e := by
  rw [List.getElem?_append_left (List.getElem?_eq_some_iff.mp h).1]
  exact h

theorem exists_getLast? {l : List β} (h : 0 < l.length) : ∃ a, l.getLast? = some a :=
  ⟨_, List.getLast?_eq_some_getLast (List.ne_nil_of_length_pos h)⟩

variable {σ ι : Type}

/-- Run `step` over the inputs, oldest first, collecting the outputs. -/
def runM (step : σ → ι → Except ε (σ × β)) : σ → List ι → Except ε (σ × List β)
  | s, [] => .ok (s, [])
  | s, x :: xs => step s x >>= fun o => runM step o.1 xs >>= fun o' => .ok (o'.1, o.2 :: o'.2)

variable {step : σ → ι → Except ε (σ × β)}

theorem runM_cons_ok_iff {s s' : σ} {x : ι} {xs : List ι} {log : List β} :
    runM step s (x :: xs) = .ok (s', log) ↔
      ∃ s1 e log', step s x = .ok (s1, e) ∧ runM step s1 xs = .ok (s', log') ∧ log = e :: log' := by
  simp only [runM, ListAux.bind_eq_ok, Except.ok.injEq, Prod.mk.injEq, Prod.exists]
  constructor
  · rintro ⟨s1, e, hs, _, log', hr, rfl, rfl⟩; exact ⟨s1, e, log', hs, hr, rfl⟩
  · rintro ⟨s1, e, log', hs, hr, rfl⟩; exact ⟨s1, e, hs, _, log', hr, rfl, rfl⟩

/-- A relation between the state and the log so far which every successful step preserves holds
after every successful run. -/
theorem runM_induction {J : σ → List β → Prop}
    (hstep : ∀ s log x s' e, J s log → step s x = .ok (s', e) → J s' (log ++ [e])) :
    ∀ {xs : List ι} {s s' : σ} {log0 log : List β}, J s log0 → runM step s xs = .ok (s', log) →
      J s' (log0 ++ log)
  | [], s, s', log0, log, hJ, h => by cases h; rwa [List.append_nil]
  | x :: xs, s, s', log0, log, hJ, h => by
    obtain ⟨s1, e, log', hs, hr, rfl⟩ := runM_cons_ok_iff.mp h
    rw [List.append_cons]
    exact runM_induction hstep (hstep s log0 x s1 e hJ hs) hr

theorem runM_append_ok_iff {xs ys : List ι} {s s' : σ} {log : List β} :
    runM step s (xs ++ ys) = .ok (s', log) ↔
      ∃ s1 log1 log2, runM step s xs = .ok (s1, log1) ∧ runM step s1 ys = .ok (s', log2) ∧
        log = log1 ++ log2 := by
  induction xs generalizing s log with
  | nil =>
    exact ⟨fun h => ⟨s, [], log, rfl, h, rfl⟩, by rintro ⟨_, _, _, ⟨⟩, h, rfl⟩; exact h⟩
  | cons x xs ih =>
    rw [List.cons_append, runM_cons_ok_iff]
    constructor
    · rintro ⟨s1, e, _, hs, hr, rfl⟩
      obtain ⟨s2, log1, log2, h1, h2, rfl⟩ := ih.mp hr
      exact ⟨s2, e :: log1, log2, runM_cons_ok_iff.mpr ⟨s1, e, log1, hs, h1, rfl⟩, h2, rfl⟩
    · rintro ⟨s2, _, log2, h1, h2, rfl⟩
      obtain ⟨s1, e, log1, hs, h1', rfl⟩ := runM_cons_ok_iff.mp h1
      exact ⟨s1, e, log1 ++ log2, hs, ih.mpr ⟨s2, log1, log2, h1', h2, rfl⟩, rfl⟩

theorem runM_length : ∀ {xs : List ι} {s s' : σ} {log : List β}, runM step s xs = .ok (s', log) →
    log.length = xs.length
  | [], _, _, _, h => by cases h; rfl
  | _ :: _, _, _, _, h => by
    obtain ⟨_, _, _, -, hr, rfl⟩ := runM_cons_ok_iff.mp h
    rw [List.length_cons, List.length_cons, runM_length hr]

/-- If every step from a state satisfying `I` succeeds and re-establishes `I`, so does every run. -/
theorem runM_total {I : σ → Prop} (hstep : ∀ s x, I s → ∃ s' e, step s x = .ok (s', e) ∧ I s') :
    ∀ (xs : List ι) {s : σ}, I s → ∃ s' log, runM step s xs = .ok (s', log)
  | [], s, _ => ⟨s, [], rfl⟩
  | x :: xs, s, hI => by
    obtain ⟨s1, e, hs, hI1⟩ := hstep s x hI
    obtain ⟨s', log, hr⟩ := runM_total hstep xs hI1
    exact ⟨s', e :: log, runM_cons_ok_iff.mpr ⟨s1, e, log, hs, hr, rfl⟩⟩

/-- Every log entry was produced by a step from the state reached on the inputs before it. -/
theorem runM_getElem? {xs : List ι} {s s' : σ} {log : List β} {k : Nat} {e : β}
    (h : runM step s xs = .ok (s', log)) (hk : log[k]? = some e) :
    ∃ s1 x s2, runM step s (xs.take k) = .ok (s1, log.take k) ∧ xs[k]? = some x ∧
      step s1 x = .ok (s2, e) := by
  rw [← List.take_append_drop k xs, runM_append_ok_iff] at h
  obtain ⟨s1, log1, log2, h1, h2, rfl⟩ := h
  have hlt : k < xs.length := by
    have := (List.getElem?_eq_some_iff.mp hk).1
    rwa [List.length_append, runM_length h1, runM_length h2, ← List.length_append,
      List.take_append_drop] at this
  have hl1 : log1.length = k := by rw [runM_length h1, List.length_take]; omega
  rw [List.drop_eq_getElem_cons hlt] at h2
  obtain ⟨s2, e', log', hs, -, rfl⟩ := runM_cons_ok_iff.mp h2
  rw [List.getElem?_append_right (by omega), hl1, Nat.sub_self] at hk
  cases hk
  refine ⟨s1, xs[k], s2, ?_, List.getElem?_eq_getElem hlt, hs⟩
  rw [List.take_left' hl1]
  exact h1
end PyXAB.MT
