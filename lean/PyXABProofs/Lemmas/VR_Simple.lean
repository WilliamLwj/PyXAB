/-
  Simple sufficient conditions for the draw hypotheses `InitDrawsOK` / `PullDrawsOK`, for the
  partition classes whose NumPy guarantees do not depend on the box being split
  (`.binary`, `.kary K`, `.dimBinary`).
-/
import PyXABProofs.Lemmas.VR_Main

set_option linter.unusedSectionVars false

namespace PyXAB
namespace VR
open _root_.PyXAB.Tree TBA VROOM

section simple
variable {α R S : Type} [Field α] [LinearOrder α] [IsStrictOrderedRing α]

theorem lastLayer_deepen {σ : Type} {s0 : σ} {P P' : Part α σ} (W : WF P) (W' : WF P')
    (hdep : P'.depth = P.depth + 1) (Gr : Grow s0 P.depth P P')
    (hlast : ∀ q, q ∈ lastLayer P → ∃ qn, P'.nodes[q]? = some qn ∧ qn.children ≠ none) :
    (lastLayer P').length = K P * (lastLayer P).length := by
  have hl : P'.layers[P.depth]? = some (lastLayer P) := by
    rw [Gr.layers P.depth (Nat.le_refl _)]; exact W.lastLayer_spec
  have hl' : P'.layers[P.depth + 1]? = some (lastLayer P') := by
    rw [← hdep]; exact W'.lastLayer_spec
  rw [layer_succ_length W' hl hl', Gr.K_eq]
  intro p pn hp hpn
  obtain ⟨qn, q0, q1⟩ := hlast p hp
  obtain rfl := getElem?_inj q0 hpn
  exact q1

/-- `n` further `deepen()` calls from `P` consume `|deepest layer| · Σ_{i<n} K^i` draws -/
theorem initDrawsOK_of_simple (sd : Nat) (fuel : Nat) : ∀ (n : Nat) (P : Part α (VrSt R S))
    (ds : List (Draw α)), WF P → Geo P → (∀ d ∈ ds, SimpleDraw P d) → sd ≤ P.depth + n →
    (lastLayer P).length * geomSum (K P) n ≤ ds.length →
    InitDrawsOK (VROOM.st0 (R := R) (S := S)) sd fuel P ds := by
  induction fuel with
  | zero => exact fun _ _ _ _ _ _ _ _ => trivial
  | succ fuel ih =>
    intro n P ds W G hs hn hlen hlt
    obtain ⟨n, rfl⟩ : ∃ m, n = m + 1 :=
      ⟨n - 1, (Nat.succ_pred_eq_of_pos (Nat.pos_of_ne_zero fun e => by omega)).symm⟩
    rw [geomSum, Nat.mul_add, Nat.mul_one] at hlen
    have hD : DeepenDrawsOK P ds :=
      ⟨Nat.le_trans (Nat.le_add_right _ _) hlen, fun j q nd d _ hq hd =>
        ⟨(hs d (List.mem_of_getElem? hd)).1,
          (hs d (List.mem_of_getElem? hd)).2 _ (W.boxlen q nd hq)⟩⟩
    refine ⟨hD, fun P' ds' m => ?_⟩
    obtain ⟨P1, m1, W1, G1, hdep, Gr, hlast⟩ := deepen_inv W G VROOM.st0 ds hD
    obtain ⟨rfl, rfl⟩ := Prod.mk.inj (Except.ok.inj (m1.symm.trans m))
    refine ih n P1 _ W1 G1 (fun d hd => ?_) (by rw [hdep, Nat.add_right_comm]; exact hn) ?_
    · have := hs d (List.mem_of_mem_drop hd)
      unfold SimpleDraw at this ⊢
      rw [Gr.kind, Gr.dimn]; exact this
    · rw [lastLayer_deepen W W1 hdep Gr hlast, Gr.K_eq, List.length_drop, Nat.mul_comm (K P),
        Nat.mul_assoc]
      exact Nat.le_sub_of_add_le' hlen

/-- Sufficient condition for `DescOK` when the guarantees `DrawOK` do not depend on the box
beyond its dimension (`.binary`, `.kary K`, `.dimBinary`): enough steps, each with a valid
child sign and a well-formed draw.  Kind `k` and dimension `D` stay fixed along the descent. -/
theorem descOK_of_simple (hmax : Nat) (k : Kind) (D : Nat)
    (steps : List (Option (Draw α) × Nat))
    (hall : ∀ x ∈ steps, x.2 < k.arity D ∧ ∃ d, x.1 = some d ∧ DrawOKLen k D d ∧
      ∀ b : Box α, b.length = D → DrawOK k b d) :
    ∀ (h node : Nat) (P : Part α (VrSt R S)) (nd : Node α (VrSt R S)), WF P → P.kind = k →
      dimn P = D → P.nodes[node]? = some nd → nd.depth = h → hmax - h ≤ steps.length →
      DescOK hmax steps h node P := by
  induction steps with
  | nil =>
    intro h node P nd _ _ _ _ _ hlen
    show ¬ h < hmax
    rw [List.length_nil] at hlen
    omega
  | cons x rest ih =>
    obtain ⟨od, sign⟩ := x
    intro h node P nd W hk hD hnd hdep hlen hh
    obtain ⟨hsign, d, rfl, hdl, hdk⟩ := hall _ (List.mem_cons_self ..)
    have ih := ih (fun x hx => hall x (List.mem_cons_of_mem _ hx)) (h + 1)
    have hlen' : hmax - (h + 1) ≤ rest.length := by rw [List.length_cons] at hlen; omega
    subst hk hD
    refine ⟨hsign, fun nd' hnd' => ?_⟩
    obtain rfl := getElem?_inj hnd hnd'
    cases hcs : nd.children with
    | some cs =>
      intro c hc
      obtain ⟨_, cn, _, _, _, _, g1, _, _, g4⟩ := W.child_facts hnd hcs (List.mem_of_getElem? hc)
      exact ih c P cn W rfl rfl g1 (by rw [g4, hdep]) hlen'
    | none =>
      refine ⟨d, rfl, hdl, hdk _ (W.boxlen node nd hnd), fun P1 c m1 hc => ?_⟩
      obtain ⟨P1', m1', W1, St⟩ := makeChildren_WF_step W st0 hnd hcs (by rw [hdep]) hdl
      obtain rfl : P1' = P1 := Except.ok.inj (m1'.symm.trans m1)
      obtain rfl := Option.some.inj ((step_child_at St hsign).symm.trans hc)
      obtain ⟨cn, c1, c2, _⟩ := St.new sign hsign
      exact ih _ P1' cn W1 St.kind_eq (St.dimn_eq W hnd) c1 (by rw [c2, hdep]) hlen'

variable [LinearOrder S]

theorem pullDrawsOK_of_simple (cfg : VrCfg R S) (s : VROOM α R S) (dr : VDraw α)
    (T : TInv cfg.sd s.P) (hch : dr.choice < (idxList cfg.sd s.P).length)
    (hlen : ∀ h l, (idxList cfg.sd s.P)[dr.choice]? = some (h, l) →
      cfg.hmax - h ≤ dr.steps.length)
    (hsteps : ∀ x ∈ dr.steps, x.2 < K s.P ∧ ∃ d, x.1 = some d ∧ SimpleDraw s.P d) :
    PullDrawsOK cfg s dr := by
  refine ⟨hch, fun P1 h l node Rk hidx hnode => ?_⟩
  have hR := Rk.toPRel
  obtain ⟨nd, n1, n2⟩ := (T.wf.mem_getD_layer h node).1 (List.mem_of_getElem? hnode)
  obtain ⟨nd', n1', sk, _⟩ := hR.node node nd n1
  exact descOK_of_simple cfg.hmax s.P.kind (dimn s.P) dr.steps hsteps h node P1 nd' (hR.wf T.wf)
    hR.kind hR.dimn_eq n1' (sk.depth.trans n2) (hlen h l hidx)

end simple
end VR
end PyXAB
