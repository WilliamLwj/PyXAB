/-
  DOO: `pull` (spec and totality), rounds and the whole loop.
-/
import PyXABProofs.Lemmas.SW_DOOLoop
import PyXABProofs.Lemmas.SW_Loop

set_option linter.unusedSectionVars false

namespace PyXAB
namespace DOO
open Tree TBA SW

variable {α S : Type} [Add α] [Sub α] [Mul α] [Div α] [OfNat α 2] [NatCast α]
variable [LinearOrder S] [Inhabited S]

theorem pullT_spec (cfg : DOOCfg α S) (hbot : ∀ x, cfg.negInf ≤ x) {s s' : DOO α S} {time : Nat}
    {ds ds' : List (Draw α)} {v : Nat} {tr : List (Ev α (SwSt S) S)}
    (hI : Inv cfg s) (hds : ∀ d ∈ ds, DrawOKLen s.P.kind (dimn s.P) d)
    (hrun : pullT cfg s time ds = .ok (s', ds', v, tr)) :
    (∃ Pb, LoopPost cfg s.P ds s'.P ds' v tr Pb) ∧ Inv cfg s' ∧ s'.curr = some v ∧
      s'.iteration = time ∧ s'.P.kind = s.P.kind ∧ dimn s'.P = dimn s.P := by
  unfold pullT at hrun
  cases hl : loopT cfg (2 * s.P.depth + 8) 0 cfg.negInf none s.P ds with
  | error e => rw [hl] at hrun; cases hrun
  | ok res =>
    obtain ⟨P1, ds1, id, tr1⟩ := res
    rw [hl] at hrun
    cases hrun
    obtain ⟨⟨Pb, hp⟩, _⟩ := loopT_spec cfg hbot _ 0 _ _ s.P ds hI.pinv (PassInv.zero cfg s.P) hds hl
    obtain ⟨nd, n1, _⟩ := hp.node
    obtain ⟨a, b, c, d⟩ := hp.pinv.handout n1
    have hm := hp.marked
    subst hm
    exact ⟨⟨Pb, hp⟩, ⟨a, b⟩, rfl, rfl, c.trans hp.ext.kind, d.trans hp.ext.dimn⟩

theorem PassInv.step_last {cfg : DOOCfg α S} (hbot : ∀ x, cfg.negInf ≤ x) {h : Nat} {maxv mv : S}
    {maxn mn : Option Nat} {P P1 : Part α (SwSt S)} {δ : S} {l : List Nat} {ds : List (Draw α)}
    (hI : PInv cfg.reward0 P) (hp : PassInv cfg h maxv maxn P) (hd : cfg.delta P h = .ok δ)
    (hl : P.layers[h]? = some l) (hsc : scan cfg δ l P maxv maxn = (P1, .best mv mn))
    (hlast : h + 1 > P1.depth) (hlen : HasUnv P h ∨ 1 ≤ ds.length)
    (hds : ∀ d ∈ ds, DrawOKLen P.kind (dimn P) d) :
    ¬ HasUnv P h ∧ P1.depth = P.depth ∧ ∃ m nd P2 ds0, mn = some m ∧ P1.nodes[m]? = some nd ∧
      P1.makeChildrenD (st0 cfg) m (decide (nd.depth ≥ P1.depth)) ds = .ok (P2, ds0) ∧
      PInv cfg.reward0 P2 ∧ HasUnv P2 0 ∧ P2.depth ≤ P1.depth + 1 ∧
      ∀ d ∈ ds0, DrawOKLen P2.kind (dimn P2) d := by
  obtain ⟨hR, _, hp1⟩ := hp.step hI.wf hd hl hsc
  obtain ⟨hp1, hnext⟩ := hp1 _ _ rfl
  have hI1 := hR.pinv hI
  have hnu : ¬ HasUnv P h := fun hu => by have := (hnext hu).le_depth hI1.wf; omega
  have hds1 := hR.draws hds
  obtain ⟨m, nd, e, hm, hleaf, hvis, _⟩ := hp1.last hbot hI1 hlast
  obtain ⟨d, ds0, P2, rfl, hmk, St, W2, hK⟩ := expand_total hI1.wf (st0 cfg) hm hleaf
    (fl := decide (nd.depth ≥ P1.depth)) rfl (hlen.resolve_left hnu) hds1
  obtain ⟨l2, q1, q2, hun, _, hd2⟩ := Step_new_unvisited St hI1.wf hK rfl
  obtain ⟨_, _, _, _, _, hds2⟩ := expand_ok SameVR.rfl' hI1.wf hm hleaf rfl hds1 hmk
  exact ⟨hnu, hR.depth, m, nd, P2, ds0, e, hm, hmk, hI1.step St hm hleaf hvis (fun _ => rfl) hK,
    ⟨nd.depth + 1, l2, _, Nat.zero_le _, q1, q2, hun⟩, hd2, hds2⟩

/-- A pass returns: it hands out the unevaluated leaf ahead (no fuel beyond the layers, no
draw needed, the depth is unchanged), or it runs to the last layer, expands the maximiser with
the first draw and a second pass hands out a child.  Fuel: a pass spends one unit per layer from
`h` to the depth (`depth - h + 1`); the second pass starts again at depth 0 in a tree at most one
layer deeper, which `depth + 3` more units cover. -/
theorem loopT_total (cfg : DOOCfg α S) (hbot : ∀ x, cfg.negInf ≤ x) (hδ : DeltaOK cfg)
    (fuel h : Nat) (maxv : S) (maxn : Option Nat) (P : Part α (SwSt S)) (ds : List (Draw α))
    (hI : PInv cfg.reward0 P) (hp : PassInv cfg h maxv maxn P) (hh : h ≤ P.depth)
    (hf : P.depth - h + 1 ≤ fuel)
    (hf2 : HasUnv P h ∨ (P.depth - h + 1 + (P.depth + 3) ≤ fuel ∧ 1 ≤ ds.length))
    (hds : ∀ d ∈ ds, DrawOKLen P.kind (dimn P) d) :
    ∃ P' ds' v tr, loopT cfg fuel h maxv maxn P ds = .ok (P', ds', v, tr) ∧
      P'.depth ≤ P.depth + 1 ∧ (HasUnv P h → P'.depth = P.depth) := by
  have hlen := hf2.imp id (·.2)
  fun_induction loopT cfg fuel h maxv maxn P ds
  case case1 => omega
  case case2 fuel h maxv maxn P ds _ e hdl =>
    obtain ⟨δ, hd⟩ := hδ P h hI.wf hh
    rw [hd] at hdl; cases hdl
  case case3 fuel h maxv maxn P ds _ δ _ hl =>
    obtain ⟨l, hl'⟩ := hI.wf.layer_exists hh
    rw [hl] at hl'; cases hl'
  case case11 hh' => exact absurd hh hh'
  case case4 fuel h maxv maxn P ds _ δ hdl l hl P1 id hsc =>
    obtain ⟨hR, _⟩ := hp.step hI.wf hdl hl hsc
    exact ⟨_, _, _, _, rfl, by show P1.depth ≤ _; rw [hR.depth]; omega, fun _ => hR.depth⟩
  case case10 fuel h maxv maxn P ds _ δ hdl l hl P1 mv mn hsc hnot ih =>
    obtain ⟨hR, _, hp1⟩ := hp.step hI.wf hdl hl hsc
    obtain ⟨hp1, hnext⟩ := hp1 _ _ rfl
    have hd1 := hR.depth
    have hf2' : HasUnv P1 (h + 1) ∨
        (P1.depth - (h + 1) + 1 + (P1.depth + 3) ≤ fuel ∧ 1 ≤ ds.length) :=
      hf2.imp hnext (fun ⟨x, y⟩ => ⟨by omega, y⟩)
    obtain ⟨P', ds', v, tr, e, a, b⟩ := ih (hR.pinv hI) hp1 (by omega) (by omega) hf2'
      (hR.draws hds) (hf2'.imp id (·.2))
    exact ⟨P', ds', v, tr, e, by omega, fun hu => (b (hnext hu)).trans hd1⟩
  case case5 fuel h maxv maxn P ds _ δ hdl l hl P1 mv hlast hsc =>
    obtain ⟨_, _, _, _, _, _, e, _⟩ := hp.step_last hbot hI hdl hl hsc hlast hlen hds
    cases e
  case case6 fuel h maxv maxn P ds _ δ hdl l hl P1 mv hlast m hm hsc =>
    obtain ⟨_, _, _, _, _, _, e, hm', _⟩ := hp.step_last hbot hI hdl hl hsc hlast hlen hds
    cases e
    rw [hm] at hm'; cases hm'
  case case7 fuel h maxv maxn P ds _ δ hdl l hl P1 mv hlast m nd hm e hmk hsc =>
    obtain ⟨_, _, _, _, _, _, e, hm', hmk', _⟩ := hp.step_last hbot hI hdl hl hsc hlast hlen hds
    cases e
    obtain rfl := getElem?_inj hm hm'
    rw [hmk] at hmk'; cases hmk'
  case case8 fuel h maxv maxn P ds _ δ hdl l hl P1 mv hlast m nd hm P2 ds1 hmk e hsc hrec ih =>
    obtain ⟨hnu, hd1, _, _, _, _, e, hm', hmk', hI2, hu2, hd2, hds2⟩ :=
      hp.step_last hbot hI hdl hl hsc hlast hlen hds
    cases e
    obtain rfl := getElem?_inj hm hm'
    rw [hmk] at hmk'; cases hmk'
    have hfuel := (hf2.resolve_left hnu).1
    obtain ⟨_, _, _, _, e', _⟩ := ih hI2 ⟨LowVisited.zero P2, Or.inl hu2⟩ (Nat.zero_le _)
      (by omega) (Or.inl hu2) hds2 (Or.inl hu2)
    rw [hrec] at e'; cases e'
  case case9 fuel h maxv maxn P ds _ δ hdl l hl P1 mv hlast m nd hm P2 ds1 hmk P3 ds2 id tr2 hsc
      hrec ih =>
    obtain ⟨hnu, hd1, _, _, _, _, e, hm', hmk', hI2, hu2, hd2, hds2⟩ :=
      hp.step_last hbot hI hdl hl hsc hlast hlen hds
    cases e
    obtain rfl := getElem?_inj hm hm'
    rw [hmk] at hmk'; cases hmk'
    have hfuel := (hf2.resolve_left hnu).1
    obtain ⟨_, _, _, _, e', _, b⟩ := ih hI2 ⟨LowVisited.zero P2, Or.inl hu2⟩ (Nat.zero_le _)
      (by omega) (Or.inl hu2) hds2 (Or.inl hu2)
    rw [hrec] at e' ⊢
    cases e'
    exact ⟨_, _, _, _, rfl, by rw [b hu2]; omega, fun hu => absurd hu hnu⟩

theorem pullT_total (cfg : DOOCfg α S) (hbot : ∀ x, cfg.negInf ≤ x) (hδ : DeltaOK cfg)
    {s : DOO α S} (time : Nat) {ds : List (Draw α)} (hI : Inv cfg s) (hlen : 1 ≤ ds.length)
    (hds : ∀ d ∈ ds, DrawOKLen s.P.kind (dimn s.P) d) :
    ∃ s' ds' v tr, pullT cfg s time ds = .ok (s', ds', v, tr) ∧
      s'.P.depth ≤ s.P.depth + 1 := by
  obtain ⟨P', ds', v, tr, e, hd, _⟩ := loopT_total cfg hbot hδ (2 * s.P.depth + 8) 0 cfg.negInf
    none s.P ds hI.pinv (PassInv.zero cfg s.P) (Nat.zero_le _) (by omega)
    (Or.inr ⟨by omega, hlen⟩) hds
  refine ⟨{ s with P := P', iteration := time, curr := some v }, ds', v, tr, ?_, hd⟩
  unfold pullT
  simp only [e]

theorem init_inv (cfg : DOOCfg α S) (k : Kind) (domain : Box α) :
    Inv cfg (init cfg k domain) ∧ (init cfg k domain).P.kind = k ∧
      dimn (init cfg k domain).P = domain.length ∧ (init cfg k domain).P.depth = 0 ∧
      HistOK (init cfg k domain).P [] :=
  ⟨⟨PInv.init k domain rfl, fun _ hc => nomatch hc⟩, rfl, rfl, rfl, HistOK.init k domain _ rfl⟩

theorem receive_eq {s : DOO α S} {c : Nat} (hc : s.curr = some c) (r : S) :
    receive s r = .ok { s with P := setReward s.P c r } := by
  rw [receive, hc]; rfl

structure RoundPost (cfg : DOOCfg α S) (s : DOO α S) (x : Input α S) (s2 : DOO α S) (v : Nat)
    (s1 : DOO α S) (ds' : List (Draw α)) (tr : List (Ev α (SwSt S) S))
    (Pb : Part α (SwSt S)) : Prop where
  pullT : pullT cfg s x.1 x.2.1 = .ok (s1, ds', v, tr)
  pull : pull cfg s x.1 x.2.1 = .ok (s1, ds', v)
  recv : receive s1 x.2.2 = .ok s2
  post : LoopPost cfg s.P x.2.1 s1.P ds' v tr Pb
  inv1 : Inv cfg s1
  curr1 : s1.curr = some v
  eq2 : s2 = { s1 with P := setReward s1.P v x.2.2 }
  P2 : s2.P = setReward (mark Pb v) v x.2.2
  inv2 : Inv cfg s2
  kind : s2.P.kind = s.P.kind
  dimn : dimn s2.P = dimn s.P

theorem round_spec (cfg : DOOCfg α S) (hbot : ∀ x, cfg.negInf ≤ x) {s s2 : DOO α S}
    {x : Input α S} {v : Nat} (hI : Inv cfg s)
    (hds : ∀ d ∈ x.2.1, DrawOKLen s.P.kind (dimn s.P) d)
    (hrun : round cfg s x = .ok (s2, v)) :
    ∃ s1 ds' tr Pb, RoundPost cfg s x s2 v s1 ds' tr Pb := by
  unfold round at hrun
  cases hp : pull cfg s x.1 x.2.1 with
  | error e => rw [hp] at hrun; cases hrun
  | ok res =>
    obtain ⟨s1, ds', v'⟩ := res
    rw [hp] at hrun
    obtain ⟨tr, hpT⟩ := (pull_ok_iff cfg s x.1 x.2.1 s1 ds' v').1 hp
    obtain ⟨⟨Pb, hpost⟩, hI1, hc1, _, hk1, hd1⟩ := pullT_spec cfg hbot hI hds hpT
    dsimp only at hrun
    rw [receive_eq hc1] at hrun
    cases hrun
    have h2 := hI1.pinv.receive hI1.curr hc1 x.2.2
    exact ⟨s1, ds', tr, Pb, hpT, hp, receive_eq hc1 _, hpost, hI1, hc1, rfl,
      by rw [hpost.marked], ⟨h2.1, h2.2⟩, hk1, (PRel_modifySt s1.P v _).dimn_eq.trans hd1⟩

theorem round_total (cfg : DOOCfg α S) (hbot : ∀ x, cfg.negInf ≤ x) (hδ : DeltaOK cfg)
    {s : DOO α S} (x : Input α S) (hI : Inv cfg s) (hlen : 1 ≤ x.2.1.length)
    (hds : ∀ d ∈ x.2.1, DrawOKLen s.P.kind (dimn s.P) d) :
    ∃ s2 v, round cfg s x = .ok (s2, v) ∧ s2.P.depth ≤ s.P.depth + 1 := by
  obtain ⟨s1, ds', v, tr, e, hd⟩ := pullT_total cfg hbot hδ x.1 hI hlen hds
  have hp := (pull_ok_iff cfg s x.1 x.2.1 s1 ds' v).2 ⟨tr, e⟩
  obtain ⟨_, _, hc1, _⟩ := pullT_spec cfg hbot hI hds e
  refine ⟨{ s1 with P := setReward s1.P v x.2.2 }, v, ?_, hd⟩
  unfold round
  simp only [hp, receive_eq hc1]

theorem isLoop (cfg : DOOCfg α S) : IsLoop (·.2.2) (round cfg) (runRounds cfg) :=
  ⟨fun _ => rfl, fun s x rest => by
    rw [runRounds]
    cases round cfg s x with
    | error e => rfl
    | ok r =>
      obtain ⟨s1, v⟩ := r
      dsimp only
      cases runRounds cfg s1 rest <;> rfl⟩

/-- The loop of DOO never fails (there is no depth cap). -/
theorem runRounds_total (cfg : DOOCfg α S) (hbot : ∀ x, cfg.negInf ≤ x) (hδ : DeltaOK cfg)
    (inputs : List (Input α S)) (s : DOO α S) (hI : Inv cfg s)
    (hin : InputsOK s.P.kind (dimn s.P) inputs) :
    ∃ s' H, runRounds cfg s inputs = .ok (s', H) ∧ Inv cfg s' ∧
      H.map (·.2) = inputs.map (·.2.2) ∧ s'.P.depth ≤ s.P.depth + inputs.length := by
  obtain ⟨s', H, e, ⟨hI', _, _, hd⟩, hH⟩ := (isLoop cfg).total
    (I := fun t _ n => Inv cfg t ∧ t.P.kind = s.P.kind ∧ dimn t.P = dimn s.P ∧
      t.P.depth + n ≤ s.P.depth + inputs.length)
    (OK := fun x => 1 ≤ x.2.1.length ∧ ∀ d ∈ x.2.1, DrawOKLen s.P.kind (dimn s.P) d)
    (fun t _ n x ⟨hIt, hk, hd, hdep⟩ ⟨hl, hds⟩ => by
      rw [← hk, ← hd] at hds
      obtain ⟨t2, v, hr, hd2⟩ := round_total cfg hbot hδ x hIt hl hds
      obtain ⟨_, _, _, _, hp⟩ := round_spec cfg hbot hIt hds hr
      exact ⟨t2, v, hr, hp.inv2, hp.kind.trans hk, hp.dimn.trans hd, by omega⟩)
    inputs s [] ⟨hI, rfl, rfl, Nat.le_refl _⟩ hin
  exact ⟨s', H, e, hI', hH, hd⟩

theorem runRounds_hist (cfg : DOOCfg α S) (hbot : ∀ x, cfg.negInf ≤ x)
    (inputs : List (Input α S))
    (s : DOO α S) (H0 : List (Nat × S)) (s' : DOO α S) (H : List (Nat × S))
    (hI : Inv cfg s) (hds : ∀ x ∈ inputs, ∀ d ∈ x.2.1, DrawOKLen s.P.kind (dimn s.P) d)
    (hH : HistOK s.P H0) (hrun : runRounds cfg s inputs = .ok (s', H)) :
    HistOK s'.P (H0 ++ H) ∧ Inv cfg s' ∧ H.map (·.2) = inputs.map (·.2.2) := by
  obtain ⟨⟨a1, _, _, a2⟩, a3⟩ := (isLoop cfg).induct
    (I := fun t K => Inv cfg t ∧ t.P.kind = s.P.kind ∧ dimn t.P = dimn s.P ∧ HistOK t.P K)
    (OK := fun x => ∀ d ∈ x.2.1, DrawOKLen s.P.kind (dimn s.P) d)
    (fun t K x t2 v ⟨hIt, hk, hd, hK⟩ hx hr => by
      rw [← hk, ← hd] at hx
      obtain ⟨_, _, _, Pb, hp⟩ := round_spec cfg hbot hIt hx hr
      obtain ⟨nd, n1, _, n3⟩ := hp.post.node
      refine ⟨hp.inv2, hp.kind.trans hk, hp.dimn.trans hd, ?_⟩
      rw [hp.P2]
      exact HistOK.round x.2.2 hK hp.post.ext rfl ⟨nd, n1, n3⟩)
    inputs s H0 s' H ⟨hI, rfl, rfl, hH⟩ hds hrun
  exact ⟨a2, a1, a3⟩

end DOO
end PyXAB
