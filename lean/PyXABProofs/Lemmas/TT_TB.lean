/-
  C01 for the tree bandits T-HOO and HCT / VHCT: `init`, `pull`, `receive` keep `DomInv`, and
  the documented loop hands out valid cells only.
-/
import PyXABProofs.Lemmas.TT_Box
import PyXABProofs.Props.C06

set_option linter.unusedSectionVars false
set_option linter.unusedVariables false

namespace PyXAB
namespace TT
open _root_.PyXAB.Tree TBA

namespace HOO
open PyXAB.HOO
variable {α R S : Type} [Field α] [LinearOrder α] [IsStrictOrderedRing α]
variable [LE S] [DecidableLE S] [Max S] [Min S] [Inhabited S] [Inhabited R]

theorem receive_dom (cfg : HOOCfg R S) {k : Kind} {root : Box α} {s s' : HOO α R S} {r : R}
    {ds ds' : List (Draw α)} {path : List Nat} {last : Nat} (hD : DomInv k root s.P)
    (hp : s.path = some path) (hl : path.getLast? = some last)
    (hS : SplitFits k root s.P last ds) (h : receive cfg s r ds = .ok (s', ds')) :
    DomInv k root s'.P ∧ Keeps s.P s'.P := by
  obtain ⟨path', last', nd, P3, P4, hp', hl', -, he, hb, rfl⟩ := receive_eq_ok.1 h
  cases hp.symm.trans hp'
  cases hl.symm.trans hl'
  exact expand_if_dom hD hS ((Geo.foldl _ (fun Q x => Geo.modifySt Q x _) path s.P).trans
    (forListed_geo _ _)) he (backward_geo cfg.negInf hb)

/-- The loop from an invariant state: it never raises, keeps `Inv` and `DomInv`, and every cell
handed out is a cell of the (final) tree whose representative point lies in the domain. -/
theorem runRounds_dom (cfg : HOOCfg R S) {k : Kind} {root : Box α}
    (inputs : List (R × List (Draw α))) (s : HOO α R S) (hI : Inv cfg s)
    (hD : DomInv k root s.P) (hin : InputsOK k root.length inputs)
    (hG : GoodDraws cfg k root s inputs) :
    ∃ s' H, runRounds cfg s inputs = .ok (s', H) ∧ (Inv cfg s' ∧ DomInv k root s'.P) ∧
      Keeps s.P s'.P ∧ H.map (·.2) = inputs.map (·.1) ∧ ∀ e ∈ H, PointOK root s'.P e.1 := by
  refine loop_dom (·.P) (fun _ => runRounds cfg) (·.1) (fun s => Inv cfg s ∧ DomInv k root s.P)
    (fun _ s xs => InputsOK k root.length xs ∧ GoodDraws cfg k root s xs)
    (fun _ _ => rfl) ?_ inputs 0 s ⟨hI, hD⟩ ⟨hin, hG⟩
  · rintro _ s ⟨r, ds⟩ rest ⟨hI, hD⟩ ⟨hin, hG⟩
    obtain ⟨s1, path, v, hp, hR, hP1, _⟩ := PyXAB.HOO.pull_total cfg hI
    obtain ⟨hS, hG'⟩ := hG s1 v hp
    have hD1 : DomInv k root s1.P := hP1 ▸ hD
    have hds : DrawsOK s1.P.kind (dimn s1.P) ds := by
      rw [hD1.kind, dimn_of_boxInv hR.inv.wf hD1.box]; exact hin _ (List.mem_cons_self ..)
    obtain ⟨s2, ds2, hr, hI2, _, _⟩ := PyXAB.HOO.receive_total cfg hR r hds
    obtain ⟨hD2, hK2⟩ := receive_dom cfg hD1 hR.stored hR.lastEq hS hr
    refine ⟨s2, v, ⟨hI2, hD2⟩,
      ⟨fun x hx => hin x (List.mem_cons_of_mem _ hx), hG' s2 ds2 hr⟩,
      hP1 ▸ hK2, (hD1.pointOK ((TBA.path_spec hR.isPath).2.1 v
        (List.mem_of_getLast? hR.lastEq))).keeps hK2, fun s' H hrun => ?_⟩
    simp only [runRounds, round, hp, hr, hrun]

/-- For the deterministic partition classes well-formed draws are good draws. -/
theorem goodDraws_of_det (cfg : HOOCfg R S) {k : Kind} (hk : Kind.Deterministic k)
    {root : Box α} :
    ∀ (inputs : List (R × List (Draw α))) (s : PyXAB.HOO α R S),
      InputsOK k root.length inputs → GoodDraws cfg k root s inputs
  | [], _, _ => trivial
  | (r, ds) :: rest, s, hin => fun s1 v _ =>
    ⟨splitFits_of_det hk (hin _ (List.mem_cons_self ..)).2, fun s2 _ _ =>
      goodDraws_of_det cfg hk rest s2 (fun x hx => hin x (List.mem_cons_of_mem _ hx))⟩

end HOO

namespace HCT
open PyXAB.HCT
variable {α R S : Type} [Field α] [LinearOrder α] [IsStrictOrderedRing α]
variable [LE S] [DecidableLE S] [Max S] [Min S] [Inhabited S] [Inhabited R]

theorem receive_dom (cfg : HCTCfg R S) {k : Kind} {root : Box α} {s s' : HCT α R S} {r : R}
    {ds ds' : List (Draw α)} {path : List Nat} {last : Nat} (hD : DomInv k root s.P)
    (hp : s.path = some path) (hl : path.getLast? = some last)
    (hS : SplitFits k root s.P last ds) (h : receive cfg s r ds = .ok (s', ds')) :
    DomInv k root s'.P ∧ Keeps s.P s'.P := by
  obtain ⟨path', last', P1, P4, nd, thr, P5, hp', hl', h1, hb, -, -, -, he, rfl⟩ :=
    receive_eq_ok.1 h
  cases hp.symm.trans hp'
  cases hl.symm.trans hl'
  have g1 : Geo s.P P1 := by
    unfold refreshPass at h1
    split at h1
    · exact (forListed_geo _ _).trans (backward_geo cfg.negInf h1)
    · cases h1
      exact Geo.refl _
  have g2 : Geo P1 (creditOne cfg (cfg.dtOne (tPlus s.iteration)) P1 last r) :=
    (Geo.modifySt _ _ _).trans (Geo.of_prel (PRel_modifyNode _ _ _))
  exact expand_if_dom hD hS ((g1.trans g2).trans (backward_geo cfg.negInf hb)) he (Geo.refl _)

theorem runRounds_dom (cfg : HCTCfg R S) {k : Kind} {root : Box α}
    (inputs : List (R × List (Draw α))) (s : HCT α R S) (hI : Inv cfg s)
    (hD : DomInv k root s.P) (hin : InputsOK k root.length inputs)
    (hG : GoodDraws cfg k root s inputs) :
    ∃ s' H, runRounds cfg s inputs = .ok (s', H) ∧ (Inv cfg s' ∧ DomInv k root s'.P) ∧
      Keeps s.P s'.P ∧ H.map (·.2) = inputs.map (·.1) ∧ ∀ e ∈ H, PointOK root s'.P e.1 := by
  refine loop_dom (·.P) (fun _ => runRounds cfg) (·.1) (fun s => Inv cfg s ∧ DomInv k root s.P)
    (fun _ s xs => InputsOK k root.length xs ∧ GoodDraws cfg k root s xs)
    (fun _ _ => rfl) ?_ inputs 0 s ⟨hI, hD⟩ ⟨hin, hG⟩
  · rintro _ s ⟨r, ds⟩ rest ⟨hI, hD⟩ ⟨hin, hG⟩
    obtain ⟨s1, path, v, hp, hR, hT, _⟩ := TBA.HCT.pull_ok cfg hI
    obtain ⟨hS, hG'⟩ := hG s1 v hp
    have hD1 : DomInv k root s1.P := DomInv.of_prel hT hD
    have hds : DrawsOK s1.P.kind (dimn s1.P) ds := by
      rw [hD1.kind, dimn_of_boxInv hR.inv.pinv.wf hD1.box]; exact hin _ (List.mem_cons_self ..)
    obtain ⟨s2, ds2, hr, hI2, _, _⟩ := PyXAB.HCT.receive_total cfg hR r hds
    obtain ⟨hD2, hK2⟩ := receive_dom cfg hD1 hR.stored hR.lastEq hS hr
    refine ⟨s2, v, ⟨hI2, hD2⟩,
      ⟨fun x hx => hin x (List.mem_cons_of_mem _ hx), hG' s2 ds2 hr⟩,
      (Keeps.of_prel hT).trans hK2, (hD1.pointOK ((TBA.path_spec hR.isPath).2.1 v
        (List.mem_of_getLast? hR.lastEq))).keeps hK2, fun s' H hrun => ?_⟩
    simp only [runRounds, round, hp, hr, hrun]

theorem goodDraws_of_det (cfg : HCTCfg R S) {k : Kind} (hk : Kind.Deterministic k)
    {root : Box α} :
    ∀ (inputs : List (R × List (Draw α))) (s : PyXAB.HCT α R S),
      InputsOK k root.length inputs → GoodDraws cfg k root s inputs
  | [], _, _ => trivial
  | (r, ds) :: rest, s, hin => fun s1 v _ =>
    ⟨splitFits_of_det hk (hin _ (List.mem_cons_self ..)).2, fun s2 _ _ =>
      goodDraws_of_det cfg hk rest s2 (fun x hx => hin x (List.mem_cons_of_mem _ hx))⟩

end HCT

end TT
end PyXAB
