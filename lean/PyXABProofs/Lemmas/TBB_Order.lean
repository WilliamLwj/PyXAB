/-
  The running maximum of `backwardLayer`, the tie rule of `pickChild`, and the loop of `tPlus`
  (= `Nat.nextPowerOfTwo`).
-/
import Batteries.Tactic.OpenPrivate
import PyXABProofs.Spec.TBIndex

open private Nat.nextPowerOfTwo.go in Nat.nextPowerOfTwo

namespace PyXAB
namespace TBB

variable {S : Type} [LinearOrder S]

theorem foldl_max_aux (f : Nat → S) (cs : List Nat) : ∀ t : S,
    t ≤ cs.foldl (fun t c => max t (f c)) t ∧
    (∀ c ∈ cs, f c ≤ cs.foldl (fun t c => max t (f c)) t) ∧
    (cs.foldl (fun t c => max t (f c)) t = t ∨
      ∃ c ∈ cs, f c = cs.foldl (fun t c => max t (f c)) t) := by
  induction cs with
  | nil => exact fun t => ⟨le_refl _, nofun, Or.inl rfl⟩
  | cons x cs ih =>
    intro t
    obtain ⟨h1, h2, h3⟩ := ih (max t (f x))
    rw [List.foldl_cons]
    refine ⟨le_trans (le_max_left _ _) h1, ?_, ?_⟩
    · intro c hc
      rcases List.mem_cons.1 hc with rfl | hc
      · exact le_trans (le_max_right _ _) h1
      · exact h2 c hc
    · rcases h3 with h3 | ⟨c, hc, h3⟩
      · rw [h3]
        rcases le_total t (f x) with hle | hle
        · exact Or.inr ⟨x, List.mem_cons_self .., (max_eq_right hle).symm⟩
        · exact Or.inl (max_eq_left hle)
      · exact Or.inr ⟨c, List.mem_cons_of_mem _ hc, h3⟩

/-- The running maximum started at a bottom element over a non-empty list is the maximum:
it bounds every element and is attained. -/
theorem foldl_max_spec (bot : S) (hbot : ∀ x, bot ≤ x) (f : Nat → S) (cs : List Nat)
    (hne : cs ≠ []) :
    (∀ c ∈ cs, f c ≤ cs.foldl (fun t c => max t (f c)) bot) ∧
    ∃ c ∈ cs, f c = cs.foldl (fun t c => max t (f c)) bot := by
  obtain ⟨_, h2, h3⟩ := foldl_max_aux f cs bot
  refine ⟨h2, ?_⟩
  rcases h3 with h3 | h3
  · obtain ⟨x, hx⟩ := List.exists_mem_of_ne_nil cs hne
    exact ⟨x, hx, le_antisymm (h2 x hx) (by rw [h3]; exact hbot _)⟩
  · exact h3

/-- One comparison of the loop of `pickChild`: the candidate is replaced by a later element
which is at least as large. -/
theorem LastMax.concat {b : Nat → S} {l : List Nat} {m : Nat} (h : LastMax b l m) (x : Nat) :
    LastMax b (l ++ [x]) (if b m ≤ b x then x else m) := by
  by_cases hx : b m ≤ b x
  · rw [if_pos hx]
    refine ⟨List.mem_append_right _ (List.mem_singleton_self x), fun c hc => ?_, l, [], rfl, nofun⟩
    rcases List.mem_append.1 hc with hc | hc
    · exact le_trans (h.max c hc) hx
    · rw [List.mem_singleton.1 hc]
  · rw [if_neg hx]
    have hlt : b x < b m := lt_of_not_ge hx
    obtain ⟨pre, post, e, hp⟩ := h.last
    refine ⟨List.mem_append_left _ h.mem, fun c hc => ?_, pre, post ++ [x],
      by rw [e, List.append_assoc, List.cons_append], fun y hy => ?_⟩
    · rcases List.mem_append.1 hc with hc | hc
      · exact h.max c hc
      · rw [List.mem_singleton.1 hc]; exact le_of_lt hlt
    · rcases List.mem_append.1 hy with hy | hy
      · exact hp y hy
      · rw [List.mem_singleton.1 hy]; exact hlt

theorem LastMax.foldl {b : Nat → S} (cs : List Nat) : ∀ (l : List Nat) (m : Nat),
    LastMax b l m →
    LastMax b (l ++ cs) (cs.foldl (fun m c' => if b m ≤ b c' then c' else m) m) := by
  induction cs with
  | nil => exact fun l m h => (List.append_nil l).symm ▸ h
  | cons x cs ih =>
    intro l m h
    rw [List.foldl_cons, List.append_cons]
    exact ih (l ++ [x]) _ (h.concat x)

/-- `pickChild` returns the last child of maximal score. -/
theorem pickChild_lastMax (b : Nat → S) {cs : List Nat} {m : Nat}
    (h : pickChild b cs = some m) : LastMax b cs m := by
  cases cs with
  | nil => cases h
  | cons c cs =>
    obtain rfl : _ = m := Option.some.inj h
    exact LastMax.foldl cs [c] c ⟨List.mem_singleton_self c, fun c' hc' => by
      rw [List.mem_singleton.1 hc'], [], [], rfl, nofun⟩

theorem nextPowerOfTwo_go_ge (n p : Nat) (h : p > 0) :
    n ≤ Nat.nextPowerOfTwo.go n p h ∧ p ≤ Nat.nextPowerOfTwo.go n p h := by
  fun_induction Nat.nextPowerOfTwo.go n p h with
  | case1 p h hlt ih => exact ⟨ih.1, Nat.le_trans (Nat.le_mul_of_pos_right p (by decide)) ih.2⟩
  | case2 p h hge => exact ⟨Nat.le_of_not_lt hge, Nat.le_refl p⟩

theorem nextPowerOfTwo_go_lt (n p : Nat) (h : p > 0) (hp : p < 2 * n) :
    Nat.nextPowerOfTwo.go n p h < 2 * n := by
  fun_induction Nat.nextPowerOfTwo.go n p h with
  | case1 p h hlt ih => exact ih (Nat.mul_comm 2 p ▸ Nat.mul_lt_mul_of_pos_left hlt (by decide))
  | case2 p h hge => exact hp

end TBB
end PyXAB
