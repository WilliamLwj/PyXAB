/-
  HCT / VHCT:
  * C15.2: VHCT's refresh of the nodes' `tau` at the start of `pull` is idempotent (it depends
    on `iteration` and `var` only), which is what makes `pull` idempotent;
  * C16.3: `pull` / `receive` / `init` commute with mapping the boxes of the tree.
-/
import PyXABProofs.Lemmas.RL_HOO

namespace PyXAB
namespace RL
open Rel ListAux
set_option linter.unusedSectionVars false

section refresh
variable {α R S : Type}

/-- the node update performed by VHCT's `optTraverse` prologue -/
def tauUpd (cfg : HCTCfg R S) (dt : S) (nd : Node α (TBSt R S)) : Node α (TBSt R S) :=
  { nd with st := { nd.st with tau := cfg.tauNode dt nd.depth nd.st.var } }

/-- `T` applied at the positions `ids`, one after the other: what a sweep of `refreshTau` over the
cells `ids` does to the arena. -/
def applyAt {β : Type} (T : β → β) (ids : List Nat) (ns : List β) : List β :=
  ids.foldl (fun ns id => ns.modify id T) ns

theorem applyAt_append {β : Type} (T : β → β) (l₁ l₂ : List Nat) (ns : List β) :
    applyAt T (l₁ ++ l₂) ns = applyAt T l₂ (applyAt T l₁ ns) :=
  List.foldl_append

theorem applyAt_modify {β : Type} (T : β → β) (i : Nat) (ids : List Nat) (ns : List β) :
    applyAt T ids (ns.modify i T) = (applyAt T ids ns).modify i T := by
  induction ids generalizing ns with
  | nil => rfl
  | cons j r ih =>
    show applyAt T r ((ns.modify i T).modify j T) = (applyAt T r (ns.modify j T)).modify i T
    rw [← ih]
    by_cases h : i = j
    · rw [h]
    · rw [List.modify_modify_ne _ _ _ h]

/-- updates `T ∘ T = T` at given positions commute, so doing all of them twice changes nothing -/
theorem applyAt_idem {β : Type} (T : β → β) (hT : ∀ x, T (T x) = T x) (ids : List Nat) (ns : List β) :
    applyAt T ids (applyAt T ids ns) = applyAt T ids ns := by
  induction ids generalizing ns with
  | nil => rfl
  | cons i r ih =>
    show applyAt T r ((applyAt T r (ns.modify i T)).modify i T) = applyAt T r (ns.modify i T)
    rw [← applyAt_modify, List.modify_modify_eq, (funext hT : T ∘ T = T), ih]

/-- one iteration of the outer loop of `refreshTau` -/
def refreshStep (cfg : HCTCfg R S) (dt : S) (P : Part α (TBSt R S)) (h : Nat) :
    Except Err (Part α (TBSt R S)) :=
  match P.layers[h]? with
  | none => .error .indexError
  | some layer =>
    .ok (layer.foldl (fun P id =>
      match P.nodes[id]? with
      | none => P
      | some nd => P.modifySt id (fun st => { st with tau := cfg.tauNode dt nd.depth st.var })) P)

theorem refreshOne_eq (cfg : HCTCfg R S) (dt : S) (P : Part α (TBSt R S)) (id : Nat) :
    (match P.nodes[id]? with
      | none => P
      | some nd => P.modifySt id (fun st => { st with tau := cfg.tauNode dt nd.depth st.var })) =
      { P with nodes := P.nodes.modify id (tauUpd cfg dt) } := by
  unfold Part.modifySt Part.modifyNode
  rw [List.modify_eq_set_getElem?]
  cases h : P.nodes[id]? with
  | none => rfl
  | some nd => dsimp only; rw [List.modify_eq_set_getElem?, h]; rfl

theorem refreshLayer_eq (cfg : HCTCfg R S) (dt : S) (layer : List Nat) (P : Part α (TBSt R S)) :
    layer.foldl (fun P id =>
      match P.nodes[id]? with
      | none => P
      | some nd => P.modifySt id (fun st => { st with tau := cfg.tauNode dt nd.depth st.var })) P =
    { P with nodes := applyAt (tauUpd cfg dt) layer P.nodes } := by
  induction layer generalizing P with
  | nil => rfl
  | cons id rest ih =>
    rw [List.foldl_cons, refreshOne_eq]
    exact ih _

/-- Closed form of `refreshTau`: it applies `tauUpd` at a list of positions which only depends
on `layers` and `depth`. -/
theorem refreshTau_loop (cfg : HCTCfg R S) (dt : S) (hs : List Nat) (P P1 : Part α (TBSt R S))
    (h : hs.foldlM (refreshStep cfg dt) P = .ok P1) :
    ∃ ids, P1 = { P with nodes := applyAt (tauUpd cfg dt) ids P.nodes } ∧
      ∀ Q : Part α (TBSt R S), Q.layers = P.layers →
        hs.foldlM (refreshStep cfg dt) Q = .ok { Q with nodes := applyAt (tauUpd cfg dt) ids Q.nodes } := by
  induction hs generalizing P with
  | nil =>
    cases h
    exact ⟨[], rfl, fun Q _ => rfl⟩
  | cons h0 hs ih =>
    rw [List.foldlM_cons] at h
    obtain ⟨P0, h1, h⟩ := bind_eq_ok.1 h
    unfold refreshStep at h1
    cases hl : P.layers[h0]? with
    | none => rw [hl] at h1; cases h1
    | some layer =>
      rw [hl] at h1
      cases h1
      rw [refreshLayer_eq] at h
      obtain ⟨ids, e1, e2⟩ := ih _ h
      refine ⟨layer ++ ids, by rw [e1, applyAt_append], fun Q hQ => ?_⟩
      rw [List.foldlM_cons, refreshStep, show Q.layers[h0]? = some layer by rw [hQ, hl]]
      dsimp only
      rw [ok_bind, refreshLayer_eq, applyAt_append]
      exact e2 _ hQ

theorem refreshTau_idem (cfg : HCTCfg R S) (dt : S) {P P1 : Part α (TBSt R S)}
    (h : HCT.refreshTau cfg dt P = .ok P1) : HCT.refreshTau cfg dt P1 = .ok P1 ∧ P1.depth = P.depth := by
  obtain ⟨ids, e1, e2⟩ := refreshTau_loop cfg dt _ P P1 h
  have hd : P1.depth = P.depth := by rw [e1]
  refine ⟨?_, hd⟩
  show (List.range' 1 P1.depth).foldlM (refreshStep cfg dt) P1 = _
  rw [hd, e2 P1 (by rw [e1]), e1]
  exact congrArg (fun ns => Except.ok { P with nodes := ns })
    (applyAt_idem (tauUpd cfg dt) (fun _ => rfl) ids P.nodes)

end refresh

section hct
variable {α R S : Type} [Add α] [Sub α] [Mul α] [Div α] [OfNat α 2] [NatCast α]
variable [LE S] [DecidableLE S] [Max S] [Min S] [Inhabited S] [Inhabited R]

theorem refreshTau_map (g : Box α → Box α) (cfg : HCTCfg R S) (dt : S) (P : Part α (TBSt R S)) :
    HCT.refreshTau cfg dt (partMapBox g P) = mapRes1 (partMapBox g) (HCT.refreshTau cfg dt P) := by
  unfold HCT.refreshTau
  rw [partMapBox_depth]
  apply foldlM_comm (partMapBox g)
  intro Q h
  simp only [partMapBox_layers]
  cases Q.layers[h]? with
  | none => rfl
  | some layer =>
    simp only [mapRes1]
    congr 1
    apply foldl_comm (partMapBox g)
    intro Q' id
    simp only [partMapBox_getElem?]
    cases Q'.nodes[id]? with
    | none => rfl
    | some nd => simp only [Option.map_some, nodeMapBox_depth, partMapBox_modifySt]

theorem hct_pull_map (g : Box α → Box α) (cfg : HCTCfg R S) (s : HCT α R S) :
    HCT.pull cfg (hctMapBox g s) = mapRes (hctMapBox g) id (HCT.pull cfg s) := by
  unfold HCT.pull
  dsimp only
  refine mapRes_bind (f := partMapBox g) (g := id) ?_ fun P1 tauH => ?_
  · cases cfg.variance with
    | false => rfl
    | true =>
      rw [if_pos rfl, if_pos rfl]
      exact mapRes1_bind (refreshTau_map g cfg _ s.P) fun _ => rfl
  · refine (greedyPath_bind (partMapBox g P1) (HCT.pullCont cfg tauH) _).trans ?_
    refine .trans ?_ (congrArg _ (greedyPath_bind P1 (HCT.pullCont cfg tauH) _).symm)
    rw [greedyPath_map g P1 (HCT.pullCont cfg tauH) _ fun _ => rfl]
    rcases greedyPath P1 (HCT.pullCont cfg tauH) with _ | ⟨path, v⟩ <;> rfl

variable {g : Box α → Box α} {gd : Draw α → Draw α}

theorem hct_receive_map (hg : BoxEquivariant g gd) (cfg : HCTCfg R S) (s : HCT α R S) (r : R)
    (ds : List (Draw α)) :
    HCT.receive cfg (hctMapBox g s) r (ds.map gd) =
      mapRes (hctMapBox g) (List.map gd) (HCT.receive cfg s r ds) := by
  unfold HCT.receive
  rw [show (hctMapBox g s).path = s.path from rfl,
    show (hctMapBox g s).iteration = s.iteration from rfl,
    show (hctMapBox g s).tauH = s.tauH from rfl, show (hctMapBox g s).P = partMapBox g s.P from rfl]
  cases s.path with
  | none => rfl
  | some path =>
    dsimp only
    refine mapRes1_bind (f := partMapBox g) ?_ fun P1 => ?_
    · split
      · rw [forListed_map g _ (HCT.computeU cfg _) (HCT.computeU cfg _) (fun _ => rfl), backward_map]
      · rfl
    cases path.getLast? with
    | none => rfl
    | some last =>
      dsimp only
      refine mapRes1_bind (f := partMapBox g) ?_ fun P4 => ?_
      · rw [show HCT.updateReward cfg (partMapBox g P1) last r =
            partMapBox g (HCT.updateReward cfg P1 last r) from partMapBox_modifySt g P1 last _,
          partMapBox_getElem?]
        cases (HCT.updateReward cfg P1 last r).nodes[last]? with
        | none => exact backward_map g _ _
        | some nd => exact (congrArg _ (partMapBox_modifySt g _ last _)).trans (backward_map g _ _)
      rw [partMapBox_getElem?]
      cases P4.nodes[last]? with
      | none => rfl
      | some nd =>
        simp only [Option.map_some, nodeMapBox_st', nodeMapBox_depth', nodeMapBox_children']
        refine bind_mapRes fun thr =>
          mapRes_bind (f := partMapBox g) (g := List.map gd) ?_ fun _ _ => rfl
        split
        · exact expand_map hg P4 _ last ds
        · rfl

theorem hct_init_map (hg : BoxEquivariant g gd) (cfg : HCTCfg R S) (k : Kind) (domain : Box α)
    (ds : List (Draw α)) :
    HCT.init cfg k (g domain) (ds.map gd) =
      mapRes (hctMapBox g) (List.map gd) (HCT.init cfg k domain ds) :=
  mapRes_bind (expand_map hg (Part.init k domain (HCT.st0 cfg)) _ 0 ds) fun _ _ => rfl

end hct

end RL
end PyXAB
