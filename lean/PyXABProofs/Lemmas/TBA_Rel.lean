/-
  Payload-only updates of the partition arena: `PRel ρ P P'` says that `P'` has the skeleton of
  `P` (kind, layers, depth, and every node's depth/index/parent/children/box) and that the
  nodes are related pointwise by `ρ`.  The tree invariant `WF` only depends on the skeleton.
-/
import PyXABProofs.Spec.TBRun
import PyXABProofs.Lemmas.TreeOps

namespace PyXAB
namespace TBA
open Tree

variable {α σ : Type}

/-- Same node up to the payload. -/
structure Skel (nd nd' : Node α σ) : Prop where
  depth : nd'.depth = nd.depth
  index : nd'.index = nd.index
  parent : nd'.parent = nd.parent
  children : nd'.children = nd.children
  box : nd'.box = nd.box

theorem Skel.rfl' (nd : Node α σ) : Skel nd nd := ⟨rfl, rfl, rfl, rfl, rfl⟩

theorem Skel.trans {a b c : Node α σ} (h1 : Skel a b) (h2 : Skel b c) : Skel a c :=
  ⟨h2.depth.trans h1.depth, h2.index.trans h1.index, h2.parent.trans h1.parent,
    h2.children.trans h1.children, h2.box.trans h1.box⟩

theorem Skel.symm {a b : Node α σ} (h : Skel a b) : Skel b a :=
  ⟨h.depth.symm, h.index.symm, h.parent.symm, h.children.symm, h.box.symm⟩

structure PRel (ρ : Nat → Node α σ → Node α σ → Prop) (P P' : Part α σ) : Prop where
  kind : P'.kind = P.kind
  layers : P'.layers = P.layers
  depth : P'.depth = P.depth
  len : P'.nodes.length = P.nodes.length
  node : ∀ (i : Nat) (nd : Node α σ), P.nodes[i]? = some nd →
    ∃ nd', P'.nodes[i]? = some nd' ∧ Skel nd nd' ∧ ρ i nd nd'

namespace PRel
variable {ρ ρ' : Nat → Node α σ → Node α σ → Prop} {P P' P'' : Part α σ}

theorem refl (h : ∀ i nd, ρ i nd nd) (P : Part α σ) : PRel ρ P P :=
  ⟨rfl, rfl, rfl, rfl, fun i nd hi => ⟨nd, hi, Skel.rfl' nd, h i nd⟩⟩

theorem mono (h : PRel ρ P P') (hm : ∀ i a b, Skel a b → ρ i a b → ρ' i a b) : PRel ρ' P P' :=
  ⟨h.kind, h.layers, h.depth, h.len, fun i nd hi => by
    obtain ⟨nd', h1, h2, h3⟩ := h.node i nd hi
    exact ⟨nd', h1, h2, hm i nd nd' h2 h3⟩⟩

theorem trans (h1 : PRel ρ P P') (h2 : PRel ρ' P' P'') :
    PRel (fun i a c => ∃ b, Skel a b ∧ Skel b c ∧ ρ i a b ∧ ρ' i b c) P P'' :=
  ⟨h2.kind.trans h1.kind, h2.layers.trans h1.layers, h2.depth.trans h1.depth,
    h2.len.trans h1.len, fun i nd hi => by
      obtain ⟨b, b1, b2, b3⟩ := h1.node i nd hi
      obtain ⟨c, c1, c2, c3⟩ := h2.node i b b1
      exact ⟨c, c1, b2.trans c2, b, b2, c2, b3, c3⟩⟩

theorem trans' (h1 : PRel ρ P P') (h2 : PRel ρ' P' P'')
    {τ : Nat → Node α σ → Node α σ → Prop}
    (ht : ∀ i a b c, Skel a b → Skel b c → ρ i a b → ρ' i b c → τ i a c) : PRel τ P P'' :=
  (h1.trans h2).mono (fun i a c _ ⟨b, s1, s2, r1, r2⟩ => ht i a b c s1 s2 r1 r2)

theorem bwd (h : PRel ρ P P') {i : Nat} {nd' : Node α σ} (hi : P'.nodes[i]? = some nd') :
    ∃ nd, P.nodes[i]? = some nd ∧ Skel nd nd' ∧ ρ i nd nd' := by
  have hlt : i < P.nodes.length := by rw [← h.len]; exact lt_length_of_getElem? hi
  obtain ⟨x, h1, h2, h3⟩ := h.node i _ (List.getElem?_eq_getElem hlt)
  obtain rfl := getElem?_inj h1 hi
  exact ⟨_, List.getElem?_eq_getElem hlt, h2, h3⟩

theorem dimn_eq (h : PRel ρ P P') : dimn P' = dimn P := by
  unfold dimn
  cases h0 : P.nodes[0]? with
  | none => rw [ListAux.getElem?_eq_none_of_length_eq h.len h0]
  | some r =>
    obtain ⟨r', h1, h2, _⟩ := h.node 0 r h0
    rw [h1]
    exact congrArg List.length h2.box

theorem K_eq (h : PRel ρ P P') : K P' = K P := by
  simp only [K, h.dimn_eq, h.kind]

theorem isLeaf_eq (h : PRel ρ P P') (i : Nat) : P'.isLeaf i = P.isLeaf i := by
  unfold Part.isLeaf
  cases h0 : P.nodes[i]? with
  | none => rw [ListAux.getElem?_eq_none_of_length_eq h.len h0]
  | some r =>
    obtain ⟨r', h1, h2, _⟩ := h.node i r h0
    rw [h1]
    exact congrArg Option.isNone h2.children

/-- The tree invariant only depends on the skeleton. -/
theorem wf (h : PRel ρ P P') (W : WF P) : WF P' where
  root := by
    obtain ⟨r, r0, r1, r2, r3⟩ := W.root
    obtain ⟨r', h1, h2, _⟩ := h.node 0 r r0
    exact ⟨r', h1, h2.depth.trans r1, h2.index.trans r2, h2.parent.trans r3⟩
  boxlen := by
    intro i nd' hi
    obtain ⟨nd, h1, h2, _⟩ := h.bwd hi
    rw [h.dimn_eq, h2.box]; exact W.boxlen i nd h1
  parent := by
    intro c nd' hc hi
    obtain ⟨nd, h1, h2, _⟩ := h.bwd hi
    obtain ⟨p, pn, cs, a1, a2, a3, a4, a5, a6⟩ := W.parent c nd hc h1
    obtain ⟨pn', b1, b2, _⟩ := h.node p pn a3
    exact ⟨p, pn', cs, h2.parent.trans a1, a2, b1, b2.children.trans a4, a5,
      by rw [h2.depth, b2.depth]; exact a6⟩
  children := by
    intro p pn' cs hi hcs
    obtain ⟨pn, h1, h2, _⟩ := h.bwd hi
    obtain ⟨a1, a, a2, a3, a4, a5⟩ := W.children p pn cs h1 (h2.children.symm.trans hcs)
    rw [h.K_eq, h.len]
    refine ⟨a1, a, a2, a3, a4, fun j hj => ?_⟩
    obtain ⟨cn, c1, c2, c3⟩ := a5 j hj
    obtain ⟨cn', d1, d2, _⟩ := h.node _ cn c1
    exact ⟨cn', d1, d2.parent.trans c2, by rw [d2.index, h2.index]; exact c3⟩
  index_pos := by
    intro i nd' hi
    obtain ⟨nd, h1, h2, _⟩ := h.bwd hi
    rw [h2.index]; exact W.index_pos i nd h1
  layers_len := by rw [h.layers, h.depth]; exact W.layers_len
  layers_mem := by
    intro d l hl
    rw [h.layers] at hl
    obtain ⟨a1, a2, a3⟩ := W.layers_mem d l hl
    refine ⟨a1, a2, fun i => ?_⟩
    rw [a3 i]
    constructor
    · rintro ⟨nd, b1, b2⟩
      obtain ⟨nd', c1, c2, _⟩ := h.node i nd b1
      exact ⟨nd', c1, c2.depth.trans b2⟩
    · rintro ⟨nd', b1, b2⟩
      obtain ⟨nd, c1, c2, _⟩ := h.bwd b1
      exact ⟨nd, c1, c2.depth.symm.trans b2⟩
  depth_le := by
    intro i nd' hi
    obtain ⟨nd, h1, h2, _⟩ := h.bwd hi
    rw [h2.depth, h.depth]; exact W.depth_le i nd h1

end PRel

theorem PRel.of_modifyNode {ρ : Nat → Node α σ → Node α σ → Prop} (P : Part α σ) (i : Nat)
    (G : Node α σ → σ) (hrefl : ∀ j nd, j ≠ i → ρ j nd nd)
    (h : ∀ nd, P.nodes[i]? = some nd → ρ i nd { nd with st := G nd }) :
    PRel ρ P (P.modifyNode i (fun nd => { nd with st := G nd })) where
  kind := rfl
  layers := rfl
  depth := rfl
  len := Part.length_modifyNode ..
  node := by
    intro j nd hj
    rw [Part.getElem?_modifyNode, hj, Option.map_some]
    by_cases e : i = j
    · subst e
      exact ⟨{ nd with st := G nd }, by rw [if_pos rfl], ⟨rfl, rfl, rfl, rfl, rfl⟩, h nd hj⟩
    · exact ⟨nd, by rw [if_neg e], Skel.rfl' nd, hrefl j nd (Ne.symm e)⟩

theorem PRel_modifyNode (P : Part α σ) (i : Nat) (G : Node α σ → σ) :
    PRel (fun j nd nd' => nd'.st = if j = i then G nd else nd.st) P
      (P.modifyNode i (fun nd => { nd with st := G nd })) :=
  PRel.of_modifyNode P i G (fun j nd e => by rw [if_neg e]) (fun nd _ => by rw [if_pos rfl])

theorem PRel_modifySt (P : Part α σ) (i : Nat) (f : σ → σ) :
    PRel (fun j nd nd' => nd'.st = if j = i then f nd.st else nd.st) P (P.modifySt i f) :=
  PRel_modifyNode P i (fun nd => f nd.st)

theorem foldl_modifySt_nodup (g : σ → σ) (l : List Nat) (P : Part α σ) (hn : l.Nodup) :
    PRel (fun i a b => b.st = if i ∈ l then g a.st else a.st) P
      (l.foldl (fun P id => P.modifySt id g) P) := by
  obtain ⟨h1, h2, h3, h4⟩ :=
    Part.foldl_modifyNode_skeleton id (fun _ nd => { nd with st := g nd.st }) l P
  refine ⟨h1, h2, h3, h4, fun i nd hi => ?_⟩
  rw [Part.getElem?_foldl_modifySt g l P hn i, hi, Option.map_some]
  by_cases h : i ∈ l
  · rw [if_pos h]; exact ⟨_, rfl, ⟨rfl, rfl, rfl, rfl, rfl⟩, (if_pos h).symm⟩
  · rw [if_neg h]; exact ⟨_, rfl, Skel.rfl' nd, (if_neg h).symm⟩

end TBA
end PyXAB
