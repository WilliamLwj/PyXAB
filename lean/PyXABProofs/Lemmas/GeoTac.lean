/-
  Tactics that discharge the obligations emitted by harness/translate_geometry.py.
  They are *semantic* (normalise in an ordered field / linear arithmetic over ℕ), so a traced
  expression that differs from the model only by a harmless rewrite still closes, while a
  change of meaning does not.
-/
import PyXABModel.Model.Box
import PyXABProofs.Lemmas.GeoAttr
import Mathlib.Algebra.Order.Field.Basic
import Mathlib.Tactic.Ring
namespace PyXAB

/- `geo_eval` evaluates the model on input written out as lists: the model's own functions; the
list functions they call, on `::`/`[]` and numerals; `np.linspace`'s coefficients (`((j : ℕ) : α)`
is the numeral `j`, and the first point `0 * w + lo` is stored as `lo`); and the comparison of two
lists entry by entry.  Keeping the set under an attribute spares every one of the generated proofs
the elaboration of the list. -/
attribute [geo_eval] childBoxes splitChain splitAll linspacePts chainIvs Iv.mid Iv.lower Iv.upper
  PyXAB.mid Box.cpoint childIndex
  List.getElem?_cons_zero List.getElem?_cons_succ List.set_cons_zero List.set_cons_succ
  List.map_cons List.map_nil List.cons_append List.nil_append List.range'_succ List.range'_zero
  List.flatMap_cons List.flatMap_nil List.take_succ_cons List.take_zero List.range List.range.loop
  Nat.cast_ofNat Nat.cast_one zero_mul zero_add
  List.cons.injEq Iv.mk.injEq and_true and_self
attribute [geo_eval_proc] Nat.reduceAdd Nat.reduceSub Nat.reducePow Nat.reduceEqDiff
attribute [geo_eval_proc ↓] reduceIte

/-- Children of a box given by its bounds: evaluate the model and compare with the traced list
entry by entry.  Entries the traced code writes as the model does are closed by that; one it writes
otherwise is left as an equation between field expressions (under `∧`, hence the splitting) and is
closed by `ring`. -/
macro "geo_boxes" : tactic => `(tactic|
  (simp only [geo_eval] <;> (repeat' constructor) <;> ring))

/-- Centres of the traced children: the same evaluation (`Box.cpoint` is `List.map Iv.mid`). -/
macro "geo_cpoints" : tactic => `(tactic| geo_boxes)

/-- Index labels of the children of node `i ≥ 1`: evaluate `childIndex` on `List.range K`; what is
then not yet the traced label entry for entry (truncated subtraction written another way) is linear
arithmetic over ℕ. -/
macro "geo_index" : tactic => `(tactic|
  (simp only [geo_eval] <;> omega))

end PyXAB
