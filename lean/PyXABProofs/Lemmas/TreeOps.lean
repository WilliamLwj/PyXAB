/-
  The operations `makeChildren` (on a leaf, correct flag), `deepen`, and legal operation
  sequences never raise and preserve `WF`.
-/
import PyXABProofs.Lemmas.TreeInv

namespace PyXAB
namespace Tree

variable {α σ : Type} [Add α] [Sub α] [Mul α] [Div α] [OfNat α 2] [NatCast α]

/-- `make_children` on a leaf with the correct `newlayer` flag and a well-formed draw never
raises, keeps the invariant, and has the `Step` frame. -/
theorem makeChildren_WF_step {P : Part α σ} (W : WF P) (s0 : σ) {p : Nat} {nd : Node α σ}
    {d : Draw α} {newlayer : Bool}
    (hp : P.nodes[p]? = some nd) (hleaf : nd.children = none)
    (hfl : newlayer = decide (nd.depth ≥ P.depth)) (hd : DrawOKLen P.kind (dimn P) d) :
    ∃ P', P.makeChildren s0 p newlayer d = .ok P' ∧ WF P' ∧ Step P P' s0 p nd := by
  have hbox := W.boxlen p nd hp
  have hle := W.depth_le p nd hp
  have hK := arity_pos_of_drawOK hd
  rw [← hbox] at hd
  have hk : (Part.newKids P.kind p nd s0 d).length = K P := by
    rw [Part.length_newKids, length_childBoxes _ _ d hd, hbox]; rfl
  have hdeep : newlayer = true → nd.depth = P.depth := fun e => by
    rw [hfl, decide_eq_true_iff] at e; omega
  have hinner : newlayer = false → nd.depth < P.depth := fun e => by
    rw [hfl, decide_eq_false_iff_not] at e; omega
  obtain ⟨P', h⟩ := Part.makeChildren_isOk hp
    (fun e => by have := hinner e; rw [W.layers_len]; omega) s0 d
  obtain ⟨hkind, -, hlay⟩ := Part.makeChildren_ok hp h
  obtain ⟨hlen, hold, hat, hnew⟩ := Part.makeChildren_getElem? hp h
  rw [hk] at hlen hat hlay
  have S : Step P P' s0 p nd := by
    refine ⟨hkind, hlen, hold, hat, fun j hj => ?_, ?_⟩
    · -- the `j`-th new node, read off `newKids`
      have hj' := hk ▸ hj
      obtain ⟨h1, h2, h3, h4, h5, h6⟩ :=
        Part.of_getElem?_newKids (List.getElem?_eq_getElem hj')
      rw [K, ← hbox] at hj
      exact ⟨_, (hnew j).trans (List.getElem?_eq_getElem hj'), h1,
        by rw [h2, childIndex_eq _ _ _ _ (W.index_pos p nd hp) hj, hbox]; rfl, h3, h4,
        (length_of_mem_childBoxes _ _ d _ (List.mem_of_getElem? h5)).trans hbox, h6⟩
    · rcases hlay with ⟨e, h1, h2⟩ | ⟨e, _, h1, h2⟩
      · exact Or.inl ⟨hdeep e, h1, h2⟩
      · exact Or.inr ⟨hinner e, h1, h2⟩
  exact ⟨P', h, S.wf W hp hleaf hK, S⟩

theorem makeChildrenD_cons {P P' : Part α σ} {s0 : σ} {p : Nat} {nl : Bool} {d : Draw α}
    {ds : List (Draw α)} (h : P.makeChildren s0 p nl d = .ok P') :
    P.makeChildrenD s0 p nl (d :: ds) = .ok (P', ds) := by
  rw [Part.makeChildrenD_cons, h]; rfl

/-- Loop invariant of `Partition.deepen`: when the first `i` cells of the old deepest layer
`layer` have been split, the others are still leaves of depth `depth0`, and the reported depth
has moved with the first split. -/
theorem deepenLoop_WF (s0 : σ) {depth0 : Nat} {layer : List Nat} :
    ∀ (fuel i : Nat) (Q : Part α σ) (ds : List (Draw α)),
      WF Q → Q.layers[depth0]? = some layer → fuel + i = layer.length →
      Q.depth = (if i = 0 then depth0 else depth0 + 1) →
      (∀ j q, i ≤ j → layer[j]? = some q →
        ∃ qn, Q.nodes[q]? = some qn ∧ qn.children = none ∧ qn.depth = depth0) →
      fuel ≤ ds.length → (∀ d ∈ ds, DrawOKLen Q.kind (dimn Q) d) →
      ∃ Q', Part.deepenLoop s0 depth0 fuel i Q ds = .ok (Q', ds.drop fuel) ∧ WF Q' ∧
        Q'.depth = (if fuel = 0 then Q.depth else depth0 + 1) ∧
        Q'.kind = Q.kind ∧ dimn Q' = dimn Q := by
  intro fuel
  induction fuel with
  | zero => exact fun _ Q _ W _ _ _ _ _ _ => ⟨Q, rfl, W, rfl, rfl, rfl⟩
  | succ fuel ih =>
    intro i Q ds W hlay hlen hdep hleaves hds hok
    obtain ⟨d, ds, rfl⟩ : ∃ d ds', ds = d :: ds' := by
      cases ds with
      | nil => exact absurd hds (Nat.not_succ_le_zero fuel)
      | cons d ds => exact ⟨d, ds, rfl⟩
    have hi : i < layer.length := hlen ▸ Nat.lt_add_of_pos_left (Nat.succ_pos fuel)
    obtain ⟨qn, q1, q2, q3⟩ := hleaves i layer[i] (Nat.le_refl _) (List.getElem?_eq_getElem hi)
    have hfl : (i == 0) = decide (qn.depth ≥ Q.depth) := by
      rw [q3, hdep]
      by_cases h0 : i = 0
      · subst h0; exact (decide_eq_true (Nat.le_refl depth0)).symm
      · rw [if_neg h0, beq_false_of_ne h0]
        exact (decide_eq_false (Nat.not_succ_le_self depth0)).symm
    obtain ⟨Q1, m1, W1, S⟩ := makeChildren_WF_step W s0 q1 q2 hfl (hok d (List.mem_cons_self ..))
    have hdep1 : Q1.depth = depth0 + 1 := by
      rw [S.depth_eq, q3, hdep]
      split
      · exact Nat.max_eq_right (Nat.le_succ _)
      · exact Nat.max_self _
    have hleaves1 : ∀ j q, i + 1 ≤ j → layer[j]? = some q →
        ∃ qn, Q1.nodes[q]? = some qn ∧ qn.children = none ∧ qn.depth = depth0 := by
      intro j q hj hq
      obtain ⟨qn0, a1, a2, a3⟩ := hleaves j q (Nat.le_of_succ_le hj) hq
      have hne : q ≠ layer[i] := Nat.ne_of_gt
        (pairwise_lt_getElem? (W.layer_sorted hlay) (List.getElem?_eq_getElem hi) hq hj)
      exact ⟨qn0, (S.old q hne (lt_length_of_getElem? a1)).trans a1, a2, a3⟩
    obtain ⟨Q', r1, r2, r3, r4, r5⟩ := ih (i + 1) Q1 ds W1
      ((S.layers_keep (Nat.le_of_eq q3.symm) (lt_length_of_getElem? hlay)).trans hlay)
      ((Nat.add_right_comm fuel 1 i).symm.trans hlen)
      (by rw [hdep1, if_neg (Nat.succ_ne_zero i)]) hleaves1 (Nat.le_of_succ_le_succ hds)
      (fun d hd => by
        rw [S.kind_eq, S.dimn_eq W q1]; exact hok d (List.mem_cons_of_mem _ hd))
    refine ⟨Q', ?_, r2, ?_, r4.trans S.kind_eq, r5.trans (S.dimn_eq W q1)⟩
    · simp only [Part.deepenLoop, hlay, List.getElem?_eq_getElem hi, makeChildrenD_cons m1,
        List.drop_succ_cons]
      exact r1
    · rw [r3, hdep1, if_neg (Nat.succ_ne_zero fuel)]; split <;> rfl

/-- `deepen()` never raises under `WF` given one well-formed draw per node of the deepest
level; it keeps the invariant and increases the depth by exactly one. -/
theorem deepen_WF' {P : Part α σ} (W : WF P) (s0 : σ) (ds : List (Draw α))
    (hlen : (lastLayer P).length ≤ ds.length) (hok : ∀ d ∈ ds, DrawOKLen P.kind (dimn P) d) :
    ∃ P', P.deepen s0 ds = .ok (P', ds.drop (lastLayer P).length) ∧ WF P' ∧
      P'.depth = P.depth + 1 ∧ P'.kind = P.kind ∧ dimn P' = dimn P := by
  have hl := W.lastLayer_spec
  obtain ⟨P', h1, h2, h3, h4, h5⟩ := deepenLoop_WF s0 (lastLayer P).length 0 P ds W hl rfl rfl
    (fun j q _ hq => by
      obtain ⟨nd, a1, a2⟩ := (W.mem_layer_iff hl q).1 (List.mem_of_getElem? hq)
      exact ⟨nd, a1, W.leaf_of_deepest a1 a2, a2⟩)
    hlen hok
  refine ⟨P', ?_, h2, ?_, h4, h5⟩
  · simp only [Part.deepen, hl]; exact h1
  · rw [h3, if_neg (fun e => W.layer_ne_nil hl (List.length_eq_zero_iff.1 e))]

/-- Every legal operation sequence succeeds and ends in a `WF` state. -/
theorem run_WF (s0 : σ) : ∀ (ops : List (POp α)) (P : Part α σ), WF P → Legal s0 P ops →
    ∃ P', run s0 P ops = .ok P' ∧ WF P' ∧ P'.kind = P.kind ∧ dimn P' = dimn P
  | [], P, W, _ => ⟨P, rfl, W, rfl, rfl⟩
  | op :: ops, P, W, hL => by
    obtain ⟨hop, hrest⟩ := hL
    obtain ⟨P', s1, W', hk, hD⟩ :
        ∃ P', step s0 P op = .ok P' ∧ WF P' ∧ P'.kind = P.kind ∧ dimn P' = dimn P := by
      cases op with
      | mk p d =>
        obtain ⟨nd, h1, h2⟩ := isLeaf_iff.1 hop.1
        obtain ⟨P', m1, W', S⟩ := makeChildren_WF_step W s0 h1 h2 rfl hop.2
        exact ⟨P', by simp only [step, h1, m1], W', S.kind_eq, S.dimn_eq W h1⟩
      | deepen ds =>
        obtain ⟨P', m1, W', _, hk, hD⟩ := deepen_WF' W s0 ds hop.1 hop.2
        exact ⟨P', by simp only [step, m1], W', hk, hD⟩
    rw [s1] at hrest
    obtain ⟨P'', r1, W'', hk', hD'⟩ := run_WF s0 ops P' W' hrest
    exact ⟨P'', by simp only [run, s1, r1], W'', hk'.trans hk, hD'.trans hD⟩

omit [Add α] [Sub α] [Mul α] [Div α] [OfNat α 2] [NatCast α] in
theorem init_WF' (k : Kind) (domain : Box α) (s0 : σ) : WF (Part.init k domain s0) where
  root := ⟨_, rfl, rfl, rfl, rfl⟩
  boxlen := fun i nd h => by obtain ⟨rfl, rfl⟩ := Part.getElem?_init.1 h; rfl
  parent := fun c nd hc h => by obtain ⟨rfl, -⟩ := Part.getElem?_init.1 h; cases hc
  children := fun p pn cs h hcs => by obtain ⟨rfl, rfl⟩ := Part.getElem?_init.1 h; cases hcs
  index_pos := fun i nd h => by obtain ⟨rfl, rfl⟩ := Part.getElem?_init.1 h; exact Nat.le_refl 1
  layers_len := rfl
  layers_mem := fun h l hl => by
    cases h with
    | succ h => cases hl
    | zero =>
      cases hl
      refine ⟨List.pairwise_singleton .., nofun, fun i => ?_⟩
      rw [List.mem_singleton]
      exact ⟨fun e => by subst e; exact ⟨_, rfl, rfl⟩, fun ⟨nd, h1, _⟩ => (Part.getElem?_init.1 h1).1⟩
  depth_le := fun i nd h => by obtain ⟨rfl, rfl⟩ := Part.getElem?_init.1 h; exact Nat.le_refl 0

end Tree
end PyXAB
