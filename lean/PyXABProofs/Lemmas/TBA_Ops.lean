/-
  Node relations closed under composition, the payload-only passes `backward` and `forListed`
  as `PRel` facts, and `expand` on a leaf.
-/
import PyXABProofs.Lemmas.TBA_Rel

namespace PyXAB
namespace TBA
open Tree

variable {α σ R S : Type} {τ : Nat → Node α σ → Node α σ → Prop} {mo : List R → Nat → S}

structure Closed (τ : Nat → Node α σ → Node α σ → Prop) : Prop where
  refl : ∀ i a, τ i a a
  trans : ∀ i a b c, Skel a b → Skel b c → τ i a b → τ i b c → τ i a c

theorem PRel.refl' (C : Closed τ) (P : Part α σ) :
    PRel τ P P := PRel.refl C.refl P

theorem PRel.comp (C : Closed τ) {P P' P'' : Part α σ}
    (h1 : PRel τ P P') (h2 : PRel τ P' P'') : PRel τ P P'' :=
  h1.trans' h2 C.trans

theorem PRel_modifyNode_closed (C : Closed τ)
    (P : Part α σ) (i : Nat) (G : Node α σ → σ)
    (h : ∀ nd nd', P.nodes[i]? = some nd → Skel nd nd' → nd'.st = G nd → τ i nd nd') :
    PRel τ P (P.modifyNode i (fun nd => { nd with st := G nd })) :=
  PRel.of_modifyNode P i G (fun j nd _ => C.refl j nd)
    (fun nd hnd => h nd _ hnd ⟨rfl, rfl, rfl, rfl, rfl⟩ rfl)

theorem PRel_modifySt_closed (C : Closed τ)
    (P : Part α σ) (i : Nat) (g : σ → σ)
    (h : ∀ nd nd', P.nodes[i]? = some nd → Skel nd nd' → nd'.st = g nd.st → τ i nd nd') :
    PRel τ P (P.modifySt i g) :=
  PRel_modifyNode_closed C P i (fun nd => g nd.st) h

theorem PRel_foldl {γ : Type} (C : Closed τ)
    (step : Part α σ → γ → Part α σ) (hstep : ∀ Q x, PRel τ Q (step Q x))
    (l : List γ) (P : Part α σ) : PRel τ P (l.foldl step P) :=
  ListAux.foldl_inv (fun Q => PRel τ P Q) step l P (PRel.refl' C P)
    (fun Q x _ hQ => PRel.comp C hQ (hstep Q x))

def SoftR (mo : List R → Nat → S) : Nat → Node α (TBSt R S) → Node α (TBSt R S) → Prop :=
  fun _ a b => Soft mo a.st b.st

/-- Only the B-value changes; at a leaf it is kept or replaced by the U-value. -/
def BOnly (a b : Node α (TBSt R S)) : Prop :=
  b.st.count = a.st.count ∧ b.st.rewards = a.st.rewards ∧ b.st.mean = a.st.mean ∧
    b.st.u = a.st.u ∧ b.st.var = a.st.var ∧ b.st.tau = a.st.tau ∧
    (a.children = none → b.st.b = a.st.b ∨ b.st.b = a.st.u)

def BOnlyR : Nat → Node α (TBSt R S) → Node α (TBSt R S) → Prop := fun _ a b => BOnly a b

/-- Only `tau` changes. -/
def TauOnly (a b : TBSt R S) : Prop :=
  b.count = a.count ∧ b.rewards = a.rewards ∧ b.mean = a.mean ∧ b.u = a.u ∧ b.b = a.b ∧
    b.var = a.var

def TauR : Nat → Node α (TBSt R S) → Node α (TBSt R S) → Prop :=
  fun _ a b => TauOnly a.st b.st

theorem Soft.rfl' (mo : List R → Nat → S) (a : TBSt R S) : Soft mo a a :=
  ⟨rfl, rfl, rfl, rfl, Or.inl rfl⟩

theorem Soft.trans {a b c : TBSt R S} (h1 : Soft mo a b)
    (h2 : Soft mo b c) : Soft mo a c := by
  obtain ⟨a1, a2, a3, a4, a5⟩ := h1
  obtain ⟨b1, b2, b3, b4, b5⟩ := h2
  refine ⟨b1.trans a1, b2.trans a2, b3.trans a3, b4.trans a4, ?_⟩
  rcases b5 with e | ⟨e1, e2⟩
  · rw [e]; exact a5
  · right; rw [a1] at e1; rw [a1, a2] at e2; exact ⟨e1, e2⟩

theorem closed_SoftR (mo : List R → Nat → S) : Closed (SoftR (α := α) mo) :=
  ⟨fun _ a => Soft.rfl' mo a.st, fun _ _ _ _ _ _ h1 h2 => h1.trans h2⟩

theorem closed_BOnlyR : Closed (BOnlyR (α := α) (R := R) (S := S)) where
  refl := fun _ a => ⟨rfl, rfl, rfl, rfl, rfl, rfl, fun _ => Or.inl rfl⟩
  trans := by
    intro _ a b c s1 _ h1 h2
    obtain ⟨a1, a2, a3, a4, a5, a6, a7⟩ := h1
    obtain ⟨b1, b2, b3, b4, b5, b6, b7⟩ := h2
    refine ⟨b1.trans a1, b2.trans a2, b3.trans a3, b4.trans a4, b5.trans a5, b6.trans a6, ?_⟩
    intro hc
    rcases b7 (s1.children.trans hc) with e | e
    · rw [e]; exact a7 hc
    · right; rw [e, a4]

theorem closed_TauR : Closed (TauR (α := α) (R := R) (S := S)) where
  refl := fun _ _ => ⟨rfl, rfl, rfl, rfl, rfl, rfl⟩
  trans := by
    intro _ a b c _ _ h1 h2
    obtain ⟨a1, a2, a3, a4, a5, a6⟩ := h1
    obtain ⟨b1, b2, b3, b4, b5, b6⟩ := h2
    exact ⟨b1.trans a1, b2.trans a2, b3.trans a3, b4.trans a4, b5.trans a5, b6.trans a6⟩

theorem BOnly.soft (mo : List R → Nat → S) {a b : Node α (TBSt R S)} (h : BOnly a b) :
    Soft mo a.st b.st :=
  ⟨h.1, h.2.1, h.2.2.2.2.1, h.2.2.2.2.2.1, Or.inl h.2.2.1⟩

theorem PRel.soft_of_bonly (mo : List R → Nat → S) {P P' : Part α (TBSt R S)}
    (h : PRel BOnlyR P P') : PRel (SoftR mo) P P' :=
  h.mono (fun _ _ _ _ hb => BOnly.soft mo hb)

theorem Soft.good {a b : TBSt R S} (h : Soft mo a b) (g : Good mo a) :
    Good mo b := by
  obtain ⟨a1, a2, _, _, a5⟩ := h
  obtain ⟨g1, g2⟩ := g
  refine ⟨by rw [a1, a2]; exact g1, fun hc => ?_⟩
  rw [a1] at hc
  rw [a1, a2]
  rcases a5 with e | ⟨_, e⟩
  · rw [e]; exact g2 hc
  · exact e

theorem Soft.goodVar {vo : List R → S} {a b : TBSt R S}
    (h : Soft mo a b) (g : GoodVar vo a) : GoodVar vo b := by
  obtain ⟨a1, a2, a3, _, _⟩ := h
  intro hc
  rw [a1] at hc
  rw [a2, a3]; exact g hc

section backward
variable [Max S] [Min S] [Inhabited S] [Inhabited R]

theorem backwardLayer_rel (negInf : S) (P : Part α (TBSt R S)) (layer : List Nat) :
    PRel BOnlyR P (backwardLayer negInf P layer) := by
  unfold backwardLayer
  refine PRel_foldl closed_BOnlyR _ (fun Q id => ?_) layer P
  cases hq : Q.nodes[id]? with
  | none => exact PRel.refl' closed_BOnlyR Q
  | some nd =>
    cases hc : nd.children with
    | none =>
      simp only [hc]
      refine PRel_modifySt_closed closed_BOnlyR Q id _ (fun a a' ha _ hst => ?_)
      show BOnly a a'
      unfold BOnly
      rw [hst]
      exact ⟨rfl, rfl, rfl, rfl, rfl, rfl, fun _ => Or.inr rfl⟩
    | some cs =>
      simp only [hc]
      refine PRel_modifySt_closed closed_BOnlyR Q id _ (fun a a' ha _ hst => ?_)
      show BOnly a a'
      unfold BOnly
      rw [hst]
      obtain rfl : nd = a := getElem?_inj hq ha
      exact ⟨rfl, rfl, rfl, rfl, rfl, rfl, fun h => by rw [hc] at h; cases h⟩

/-- `updateBackwardTree` never raises on a tree with `depth + 1` layers; only B-values change. -/
theorem backward_rel (negInf : S) (P : Part α (TBSt R S)) (hl : P.layers.length = P.depth + 1) :
    ∃ P', backward negInf P = .ok P' ∧ PRel BOnlyR P P' := by
  unfold backward
  refine ListAux.foldlM_inv (fun Q => PRel BOnlyR P Q) _ _ P (PRel.refl' closed_BOnlyR P) ?_
  intro Q i hi hQ
  have hi' : i < P.depth := List.mem_range.1 hi
  have hlen : Q.layers.length = P.depth + 1 := by rw [hQ.layers]; exact hl
  have h1 : i + 1 ≤ Q.layers.length := by omega
  have h2 : Q.layers.length - (i + 1) < Q.layers.length := by omega
  simp only [h1, if_true, List.getElem?_eq_getElem h2]
  exact ⟨_, rfl, PRel.comp closed_BOnlyR hQ (backwardLayer_rel negInf Q _)⟩

end backward

theorem forListed_rel (C : Closed τ)
    (f : Node α σ → σ) (hf : ∀ i nd nd', Skel nd nd' → nd'.st = f nd → τ i nd nd')
    (P : Part α σ) : PRel τ P (forListed P f) := by
  rw [Part.forListed_eq]
  exact PRel_foldl C _ (fun Q id =>
    PRel_modifyNode_closed C Q id f (fun a a' _ hs hst => hf id a a' hs hst)) _ P

section expand
variable [Add α] [Sub α] [Mul α] [Div α] [OfNat α 2] [NatCast α]

theorem expand_ok {P : Part α σ} (W : WF P) (s0 : σ) {p : Nat} {nd : Node α σ}
    (hp : P.nodes[p]? = some nd) (hleaf : nd.children = none) {d : Draw α} (ds : List (Draw α))
    (hd : DrawOKLen P.kind (dimn P) d) :
    ∃ P', P.expand s0 p (d :: ds) = .ok (P', ds) ∧ WF P' ∧ Step P P' s0 p nd := by
  obtain ⟨P', m1, W', S⟩ := makeChildren_WF_step W s0 hp hleaf rfl hd
  refine ⟨P', ?_, W', S⟩
  simp only [Part.expand, hp]
  exact makeChildrenD_cons m1

/-- The arena right after the root has been split: every payload is `s0`, only the root is an
inner node. -/
theorem init_expand_ok (k : Kind) (domain : Box α) (s0 : σ) {d : Draw α} (ds : List (Draw α))
    (hd : DrawOKLen k domain.length d) :
    ∃ P1, (Part.init k domain s0).expand s0 0 (d :: ds) = .ok (P1, ds) ∧ WF P1 ∧ P1.kind = k ∧
      dimn P1 = domain.length ∧ (∃ r cs, P1.nodes[0]? = some r ∧ r.children = some cs) ∧
      ∀ (i : Nat) (nd : Node α σ), P1.nodes[i]? = some nd →
        nd.st = s0 ∧ nd.depth ≤ 1 ∧ (0 < i → nd.children = none) := by
  have W0 := init_WF' k domain s0
  have h0 : (Part.init k domain s0).nodes[0]? = some
      { depth := 0, index := 1, parent := none, children := none, box := domain, st := s0 } := rfl
  obtain ⟨P1, e1, W1, S⟩ := expand_ok W0 s0 h0 rfl ds
    (show DrawOKLen (Part.init k domain s0).kind (dimn (Part.init k domain s0)) d from hd)
  refine ⟨P1, e1, W1, S.kind_eq, S.dimn_eq W0 h0, ⟨_, _, S.atp, rfl⟩, fun i nd hi => ?_⟩
  rcases S.inv h0 hi with ⟨x, x1, x2, _, _, _, x6, _⟩ | ⟨j, _, _, j3, _, _, j6, _, j8⟩
  · obtain ⟨rfl, rfl⟩ := Part.getElem?_init.1 x1
    exact ⟨x6, x2 ▸ Nat.zero_le 1, fun h => absurd h (Nat.lt_irrefl 0)⟩
  · exact ⟨j8, j3 ▸ Nat.le_refl 1, fun _ => j6⟩

end expand

end TBA
end PyXAB
