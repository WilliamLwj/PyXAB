/-
  Helper lemmas for property C17 (synthetic objectives): the shape every generated objective has
  (dimension guard, value or error; a perturbed variant adds an offset to the value), and pure
  real-analysis inequalities, stated over arbitrary reals (no reference to the generated
  definitions, except for the two generated auxiliary functions `mysin2` and `threshold`, whose
  ranges are established here), plus two generic facts on `List.foldl`.
-/
import PyXABProofs.Generated.ObjectivesReal
import Mathlib.Analysis.Real.Pi.Bounds
import Mathlib.Tactic.Linarith
import Mathlib.Tactic.LinearCombination
import Mathlib.Tactic.Positivity
import Mathlib.Tactic.NormNum
import Mathlib.Tactic.Ring

namespace PyXAB.OBJ
open PyXAB PyXAB.Obj

/-- The dimension guard `match x with | [x0] => … | _ => error` rejects every other length. -/
theorem error_of_length_ne_one {ε β : Type} (f : List ℝ → Except ε β) {e : ε}
    (h0 : f [] = .error e) (h2 : ∀ a b l, f (a :: b :: l) = .error e) :
    ∀ xs : List ℝ, xs.length ≠ 1 → f xs = .error e
  | [], _ => h0
  | [_], h => absurd rfl h
  | a :: b :: l, _ => h2 a b l

theorem error_of_length_ne_two {ε β : Type} (f : List ℝ → Except ε β) {e : ε}
    (h0 : f [] = .error e) (h1 : ∀ a, f [a] = .error e)
    (h3 : ∀ a b c l, f (a :: b :: c :: l) = .error e) :
    ∀ xs : List ℝ, xs.length ≠ 2 → f xs = .error e
  | [], _ => h0
  | [a], _ => h1 a
  | [_, _], h => absurd rfl h
  | a :: b :: c :: l, _ => h3 a b c l

/-- What is known of the value of `r` passes to the value of `r.map g` (a perturbed objective is
`r.map (· + perturb)` of the plain one). -/
theorem exists_ok_map {ε : Type} {r : Except ε ℝ} {P Q : ℝ → Prop} (g : ℝ → ℝ)
    (hPQ : ∀ v, P v → Q (g v)) : (∃ v, r = .ok v ∧ P v) → ∃ v, r.map g = .ok v ∧ Q v
  | ⟨v, hv, h⟩ => ⟨g v, hv ▸ rfl, hPQ v h⟩

/-- What `x (1 - x) (4 - q)` lacks to `1`: two squares' worth when `0 ≤ x ≤ 1` and `0 ≤ q`. -/
theorem garland_gap_eq (x q : ℝ) :
    1 - x * (1 - x) * (4 - q) = 4 * (x - 1 / 2) ^ 2 + x * (1 - x) * q := by ring

theorem garland_core {x q : ℝ} (hx0 : 0 ≤ x) (hx1 : x ≤ 1) (hq0 : 0 ≤ q) :
    x * (1 - x) * (4 - q) ≤ 1 := by
  rw [← sub_nonneg, garland_gap_eq]
  exact add_nonneg (mul_nonneg zero_le_four (sq_nonneg _))
    (mul_nonneg (mul_nonneg hx0 (sub_nonneg.2 hx1)) hq0)

/-- Strict version: equality would force `x = 1/2` and `q = 0`. -/
theorem garland_core_lt {x q : ℝ} (hx0 : 0 ≤ x) (hx1 : x ≤ 1) (hq0 : 0 ≤ q)
    (hq : x = 1 / 2 → 0 < q) : x * (1 - x) * (4 - q) < 1 := by
  rw [← sub_pos, garland_gap_eq]
  rcases eq_or_ne x (1 / 2) with h | h
  · refine add_pos_of_nonneg_of_pos (mul_nonneg zero_le_four (sq_nonneg _)) (mul_pos ?_ (hq h))
    rw [h]; norm_num
  · exact add_pos_of_pos_of_nonneg (mul_pos zero_lt_four (sq_pos_of_ne_zero (sub_ne_zero.2 h)))
      (mul_nonneg (mul_nonneg hx0 (sub_nonneg.2 hx1)) hq0)

theorem sqrt_abs_sin_nonneg (t : ℝ) : 0 ≤ Real.sqrt |Real.sin t| := Real.sqrt_nonneg _

theorem sqrt_abs_sin_le_one (t : ℝ) : Real.sqrt |Real.sin t| ≤ 1 :=
  (Real.sqrt_le_sqrt (Real.abs_sin_le_one t)).trans_eq Real.sqrt_one

/-- `sin (60 · π/6) = sin (10 π) = 0`. -/
theorem sin_sixty_mul_pi_div_six : Real.sin (60 * (Real.pi / 6)) = 0 := by
  have h : (60 : ℝ) * (Real.pi / 6) = ((10 : ℕ) : ℝ) * Real.pi := by push_cast; ring
  rw [h]; exact Real.sin_nat_mul_pi 10

/-- `sin 30 < 0` because `-π < 30 - 10 π < 0`. -/
theorem sin_thirty_ne_zero : Real.sin 30 ≠ 0 := by
  rw [← Real.sin_sub_nat_mul_two_pi 30 5, Nat.cast_ofNat]
  refine (Real.sin_neg_of_neg_of_neg_pi_lt ?_ ?_).ne
  · linear_combination 10 * Real.pi_gt_three
  · linear_combination 9 * Real.pi_lt_d2

/-- at `x = 1/2` the Garland oscillation term `√|sin (60 x)|` is strictly positive. -/
theorem sqrt_abs_sin_sixty_pos_of_eq_half {x : ℝ} (hx : x = 1 / 2) :
    0 < Real.sqrt |Real.sin (60 * x)| := by
  have h : (60 : ℝ) * x = 30 := by rw [hx]; norm_num
  rw [h]
  exact Real.sqrt_pos.mpr (abs_pos.mpr sin_thirty_ne_zero)

theorem pi_div_six_mem : 0 ≤ Real.pi / 6 ∧ Real.pi / 6 ≤ 1 :=
  ⟨div_nonneg Real.pi_pos.le (by norm_num),
    (div_le_one (by norm_num)).2 (Real.pi_le_four.trans (by norm_num))⟩

/-- `f(π/6) = 4 (π/6)(1 - π/6) > 0.997` from `3.14 < π < 3.15`: the oscillation term vanishes,
and `(π - 3.14)(3.15 - π) > 0` bounds `π (6 - π)` from below up to a multiple of `π`. -/
theorem garland_near : (0.997 : ℝ) <
    Real.pi / 6 * (1 - Real.pi / 6) * (4 - Real.sqrt |Real.sin (60 * (Real.pi / 6))|) := by
  rw [sin_sixty_mul_pi_div_six, abs_zero, Real.sqrt_zero]
  have h := mul_pos (sub_pos.2 Real.pi_gt_d2) (sub_pos.2 Real.pi_lt_d2)
  linear_combination (1 / 9) * h + (0.29 / 9) * Real.pi_lt_d2

theorem mysin2_nonneg (t : ℝ) : 0 ≤ mysin2 t :=
  div_nonneg (neg_le_iff_add_nonneg.1 (Real.neg_one_le_sin _)) (by norm_num)

theorem mysin2_le_one (t : ℝ) : mysin2 t ≤ 1 :=
  (div_le_one (by norm_num)).2
    ((add_le_add_left (Real.sin_le_one _) 1).trans_eq (by norm_num))

/-- `s (A - B) - A = -(1 - s) A - s B ≤ 0` for `s ∈ [0,1]`, `A, B ≥ 0`. -/
theorem dsine_core {s A B : ℝ} (hs0 : 0 ≤ s) (hs1 : s ≤ 1) (hA : 0 ≤ A) (hB : 0 ≤ B) :
    s * (A - B) - A ≤ 0 := by
  linear_combination mul_nonneg hs0 hB + mul_nonneg (sub_nonneg.mpr hs1) hA

theorem two_abs_nonneg (t : ℝ) : 0 ≤ 2 * |t| := mul_nonneg zero_le_two (abs_nonneg t)

/-- the exponent `-log ρ / log 2` is non-negative for `ρ ∈ (0,1]`. -/
theorem neg_log_div_log_two_nonneg {rho : ℝ} (h0 : 0 < rho) (h1 : rho ≤ 1) :
    0 ≤ -(Real.log rho / Real.log 2) :=
  neg_nonneg.2 (div_nonpos_of_nonpos_of_nonneg (Real.log_nonpos h0.le h1)
    (Real.log_pos one_lt_two).le)

theorem threshold_cases (t : ℝ) : threshold t = 0 ∨ threshold t = 1 := by
  simp only [threshold]
  split_ifs
  · exact Or.inl rfl
  · exact Or.inr rfl

/-- `t (√y - y²) - √y ≤ 0` for `t ∈ {0,1}` (any real `y`). -/
theorem difficult_core {t y : ℝ} (ht : t = 0 ∨ t = 1) :
    t * (Real.sqrt y - y ^ 2) - Real.sqrt y ≤ 0 := by
  rcases ht with rfl | rfl
  · linear_combination Real.sqrt_nonneg y
  · linear_combination sq_nonneg y

/-- the comparison `y² ≤ y ≤ √y` on `[0,1]`; `difficult_core` holds without it, for every real `y`. -/
theorem sq_le_sqrt_of_mem {y : ℝ} (h0 : 0 ≤ y) (h1 : y ≤ 1) : y ^ 2 ≤ Real.sqrt y :=
  (pow_le_of_le_one h0 h1 two_ne_zero).trans
    (Real.le_sqrt_of_sq_le (pow_le_of_le_one h0 h1 two_ne_zero))

theorem ackley_core {a b c : ℝ} (hb : b ≤ 1) (hc : c ≤ 1) :
    20 * Real.exp (-0.2 * Real.sqrt a) + Real.exp (0.5 * (b + c)) - Real.exp 1 - 20 ≤ 0 := by
  have h1 : Real.exp (-0.2 * Real.sqrt a) ≤ 1 :=
    Real.exp_le_one_iff.2 (mul_nonpos_of_nonpos_of_nonneg (by norm_num) (Real.sqrt_nonneg a))
  have h2 : Real.exp (0.5 * (b + c)) ≤ Real.exp 1 :=
    Real.exp_le_exp.2 (by linear_combination 0.5 * hb + 0.5 * hc)
  linear_combination 20 * h1 + h2

theorem neg_sq_sub_sq_nonpos (a b : ℝ) : -a ^ 2 - b ^ 2 ≤ 0 :=
  sub_nonpos.2 ((neg_nonpos.2 (sq_nonneg a)).trans (sq_nonneg b))

theorem log_le_neg_one_of_le_exp {x : ℝ} (h0 : 0 < x) (h1 : x ≤ Real.exp (-1)) :
    Real.log x ≤ -1 := by
  have := Real.log_le_log h0 h1
  rwa [Real.log_exp] at this

/-- `1/4 ≤ 1/e` (from `exp (-1/2) ≥ 1/2`), used to exhibit an interior point of `[0, 1/e]`. -/
theorem quarter_le_exp_neg_one : (0.25 : ℝ) ≤ Real.exp (-1) := by
  have h : (1 / 2 : ℝ) ≤ Real.exp (-(1 / 2)) := by
    linear_combination Real.add_one_le_exp (-(1 / 2) : ℝ)
  have e : Real.exp (-1) = Real.exp (-(1 / 2)) * Real.exp (-(1 / 2)) := by
    rw [← Real.exp_add]; norm_num
  rw [e]
  exact le_trans (by norm_num) (mul_le_mul h h (by norm_num) (Real.exp_nonneg _))

theorem cexample_core_le {x : ℝ} (h0 : 0 < x) (h1 : x ≤ Real.exp (-1)) :
    1 + 1 / Real.log x ≤ 1 :=
  add_le_of_nonpos_right (one_div_nonpos.2
    ((log_le_neg_one_of_le_exp h0 h1).trans (by norm_num)))

theorem cexample_core_ge {x : ℝ} (h0 : 0 < x) (h1 : x ≤ Real.exp (-1)) :
    0 ≤ 1 + 1 / Real.log x := by
  have hl := log_le_neg_one_of_le_exp h0 h1
  have : -1 ≤ 1 / Real.log x := by
    rw [le_div_iff_of_neg (hl.trans_lt (by norm_num))]
    linear_combination hl
  linear_combination this

theorem foldl_nonpos (g : ℝ → ℝ → ℝ) (hg : ∀ acc x, acc ≤ 0 → g acc x ≤ 0) :
    ∀ (xs : List ℝ) (a : ℝ), a ≤ 0 → xs.foldl g a ≤ 0
  | [], _, ha => ha
  | x :: xs, a, ha => foldl_nonpos g hg xs _ (hg a x ha)

theorem foldl_replicate_fix (g : ℝ → ℝ → ℝ) (a c : ℝ) (h : g a c = a) :
    ∀ d : ℕ, (List.replicate d c).foldl g a = a := by
  intro d
  induction d with
  | zero => rfl
  | succ d ih => rw [List.replicate_succ, List.foldl_cons, h, ih]

/-- one Rastrigin summand keeps a non-positive accumulator non-positive. -/
theorem rastrigin_step {acc x c : ℝ} (hacc : acc ≤ 0) (hc : c ≤ 1) :
    acc - 10 - (x ^ 2 - 10 * c) ≤ 0 := by
  linear_combination hacc + 10 * hc + sq_nonneg x

end PyXAB.OBJ
