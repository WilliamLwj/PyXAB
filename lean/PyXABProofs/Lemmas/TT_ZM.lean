/-
  C01 for Zooming: along a `ZM.GoodRun` the invariant `ZM.Cover` (C11) holds, hence every arm's
  point lies in its (leaf) cell, which is a sub-box of the domain; the arena satisfies `DomInv`.
-/
import PyXABProofs.Lemmas.TT_Box
import PyXABProofs.Props.C11

set_option linter.unusedSectionVars false
set_option linter.unusedVariables false

namespace PyXAB
namespace TT
namespace ZM
open _root_.PyXAB.Tree TBA PyXAB.ZM Zooming
variable {α R S : Type} [Field α] [LinearOrder α] [IsStrictOrderedRing α]

/-- In a `Cover` state every active arm's stored point is a `d`-vector inside the domain. -/
theorem arm_in_domain {root : Box α} {s : Zooming α S} (hC : Cover root s) {a : Arm α S}
    (ha : a ∈ s.arms) : Box.Mem root a.pt ∧ a.pt.length = root.length := by
  obtain ⟨nd, hn, hleaf, _, hmem, _, hlen, _⟩ := C11.cover_arm_in_cell hC ha
  exact ⟨Box.mem_of_subset (hC.tiles.1 nd.box (mem_leafBoxes.2 ⟨_, nd, hn, hleaf, rfl⟩)).1 hmem,
    hlen⟩

variable [LinearOrder S]

/-- The arena of every state of a good run satisfies `DomInv`. -/
theorem goodRun_dom {cfg : ZoomCfg R S} {k : Kind} {domain : Box α} (hv : Box.Valid domain)
    {s : Zooming α S} {H : List (Nat × R)} (hG : GoodRun cfg k domain s H) :
    DomInv k domain s.P := by
  induction hG with
  | @init d ds ds' s hdl hd hi =>
    unfold Zooming.init at hi
    obtain ⟨⟨P1, ds1⟩, hdeep, hi⟩ := ListAux.bind_eq_ok.1 hi
    dsimp only at hi
    split at hi
    · cases hi
    · cases hi
      -- `Partition.deepen()` of the fresh partition is one `make_children(root)`
      simp only [Part.deepen, Part.init, List.getElem?_cons_zero, List.length_cons,
        List.length_nil, Part.deepenLoop] at hdeep
      obtain ⟨⟨P2, ds2⟩, hmD, hdeep⟩ := ListAux.bind_eq_ok.1 hdeep
      cases hdeep
      obtain ⟨d', e, hm⟩ := Part.makeChildrenD_eq_ok.1 hmD
      cases e
      exact init_split_dom hv (fun _ _ => hd) hm
  | @round s s1 s2 H i pt r ds ds' hG' hneg hp hds hr ih =>
    obtain ⟨hC, _, hk, _⟩ := goodRun_cover hv hG'
    obtain ⟨rfl, a, ha, _⟩ := pull_inv hp
    obtain ⟨nd, hn, _, hcase⟩ := receive_cases cfg (hC.with_best (some i)) rfl ha r hds
    rcases hcase with ⟨_, e, _⟩ | ⟨hc, d, ds'', P2, _, c, _, _, rfl, hm, _, _, _, _, _, _, e, _⟩
    · rw [e] at hr
      cases hr
      exact ih
    · rw [e] at hr
      cases hr
      obtain ⟨_, _, e1, _, hdok⟩ := hds i a nd rfl ha hn.1 hc
      cases e1
      exact (makeChildren_dom (P := s.P) ih hn.1 (fun _ _ => by rw [← ih.kind]; exact hdok) hm).1

end ZM
end TT
end PyXAB
