/-
  C16.2: the partition operations commute with mapping the boxes of all nodes, when the map
  commutes with the child-box computation.  Also the generic plumbing (`modifySt`, folds)
  used by the algorithm-level simulations.
  C14: whatever payload updates and `make_children` keep of a tree, every partition operation
  keeps (`KeptByOps`); the boxes of existing cells are such a thing.
-/
import PyXABProofs.Lemmas.RL_Geom
import PyXABProofs.Lemmas.RL_Machine

namespace PyXAB
namespace RL
open Rel ListAux

variable {α σ : Type}

/-- `g` (on boxes) and `gd` (on draws) commute with the child-box computation of every
partition class, and `g` keeps the dimension. -/
structure BoxEquivariant [Add α] [Sub α] [Mul α] [Div α] [OfNat α 2] [NatCast α]
    (g : Box α → Box α) (gd : Draw α → Draw α) : Prop where
  len : ∀ b, (g b).length = b.length
  kids : ∀ k b d, childBoxes k (g b) (gd d) = (childBoxes k b d).map g

theorem aff_boxEquivariant {α : Type} [Field α] [LinearOrder α] [IsStrictOrderedRing α]
    (φ : Aff α) : BoxEquivariant φ.box φ.draw :=
  ⟨aff_box_length φ, aff_childBoxes φ⟩

/-- normal form of `decide (a ≥ b)` which does not mention the `Decidable` instance -/
theorem decide_ge_eq_ble (a b : Nat) [inst : Decidable (a ≥ b)] : decide (a ≥ b) = Nat.ble b a := by
  by_cases h : a ≥ b
  · simp only [h, decide_true]; exact (Nat.ble_eq_true_of_le h).symm
  · simp only [h, decide_false]
    cases hb : Nat.ble b a with
    | false => rfl
    | true => exact absurd (Nat.le_of_ble_eq_true hb) h

theorem map_modify' {β γ : Type} (f : β → γ) (F : β → β) (F' : γ → γ)
    (h : ∀ x, F' (f x) = f (F x)) (l : List β) (i : Nat) :
    (l.map f).modify i F' = (l.modify i F).map f := by
  apply List.ext_getElem?
  intro j
  simp only [List.getElem?_modify, List.getElem?_map]
  cases l[j]? with
  | none => rfl
  | some x =>
    simp only [Option.map_some]
    split <;> simp [h]

theorem foldl_comm {β γ δ : Type} (m : β → γ) (step : β → δ → β) (step' : γ → δ → γ)
    (h : ∀ b x, step' (m b) x = m (step b x)) (l : List δ) (b : β) :
    l.foldl step' (m b) = m (l.foldl step b) := by
  induction l generalizing b with
  | nil => rfl
  | cons x l ih => simp only [List.foldl_cons, h, ih]

theorem foldlM_comm {β γ δ ε : Type} (m : β → γ) (step : β → δ → Except ε β)
    (step' : γ → δ → Except ε γ)
    (h : ∀ b x, step' (m b) x = mapRes1 m (step b x)) (l : List δ) (b : β) :
    l.foldlM step' (m b) = mapRes1 m (l.foldlM step b) := by
  induction l generalizing b with
  | nil => rfl
  | cons x l ih =>
    simp only [List.foldlM_cons, h]
    cases step b x with
    | error e => rfl
    | ok b' => exact ih b'

@[simp] theorem partMapBox_kind (g : Box α → Box α) (P : Part α σ) : (partMapBox g P).kind = P.kind := rfl
@[simp] theorem partMapBox_layers (g : Box α → Box α) (P : Part α σ) :
    (partMapBox g P).layers = P.layers := rfl
@[simp] theorem partMapBox_depth (g : Box α → Box α) (P : Part α σ) :
    (partMapBox g P).depth = P.depth := rfl
@[simp] theorem partMapBox_length (g : Box α → Box α) (P : Part α σ) :
    (partMapBox g P).nodes.length = P.nodes.length := by
  simp only [partMapBox, List.length_map]

/-- `partMapBox_depth` with a proof which is not `rfl`: `simp` then rewrites with it through
congruence and re-synthesizes the `Decidable` instances of tests which mention the depth (a
`rfl`-lemma is applied by `dsimp`, which leaves stale instances behind). -/
theorem partMapBox_depth' (g : Box α → Box α) (P : Part α σ) :
    (partMapBox g P).depth = P.depth := by
  cases P; rfl

theorem partMapBox_getElem? (g : Box α → Box α) (P : Part α σ) (i : Nat) :
    (partMapBox g P).nodes[i]? = (P.nodes[i]?).map (nodeMapBox g) := by
  simp only [partMapBox, List.getElem?_map]

@[simp] theorem nodeMapBox_depth (g : Box α → Box α) (nd : Node α σ) : (nodeMapBox g nd).depth = nd.depth := rfl
@[simp] theorem nodeMapBox_index (g : Box α → Box α) (nd : Node α σ) : (nodeMapBox g nd).index = nd.index := rfl
@[simp] theorem nodeMapBox_parent (g : Box α → Box α) (nd : Node α σ) :
    (nodeMapBox g nd).parent = nd.parent := rfl
@[simp] theorem nodeMapBox_children (g : Box α → Box α) (nd : Node α σ) :
    (nodeMapBox g nd).children = nd.children := rfl
@[simp] theorem nodeMapBox_st (g : Box α → Box α) (nd : Node α σ) : (nodeMapBox g nd).st = nd.st := rfl
@[simp] theorem nodeMapBox_box (g : Box α → Box α) (nd : Node α σ) : (nodeMapBox g nd).box = g nd.box := rfl

/-- non-`rfl` versions (see `partMapBox_depth'`) -/
theorem nodeMapBox_children' (g : Box α → Box α) (nd : Node α σ) :
    (nodeMapBox g nd).children = nd.children := by cases nd; rfl
theorem nodeMapBox_depth' (g : Box α → Box α) (nd : Node α σ) :
    (nodeMapBox g nd).depth = nd.depth := by cases nd; rfl
theorem nodeMapBox_st' (g : Box α → Box α) (nd : Node α σ) :
    (nodeMapBox g nd).st = nd.st := by cases nd; rfl

theorem partMapBox_stOf [Inhabited σ] (g : Box α → Box α) (P : Part α σ) (i : Nat) :
    (partMapBox g P).stOf i = P.stOf i := by
  unfold Part.stOf
  rw [partMapBox_getElem?]
  cases P.nodes[i]? with
  | none => rfl
  | some nd => rfl

theorem partMapBox_isLeaf (g : Box α → Box α) (P : Part α σ) (i : Nat) :
    (partMapBox g P).isLeaf i = P.isLeaf i := by
  unfold Part.isLeaf
  rw [partMapBox_getElem?]
  cases P.nodes[i]? with
  | none => rfl
  | some nd => rfl

theorem partMapBox_modifySt (g : Box α → Box α) (P : Part α σ) (i : Nat) (f : σ → σ) :
    (partMapBox g P).modifySt i f = partMapBox g (P.modifySt i f) := by
  simp only [Part.modifySt, Part.modifyNode, partMapBox]
  rw [map_modify' (nodeMapBox g) (fun nd => { nd with st := f nd.st }) _ (fun _ => rfl)]

section mk
variable [Add α] [Sub α] [Mul α] [Div α] [OfNat α 2] [NatCast α]
variable {g : Box α → Box α} {gd : Draw α → Draw α}

theorem newKids_map (hg : BoxEquivariant g gd) (k : Kind) (p : Nat) (nd : Node α σ) (s0 : σ)
    (d : Draw α) :
    Part.newKids k p (nodeMapBox g nd) s0 (gd d) = (Part.newKids k p nd s0 d).map (nodeMapBox g) := by
  unfold Part.newKids
  apply List.ext_getElem?
  intro j
  simp only [nodeMapBox_box, hg.kids, hg.len, nodeMapBox_depth, nodeMapBox_index,
    List.getElem?_mapIdx, List.getElem?_map, Option.map_map]
  cases (childBoxes k nd.box d)[j]? with
  | none => rfl
  | some b => rfl

theorem makeChildren_map (hg : BoxEquivariant g gd) (P : Part α σ) (s0 : σ) (p : Nat) (nl : Bool)
    (d : Draw α) :
    (partMapBox g P).makeChildren s0 p nl (gd d) = mapRes1 (partMapBox g) (P.makeChildren s0 p nl d) := by
  unfold Part.makeChildren
  rw [partMapBox_getElem?]
  cases h : P.nodes[p]? with
  | none => rfl
  | some nd =>
    simp only [Option.map_some, partMapBox_kind, partMapBox_length, partMapBox_layers,
      partMapBox_depth, nodeMapBox_depth, newKids_map hg, List.length_map]
    cases nl with
    | true =>
      simp only [if_true, mapRes1, partMapBox, List.map_append, List.map_set]
      rfl
    | false =>
      simp only [Bool.false_eq_true, if_false]
      split
      · simp only [mapRes1, partMapBox, List.map_append, List.map_set]
        rfl
      · rfl

omit [Add α] [Sub α] [Mul α] [Div α] [OfNat α 2] [NatCast α] in
theorem popDraw_map (gd : Draw α → Draw α) (ds : List (Draw α)) :
    Part.popDraw (ds.map gd) = mapRes gd (List.map gd) (Part.popDraw ds) := by
  cases ds with
  | nil => rfl
  | cons d ds => rfl

theorem makeChildrenD_map (hg : BoxEquivariant g gd) (P : Part α σ) (s0 : σ) (p : Nat) (nl : Bool)
    (ds : List (Draw α)) :
    (partMapBox g P).makeChildrenD s0 p nl (ds.map gd) =
      mapRes (partMapBox g) (List.map gd) (P.makeChildrenD s0 p nl ds) :=
  mapRes_bind (popDraw_map gd ds) fun d _ =>
    mapRes1_bind (makeChildren_map hg P s0 p nl d) fun _ => rfl

theorem expand_map (hg : BoxEquivariant g gd) (P : Part α σ) (s0 : σ) (p : Nat)
    (ds : List (Draw α)) :
    (partMapBox g P).expand s0 p (ds.map gd) =
      mapRes (partMapBox g) (List.map gd) (P.expand s0 p ds) := by
  unfold Part.expand
  rw [partMapBox_getElem?]
  cases P.nodes[p]? with
  | none => rfl
  | some nd => exact makeChildrenD_map hg P s0 p _ ds

theorem deepenLoop_map (hg : BoxEquivariant g gd) (s0 : σ) (depth0 fuel i : Nat) (P : Part α σ)
    (ds : List (Draw α)) :
    Part.deepenLoop s0 depth0 fuel i (partMapBox g P) (ds.map gd) =
      mapRes (partMapBox g) (List.map gd) (Part.deepenLoop s0 depth0 fuel i P ds) := by
  induction fuel generalizing i P ds with
  | zero => rfl
  | succ fuel ih =>
    simp only [Part.deepenLoop, partMapBox_layers]
    cases P.layers[depth0]? with
    | none => rfl
    | some layer =>
      simp only []
      cases layer[i]? with
      | none => rfl
      | some p => exact mapRes_bind (makeChildrenD_map hg P s0 p (i == 0) ds) fun P' ds' => ih (i + 1) P' ds'

theorem deepen_map (hg : BoxEquivariant g gd) (P : Part α σ) (s0 : σ) (ds : List (Draw α)) :
    (partMapBox g P).deepen s0 (ds.map gd) =
      mapRes (partMapBox g) (List.map gd) (P.deepen s0 ds) := by
  unfold Part.deepen
  simp only [partMapBox_layers, partMapBox_depth]
  cases P.layers[P.depth]? with
  | none => rfl
  | some layer => exact deepenLoop_map hg s0 P.depth layer.length 0 P ds

end mk

/-! ### C14: what no partition operation changes

A relation between the tree before and after which is reflexive, transitive, kept by payload
updates and by `make_children` is kept by every compound operation (`Part.lift_expand`,
`Part.lift_deepen` for the partition operations); `BoxesKept` is one. -/

structure KeptByOps [Add α] [Sub α] [Mul α] [Div α] [OfNat α 2] [NatCast α]
    (K : Part α σ → Part α σ → Prop) : Prop where
  refl : ∀ P, K P P
  trans : ∀ P Q T, K P Q → K Q T → K P T
  modifySt : ∀ P i (f : σ → σ), K P (P.modifySt i f)
  makeChildren : ∀ (s0 : σ) (P P' : Part α σ) (p : Nat) (nl : Bool) (d : Draw α),
    P.makeChildren s0 p nl d = .ok P' → K P P'

theorem KeptByOps.foldl [Add α] [Sub α] [Mul α] [Div α] [OfNat α 2] [NatCast α]
    {K : Part α σ → Part α σ → Prop} (hK : KeptByOps K) {δ : Type} {step : Part α σ → δ → Part α σ}
    (h : ∀ P x, K P (step P x)) (l : List δ) (P : Part α σ) : K P (l.foldl step P) :=
  foldl_inv (K P) step l P (hK.refl P) fun Q x _ hQ => hK.trans _ _ _ hQ (h Q x)

theorem boxesKept_keptByOps [Add α] [Sub α] [Mul α] [Div α] [OfNat α 2] [NatCast α] :
    KeptByOps (BoxesKept (α := α) (σ := σ)) where
  refl := fun _ _ nd h => ⟨nd, h, rfl⟩
  trans := fun _ _ _ h1 h2 i nd h => by
    obtain ⟨nd', a, b⟩ := h1 i nd h
    obtain ⟨nd'', c, d⟩ := h2 i nd' a
    exact ⟨nd'', c, d.trans b⟩
  modifySt := fun P i f j nd h => ⟨_, Part.getElem?_modifySt_of h f, by split <;> rfl⟩
  makeChildren := fun s0 P P' p nl d h i x hi => by
    obtain ⟨nd, hp⟩ := Part.makeChildren_valid h
    exact ⟨_, Part.makeChildren_old hp h hi, by split <;> rfl⟩

end RL
end PyXAB
