/-
  POO over a field: with `upd v k r = (v·k + r)/(k+1)` and `zero = 0`, every score is the
  arithmetic mean of the rewards delivered to its learner.
-/
import Mathlib.Algebra.CharZero.Defs
import Mathlib.Algebra.Field.Basic
import PyXABProofs.Lemmas.MT_POORun

namespace PyXAB.MT
open PyXAB POO
variable {L α R S Pt ρ : Type}

theorem recvRewards_snoc (log : List (Entry R)) (e : Entry R) (j : Nat) :
    recvRewards (log ++ [e]) j = recvRewards log j ++ (if j = e.received then [e.r] else []) := by
  unfold recvRewards
  rw [List.filter_append, List.map_append]
  by_cases h : j = e.received
  · simp [h]
  · have : ¬ e.received = j := fun h' => h h'.symm
    simp [h, this]

theorem recvRewards_length (log : List (Entry R)) (j : Nat) :
    (recvRewards log j).length = recvCount log j := by
  unfold recvRewards recvCount
  rw [List.length_map, List.countP_eq_length_filter]

/-- the running-mean identity `(μ_k·k + r)/(k+1)·(k+1) = μ_k·k + r` -/
theorem mean_step [Field α] [CharZero α] (v r : α) (k : Nat) :
    (v * (k : α) + r) / ((k : α) + 1) * ((k + 1 : Nat) : α) = v * (k : α) + r := by
  rw [Nat.cast_succ]
  exact div_mul_cancel₀ _ (Nat.cast_add_one_ne_zero k)

/-- `score · count` grows by the sum of the rewards delivered. -/
theorem run_scores [Field α] [CharZero α] {ops : LearnerOps L α α Pt ρ} {cfg : POOCfg α α ρ}
    (hupd : ∀ v k r, cfg.upd v k r = (v * (k : α) + r) / ((k : α) + 1)) (hz : cfg.zero = 0)
    {s s' : POO L α} {xs : List (RoundIn α α)} {log : List (Entry α)} (hI : Inv cfg s)
    (h : run ops cfg s xs = .ok (s', log)) :
    ∀ j, (s'.V[j]?).getD 0 * (((s'.times[j]?).getD 0 : Nat) : α) =
      (s.V[j]?).getD 0 * (((s.times[j]?).getD 0 : Nat) : α) + (recvRewards log j).sum := by
  refine run_induction
    (J := fun s1 log1 => ∀ j, (s1.V[j]?).getD 0 * (((s1.times[j]?).getD 0 : Nat) : α) =
      (s.V[j]?).getD 0 * (((s.times[j]?).getD 0 : Nat) : α) + (recvRewards log1 j).sum)
    (fun s1 log1 x s2 e pt hI1 hJ hr j => ?_) hI (fun j => (add_zero _).symm) h
  obtain ⟨-, hsame, her, -⟩ := round_spec hI1 hr
  obtain ⟨ht, hv1, hv2, -⟩ := round_lists hI1 hr
  rw [hz] at hv1 hv2
  rw [recvRewards_snoc, hsame, ht]
  by_cases hj : j = e.served
  · subst hj
    rw [hv2, if_pos rfl, if_pos rfl, List.sum_append, List.sum_singleton, ← add_assoc, ← hJ, her,
      Option.getD_some, hupd, mean_step]
  · rw [hv1 j hj, if_neg hj, if_neg hj, List.append_nil, Nat.add_zero]
    exact hJ j

end PyXAB.MT
