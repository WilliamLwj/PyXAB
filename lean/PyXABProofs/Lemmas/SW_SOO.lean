/-
  SOO: the layer scan, one sweep, the sweeps of a `pull`.
-/
import PyXABProofs.Lemmas.SW_Vis
import PyXABProofs.Lemmas.SW_Erase

set_option linter.unusedSectionVars false

namespace PyXAB
namespace SOO
open Tree TBA SW

variable {α S : Type} [Add α] [Sub α] [Mul α] [Div α] [OfNat α 2] [NatCast α]
variable [LinearOrder S] [Inhabited S]

/-- `SOO.scan` returns the first unevaluated leaf of the list if there is one, and otherwise the
running last maximum of the stored rewards of the leaves. -/
theorem scan_eq (P : Part α (SwSt S)) (l : List Nat) (maxv : S) (maxn : Option Nat) :
    scan P l maxv maxn =
      match l.find? (unvisitedLeaf P) with
      | some id => .found id
      | none => .best (amFold (leafScore P (·.reward)) l (maxv, maxn)).1
          (amFold (leafScore P (·.reward)) l (maxv, maxn)).2 := by
  fun_induction scan P l maxv maxn
  case case1 => rfl
  case case2 hn ih => simp [ih, unvisitedLeaf, leafTest_none hn, leafScore_none hn, amStep]
  case case3 nd hn hl hv => simp [unvisitedLeaf, leafTest_at hn, hl, hv]
  case case4 nd hn hl hv hc ih =>
    simp [ih, unvisitedLeaf, leafTest_at hn, leafScore_at hn, amStep, hl, hv, hc]
  case case5 nd hn hl hv hc ih =>
    simp [ih, unvisitedLeaf, leafTest_at hn, leafScore_at hn, amStep, hl, hv, hc]
  case case6 nd hn hl ih =>
    simp [ih, unvisitedLeaf, leafTest_at hn, leafScore_at hn, amStep, hl]

theorem scan_found_iff {P : Part α (SwSt S)} {l : List Nat} {maxv : S} {maxn : Option Nat}
    {v : Nat} : scan P l maxv maxn = .found v ↔ l.find? (unvisitedLeaf P) = some v := by
  rw [scan_eq]; cases l.find? (unvisitedLeaf P) <;> simp

theorem scan_best_iff {P : Part α (SwSt S)} {l : List Nat} {maxv x : S} {maxn mn : Option Nat} :
    scan P l maxv maxn = .best x mn ↔ l.find? (unvisitedLeaf P) = none ∧
      amFold (leafScore P (·.reward)) l (maxv, maxn) = (x, mn) := by
  rw [scan_eq]; cases l.find? (unvisitedLeaf P) <;> simp [Prod.ext_iff]

theorem all_visited_of_find {P : Part α (SwSt S)} {l : List Nat}
    (hf : l.find? (unvisitedLeaf P) = none) : ∀ w ∈ l, unvisitedLeaf P w = false :=
  fun w hw => by simpa using List.find?_eq_none.1 hf w hw

/-- What a successful sweep started at layer `h` with threshold `vmax` guarantees
(`Pb` = the tree at the end of the sweep, before the handed-out cell is marked). -/
structure SweepPost (negInf : S) (hmax h : Nat) (vmax : S) (P : Part α (SwSt S))
    (ds : List (Draw α)) (P' : Part α (SwSt S)) (ds' : List (Draw α)) (r : Option Nat)
    (tr : List (Ev α (SwSt S) S)) (Pb : Part α (SwSt S)) : Prop where
  ext : Ext (· = ·) (st0 negInf) P Pb
  pinv : PInv negInf Pb
  len : tr.length ≤ ds.length
  drop : ds' = ds.drop tr.length
  evs : ∀ ev ∈ tr, EvOK negInf hmax ev ∧ h ≤ ev.h ∧ vmax ≤ ev.score ∧
    Ext (· = ·) (st0 negInf) P ev.before
  mono : TraceMono tr
  fin : SweepEnd hmax h Pb P' r

theorem SweepEnd.weaken {hmax h : Nat} {Pb P' : Part α (SwSt S)} {r : Option Nat}
    (hE : SweepEnd hmax (h + 1) Pb P' r) : SweepEnd hmax h Pb P' r := by
  cases r with
  | none => exact hE
  | some v =>
    obtain ⟨h1, hv, l, h2, h3⟩ := hE
    exact ⟨h1, hv, l, Nat.le_of_succ_le h2, h3⟩

theorem SweepPost.weaken {negInf : S} {hmax h : Nat} {vmax : S} {P P' Pb : Part α (SwSt S)}
    {ds ds' : List (Draw α)} {r : Option Nat} {tr : List (Ev α (SwSt S) S)}
    (hp : SweepPost negInf hmax (h + 1) vmax P ds P' ds' r tr Pb) :
    SweepPost negInf hmax h vmax P ds P' ds' r tr Pb :=
  ⟨hp.ext, hp.pinv, hp.len, hp.drop,
    fun ev hev => by
      obtain ⟨a, b, c⟩ := hp.evs ev hev
      exact ⟨a, Nat.le_of_succ_le b, c⟩,
    hp.mono, hp.fin.weaken⟩

theorem sweepT_spec (negInf : S) (hbot : ∀ x, negInf ≤ x) (hmax : Nat) (fuel h : Nat) (vmax : S)
    (P : Part α (SwSt S)) (ds : List (Draw α)) {P' : Part α (SwSt S)} {ds' : List (Draw α)}
    {r : Option Nat} {tr : List (Ev α (SwSt S) S)} (hI : PInv negInf P)
    (hds : ∀ d ∈ ds, DrawOKLen P.kind (dimn P) d) (hlow : LowVisited P h)
    (hrun : sweepT negInf hmax fuel h vmax P ds = .ok (P', ds', r, tr)) :
    ∃ Pb, SweepPost negInf hmax h vmax P ds P' ds' r tr Pb := by
  fun_induction sweepT negInf hmax fuel h vmax P ds generalizing P' ds' r tr
  case case1 | case2 | case4 | case5 => cases hrun
  case case3 fuel h vmax P ds hh l hl v hsc =>
    cases hrun
    exact ⟨P, Ext.refl_eq _ P, hI, Nat.zero_le _, rfl, by simp, List.Pairwise.nil,
      rfl, h, l, Nat.le_refl _, hh, hl, scan_found_iff.1 hsc, hlow⟩
  case case9 fuel h vmax P ds hh =>
    cases hrun
    exact ⟨P, Ext.refl_eq _ P, hI, Nat.zero_le _, rfl, by simp, List.Pairwise.nil,
      rfl, hlow.mono (Nat.lt_of_not_le hh)⟩
  case case7 fuel h vmax P ds hh l hl x hc hsc ih =>
    obtain ⟨Pb, hp⟩ := ih hI hds (hlow.succ hl (all_visited_of_find (scan_best_iff.1 hsc).1)) hrun
    exact ⟨Pb, hp.weaken⟩
  case case8 fuel h vmax P ds hh l hl x mn hsc hc ih =>
    obtain ⟨Pb, hp⟩ := ih hI hds (hlow.succ hl (all_visited_of_find (scan_best_iff.1 hsc).1)) hrun
    exact ⟨Pb, hp.weaken⟩
  case case6 fuel h vmax P ds hh l hl x hc m P1 ds1 hmk P2 ds2 r2 tr2 hrec hsc ih =>
    cases hrun
    obtain ⟨hf, hacc⟩ := scan_best_iff.1 hsc
    have hall := all_visited_of_find hf
    have hlow' : LowVisited P (h + 1) := hlow.succ hl hall
    -- the expanded cell is the last leaf of maximal reward of the layer
    have hmax' : IsLastMax _ l m x := amFold_bot hbot hacc
    obtain ⟨nd, hm, hleaf, hx, hdep⟩ := hmax'.node_of_layer hI.wf hl
    have hvis : nd.st.visited = true :=
      unvisitedLeaf_eq_false_iff.1 (hall m hmax'.mem) nd hm hleaf
    obtain ⟨⟨d, rfl⟩, St, W1, hK, hE1, hds1⟩ := expand_ok (ρ := (· = ·)) (fun _ => rfl) hI.wf hm
      hleaf (by rw [hdep]) hds hmk
    obtain ⟨Pb, hp⟩ := ih (hI.step St hm hleaf hvis (fun _ => rfl) hK) hds1
      (hlow'.step St hI.wf hm hdep) hrec
    refine ⟨Pb, hE1.trans_eq hp.ext, hp.pinv, Nat.succ_le_succ hp.len, hp.drop, ?_, ?_,
      hp.fin.weaken⟩
    · intro ev hev
      rcases List.mem_cons.1 hev with rfl | hev
      · exact ⟨⟨hI, hh, ⟨l, hl, hmax'⟩, ⟨nd, hm, hleaf, hvis, hx, hdep⟩, hlow'⟩, Nat.le_refl _,
          hc, Ext.refl_eq _ P⟩
      · obtain ⟨a, b, c, e⟩ := hp.evs ev hev
        exact ⟨a, Nat.le_of_succ_le b, le_trans hc c, hE1.trans_eq e⟩
    · refine List.Pairwise.cons ?_ hp.mono
      intro ev hev
      obtain ⟨_, b, c, _⟩ := hp.evs ev hev
      exact ⟨b, c⟩

/-- What a successful `pull` guarantees (`Pb` = the tree before the handed-out cell `v` is
marked, `trs` = the expansion events, one list per sweep). -/
structure PullPost (negInf : S) (hmax : Nat) (P : Part α (SwSt S))
    (ds : List (Draw α)) (P' : Part α (SwSt S)) (ds' : List (Draw α)) (v : Nat)
    (trs : List (List (Ev α (SwSt S) S))) (Pb : Part α (SwSt S)) : Prop where
  ext : Ext (· = ·) (st0 negInf) P Pb
  pinv : PInv negInf Pb
  len : trs.flatten.length ≤ ds.length
  drop : ds' = ds.drop trs.flatten.length
  evs : ∀ tr ∈ trs, TraceMono tr ∧
    ∀ ev ∈ tr, EvOK negInf hmax ev ∧ Ext (· = ·) (st0 negInf) P ev.before
  marked : P' = mark Pb v
  first : firstUnvisited Pb = some v
  node : ∃ nd, Pb.nodes[v]? = some nd ∧ nd.children = none ∧ nd.st.visited = false ∧
    nd.depth ≤ hmax

theorem sweepsT_spec (negInf : S) (hbot : ∀ x, negInf ≤ x) (hmax : Nat) (fuel : Nat)
    (P : Part α (SwSt S)) (ds : List (Draw α)) {P' : Part α (SwSt S)} {ds' : List (Draw α)}
    {v : Nat} {trs : List (List (Ev α (SwSt S) S))} (hI : PInv negInf P)
    (hds : ∀ d ∈ ds, DrawOKLen P.kind (dimn P) d)
    (hrun : sweepsT negInf hmax fuel P ds = .ok (P', ds', v, trs)) :
    ∃ Pb, PullPost negInf hmax P ds P' ds' v trs Pb := by
  fun_induction sweepsT negInf hmax fuel P ds generalizing P' ds' v trs
  case case1 | case2 | case4 => cases hrun
  case case3 fuel P ds P1 ds1 id tr hsw =>
    cases hrun
    obtain ⟨Pb, hp⟩ := sweepT_spec negInf hbot hmax _ 0 negInf P ds hI hds (LowVisited.zero P) hsw
    obtain ⟨hmk, hv, l, _, h2, h3, h4, h5⟩ := hp.fin
    obtain ⟨nd, n1, n2, n3⟩ := unvisitedLeaf_eq_true_iff.1 (List.find?_some h4)
    obtain ⟨nd', n1', n4⟩ := (hp.pinv.wf.mem_layer_iff h3 _).1 (List.mem_of_find?_eq_some h4)
    obtain rfl := getElem?_inj n1 n1'
    refine ⟨Pb, hp.ext, hp.pinv, by simpa using hp.len, by simpa using hp.drop, ?_, hmk,
      firstUnvisited_of_layer h5 h3 h4, nd, n1, n2, n3, by omega⟩
    intro tr' htr'
    obtain rfl : tr' = tr := by simpa using htr'
    exact ⟨hp.mono, fun ev hev => ⟨(hp.evs ev hev).1, (hp.evs ev hev).2.2.2⟩⟩
  case case5 fuel P ds P1 ds1 tr hsw P2 ds2 id trs2 hrec ih =>
    cases hrun
    obtain ⟨Pb1, hp⟩ := sweepT_spec negInf hbot hmax _ 0 negInf P ds hI hds (LowVisited.zero P) hsw
    obtain ⟨rfl, _⟩ := hp.fin
    have hds1 : ∀ d' ∈ ds1, DrawOKLen P1.kind (dimn P1) d' := by
      intro d' hd'
      rw [hp.ext.kind, hp.ext.dimn]
      rw [hp.drop] at hd'
      exact hds d' (List.mem_of_mem_drop hd')
    obtain ⟨Pb, hq⟩ := ih hp.pinv hds1 hrec
    have hl1 := hp.len
    have hl2 := hq.len
    have hd1 := hp.drop
    refine ⟨Pb, hp.ext.trans_eq hq.ext, hq.pinv, ?_, ?_, ?_, hq.marked, hq.first, hq.node⟩
    · rw [hd1, List.length_drop] at hl2
      simp only [List.flatten_cons, List.length_append]; omega
    · rw [hq.drop, hd1, List.drop_drop]
      simp only [List.flatten_cons, List.length_append]
    · intro tr' htr'
      rcases List.mem_cons.1 htr' with rfl | htr'
      · exact ⟨hp.mono, fun ev hev => ⟨(hp.evs ev hev).1, (hp.evs ev hev).2.2.2⟩⟩
      · obtain ⟨a, b⟩ := hq.evs tr' htr'
        exact ⟨a, fun ev hev => ⟨(b ev hev).1, hp.ext.trans_eq (b ev hev).2⟩⟩

theorem pullT_spec (negInf : S) (hbot : ∀ x, negInf ≤ x) {s s' : SOO α S} {time : Nat}
    {ds ds' : List (Draw α)} {v : Nat} {trs : List (List (Ev α (SwSt S) S))}
    (hI : Inv negInf s) (hds : ∀ d ∈ ds, DrawOKLen s.P.kind (dimn s.P) d)
    (hrun : pullT negInf s time ds = .ok (s', ds', v, trs)) :
    (∃ Pb, PullPost negInf s.hmax s.P ds s'.P ds' v trs Pb) ∧ Inv negInf s' ∧
      s'.curr = some v ∧ s'.hmax = s.hmax ∧ s'.iteration = time ∧
      s'.P.kind = s.P.kind ∧ dimn s'.P = dimn s.P := by
  unfold pullT at hrun
  cases hsw : sweepsT negInf s.hmax (s.P.nodes.length + 3) s.P ds with
  | error e => rw [hsw] at hrun; cases hrun
  | ok res =>
    obtain ⟨P1, ds1, id, trs1⟩ := res
    rw [hsw] at hrun
    cases hrun
    obtain ⟨Pb, hp⟩ := sweepsT_spec negInf hbot s.hmax _ s.P ds hI.pinv hds hsw
    obtain ⟨nd, n1, _⟩ := hp.node
    obtain ⟨a, b, c, d⟩ := hp.pinv.handout n1
    have hm := hp.marked
    subst hm
    exact ⟨⟨Pb, hp⟩, ⟨a, b⟩, rfl, rfl, rfl, c.trans hp.ext.kind, d.trans hp.ext.dimn⟩

theorem sweepT_found (negInf : S) (hmax : Nat) {fuel : Nat} (hfuel : 0 < fuel) (h : Nat)
    (vmax : S) (P : Part α (SwSt S)) (ds : List (Draw α)) {l : List Nat} {v : Nat}
    (hh : h ≤ min P.depth hmax) (hl : P.layers[h]? = some l)
    (hf : l.find? (unvisitedLeaf P) = some v) :
    sweepT negInf hmax fuel h vmax P ds = .ok (mark P v, ds, some v, []) := by
  obtain ⟨fuel, rfl⟩ := Nat.exists_eq_add_one_of_ne_zero (Nat.pos_iff_ne_zero.1 hfuel)
  rw [sweepT, if_pos hh, hl]
  dsimp only
  rw [scan_found_iff.2 hf]

theorem sweepT_expand_found (negInf : S) (hbot : ∀ x, negInf ≤ x) (hmax : Nat) {fuel h : Nat}
    {P : Part α (SwSt S)} {ds : List (Draw α)} {l : List Nat} {x : S} {m : Nat}
    (hI : PInv negInf P) (hcap : P.depth < hmax) (hfuel : 0 < fuel) (hlen : 1 ≤ ds.length)
    (hds : ∀ d ∈ ds, DrawOKLen P.kind (dimn P) d) (hl : P.layers[h]? = some l)
    (hsc : scan P l negInf none = .best x (some m)) :
    ∃ P1 ds1 v, P.makeChildrenD (st0 negInf) m (decide (h ≥ P.depth)) ds = .ok (P1, ds1) ∧
      sweepT negInf hmax fuel (h + 1) x P1 ds1 = .ok (mark P1 v, ds1, some v, []) ∧
      P1.depth ≤ P.depth + 1 := by
  obtain ⟨nd, hm, hleaf, _, hdep⟩ :=
    IsLastMax.node_of_layer hI.wf hl (amFold_bot hbot (scan_best_iff.1 hsc).2)
  obtain ⟨d, ds0, P1, rfl, hmk, St, W1, hK⟩ := expand_total hI.wf (st0 negInf) hm hleaf
    (fl := decide (h ≥ P.depth)) (by rw [hdep]) hlen hds
  obtain ⟨l1, hl1, hmem, hun, hd2, hd1⟩ := Step_new_unvisited St hI.wf hK rfl
  rw [hdep] at hl1 hd2
  obtain ⟨v, hfv⟩ := Option.isSome_iff_exists.1
    (List.find?_isSome.2 ⟨_, hmem, hun⟩ : (l1.find? (unvisitedLeaf P1)).isSome = true)
  exact ⟨P1, ds0, v, hmk, sweepT_found negInf hmax hfuel (h + 1) x P1 ds0 (by omega) hl1 hfv, hd1⟩

/-- A sweep started with a bottom threshold below the depth cap hands out a cell: it meets an
unevaluated leaf, or it expands the best leaf of a layer and meets one of its children. -/
theorem sweepT_total (negInf : S) (hbot : ∀ x, negInf ≤ x) (hmax : Nat) (fuel h : Nat)
    (vmax : S) (P : Part α (SwSt S)) (ds : List (Draw α)) (hv : ∀ x, vmax ≤ x)
    (hI : PInv negInf P) (hcap : P.depth < hmax) (hh : h ≤ P.depth)
    (hf : P.depth - h + 2 ≤ fuel) (hlen : 1 ≤ ds.length)
    (hds : ∀ d ∈ ds, DrawOKLen P.kind (dimn P) d) :
    ∃ P' ds' v tr, sweepT negInf hmax fuel h vmax P ds = .ok (P', ds', some v, tr) ∧
      P'.depth ≤ P.depth + 1 := by
  fun_induction sweepT negInf hmax fuel h vmax P ds
  case case1 => omega
  case case2 fuel h vmax P ds _ hl =>
    obtain ⟨l, hl'⟩ := hI.wf.layer_exists hh
    rw [hl] at hl'; cases hl'
  case case3 => exact ⟨_, _, _, _, rfl, Nat.le_succ _⟩
  case case8 hc _ => exact absurd (hv _) hc
  case case9 hh' => exact absurd (by omega) hh'
  case case7 fuel h vmax P ds _ l hl x hc hsc ih =>
    -- no leaf in this layer: it is not the deepest one
    have hlt := lt_depth_of_all_none hI.wf hh hl (amFold_bot hbot (scan_best_iff.1 hsc).2)
    exact ih hv hI hcap (by omega) (by omega) hlen hds
  case case4 fuel h vmax P ds _ l hl x hc m e hmk hsc =>
    obtain ⟨P1, ds1, v, hmk', _⟩ := sweepT_expand_found negInf hbot hmax (fuel := fuel + 1) hI hcap
      (Nat.succ_pos _) hlen hds hl hsc
    rw [hmk] at hmk'; cases hmk'
  case case5 fuel h vmax P ds _ l hl x hc m P1 ds1 hmk e hrec hsc _ =>
    obtain ⟨P1', ds1', v, hmk', e', _⟩ := sweepT_expand_found negInf hbot hmax (fuel := fuel) hI hcap
      (by omega) hlen hds hl hsc
    rw [hmk] at hmk'; cases hmk'
    rw [hrec] at e'; cases e'
  case case6 fuel h vmax P ds _ l hl x hc m P1 ds1 hmk P2 ds2 r2 tr2 hrec hsc _ =>
    obtain ⟨P1', ds1', v, hmk', e', hd⟩ := sweepT_expand_found negInf hbot hmax (fuel := fuel) hI hcap
      (by omega) hlen hds hl hsc
    rw [hmk] at hmk'; cases hmk'
    rw [hrec] at e'; cases e'
    exact ⟨_, _, v, _, rfl, hd⟩

theorem pullT_total (negInf : S) (hbot : ∀ x, negInf ≤ x) {s : SOO α S} (time : Nat)
    {ds : List (Draw α)} (hI : Inv negInf s) (hcap : s.P.depth < s.hmax)
    (hlen : 1 ≤ ds.length) (hds : ∀ d ∈ ds, DrawOKLen s.P.kind (dimn s.P) d) :
    ∃ s' ds' v trs, pullT negInf s time ds = .ok (s', ds', v, trs) ∧
      s'.P.depth ≤ s.P.depth + 1 := by
  obtain ⟨P', ds', v, tr, e, hd⟩ := sweepT_total negInf hbot s.hmax (s.P.depth + 3) 0 negInf s.P
    ds hbot hI.pinv hcap (Nat.zero_le _) (by omega) hlen hds
  refine ⟨{ s with P := P', iteration := time, curr := some v }, ds', v, [tr], ?_, hd⟩
  unfold pullT sweepsT
  simp only [e]

end SOO
end PyXAB
