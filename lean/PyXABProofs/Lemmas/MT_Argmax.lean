/-
  `argmaxFirst` (the model of `np.argmax`) over a linear order: it returns the first index of a
  maximal element, and fails exactly on the empty list.
-/
import Mathlib.Order.Defs.LinearOrder
import PyXABProofs.Lemmas.MT_ArgmaxCore
import PyXABProofs.Lemmas.MT_Run

namespace PyXAB.MT
open PyXAB

variable {S : Type}

section
variable [LinearOrder S]

/-- invariant of the loop: `(pre.length - 1, bi, bv)` where `bi` is the first maximiser of `pre` -/
theorem foldl_amStep_spec (xs : List S) : ∀ (pre : List S) (bi : Nat) (bv : S), pre[bi]? = some bv →
    (∀ (j : Nat) w, pre[j]? = some w → w ≤ bv) → (∀ (j : Nat) w, j < bi → pre[j]? = some w → w < bv) →
    IsFirstMax (pre ++ xs) (xs.foldl amStep (pre.length - 1, bi, bv)).2.1 := by
  induction xs with
  | nil =>
    intro pre bi bv h1 h2 h3
    rw [List.append_nil]
    exact ⟨bv, h1, h2, h3⟩
  | cons y ys ih =>
    intro pre bi bv h1 h2 h3
    have hbi : bi < pre.length := (List.getElem?_eq_some_iff.mp h1).1
    have hlen : pre.length - 1 + 1 = (pre ++ [y]).length - 1 := by
      rw [List.length_append, List.length_singleton]; omega
    have hlast : (pre ++ [y]).length - 1 = pre.length := by rw [List.length_append]; rfl
    rw [List.foldl_cons, List.append_cons, amStep]
    by_cases hlt : bv < y
    · -- `y` is the new, strict, maximum
      rw [if_pos hlt, hlen]
      refine ih _ _ _ (hlast ▸ List.getElem?_concat_length) (fun j w hj => ?_) (fun j w hjl hj => ?_)
      · rcases getElem?_concat_cases hj with hj | ⟨-, rfl⟩
        · exact le_of_lt (lt_of_le_of_lt (h2 j w hj) hlt)
        · exact le_refl _
      · rcases getElem?_concat_cases hj with hj | ⟨rfl, -⟩
        · exact lt_of_le_of_lt (h2 j w hj) hlt
        · exact absurd (hlast ▸ hjl) (Nat.lt_irrefl _)
    · rw [if_neg hlt, hlen]
      refine ih _ _ _ (getElem?_concat_of_some h1 y) (fun j w hj => ?_) (fun j w hjl hj => ?_)
      · rcases getElem?_concat_cases hj with hj | ⟨-, rfl⟩
        · exact h2 j w hj
        · exact not_lt.mp hlt
      · rcases getElem?_concat_cases hj with hj | ⟨rfl, -⟩
        · exact h3 j w hjl hj
        · exact absurd (Nat.lt_trans hjl hbi) (Nat.lt_irrefl _)

/-- `argmaxFirst` returns the first index of a maximal element -/
theorem argmaxFirst_spec {V : List S} {i : Nat} (h : argmaxFirst V = some i) : IsFirstMax V i := by
  cases V with
  | nil => cases h
  | cons x xs =>
    rw [argmaxFirst_cons] at h
    cases h
    have := foldl_amStep_spec xs [x] 0 x (by simp) (by
      intro j w hj
      rw [List.getElem?_singleton] at hj
      split at hj
      · cases hj; exact le_refl _
      · cases hj) (by intro j w hj; omega)
    simpa using this

theorem isFirstMax_unique {V : List S} {i j : Nat} (hi : IsFirstMax V i) (hj : IsFirstMax V j) : i = j := by
  obtain ⟨v, hv, hv1, hv2⟩ := hi
  obtain ⟨w, hw, hw1, hw2⟩ := hj
  rcases Nat.lt_trichotomy i j with h | h | h
  · exact absurd (hw2 i v h hv) (not_lt.mpr (hv1 j w hw))
  · exact h
  · exact absurd (hv2 j w h hw) (not_lt.mpr (hw1 i v hv))

end
end PyXAB.MT
