/-
  Counting the opened cells of a SequOOL tree over all depths, and the created cells against
  the opened ones (every non-root cell is one of the `K` children of an opened cell).
-/
import Mathlib.Algebra.BigOperators.Group.Finset.Basic
import Mathlib.Algebra.BigOperators.Intervals
import Mathlib.Algebra.Order.BigOperators.Group.Finset
import Mathlib.Order.Interval.Finset.Nat
import Mathlib.Data.Finset.Card
import Mathlib.Algebra.Group.Action.Defs
import Mathlib.Data.List.Range
import PyXABProofs.Lemmas.SQ_Tree

set_option linter.unusedSectionVars false
set_option linter.unusedVariables false

namespace PyXAB
namespace SQ
namespace Budget
open Tree Finset

variable {α σ : Type}

/-- the cell `id` exists and is not the root level: its depth is `≥ 1` -/
def isDeep (P : Part α σ) (id : Nat) : Bool :=
  match P.nodes[id]? with
  | some nd => decide (1 ≤ nd.depth)
  | none => false

/-- number of expanded cells of depth `≥ 1` in the whole tree: cells which have a child list
(`isExp`: their opening has at least started).  This is not the payload flag `opened`, which is set
only when all children of the cell have been handed out. -/
def openedCount (P : Part α σ) : Nat :=
  (List.range P.nodes.length).countP (fun i => isDeep P i && isExp P i)

/-- number of cells with a child list (`isExp`) in the whole tree, the root included -/
def expTotal (P : Part α σ) : Nat := (List.range P.nodes.length).countP (isExp P)

theorem sum_countP_depth {ι : Type} (l : List ι) (d : ι → Option Nat) (e : ι → Bool) (m : Nat) :
    ∑ h ∈ Icc 1 m, l.countP (fun i => d i == some h && e i) =
      l.countP (fun i => (match d i with
        | some k => decide (1 ≤ k ∧ k ≤ m)
        | none => false) && e i) := by
  induction l with
  | nil => simp
  | cons a l ih =>
    simp only [List.countP_cons, Finset.sum_add_distrib, ih]
    congr 1
    cases hd : d a with
    | none => simp
    | some k =>
      cases e a
      · simp
      · by_cases hk : 1 ≤ k ∧ k ≤ m
        · have : k ∈ Icc 1 m := Finset.mem_Icc.2 hk
          simp [hk, this]
        · have : k ∉ Icc 1 m := fun h => hk (Finset.mem_Icc.1 h)
          simp [hk, this]

/-- if no cell deeper than `m` has been opened, the opened cells of depth `≥ 1` are those of
the depths `1 … m` -/
theorem openedCount_eq_sum {P : Part α σ} (W : WF P) (m : Nat)
    (hm : ∀ (i : Nat) (nd : Node α σ), P.nodes[i]? = some nd → nd.children ≠ none →
      nd.depth ≤ m) :
    openedCount P = ∑ h ∈ Icc 1 m, expCount P h := by
  simp only [expCount_countP W]
  rw [sum_countP_depth, openedCount]
  apply List.countP_congr
  intro i _
  unfold isDeep isExp
  cases hi : P.nodes[i]? with
  | none => simp
  | some nd =>
    cases hc : nd.children with
    | none => simp [hc]
    | some cs =>
      have := hm i nd hi (by simp [hc])
      simp [hc, this]

/-- the children of the cell `p`, as a finite set -/
def childSet (P : Part α σ) (p : Nat) : Finset Nat :=
  match P.nodes[p]? with
  | some nd => (nd.children.getD []).toFinset
  | none => ∅

theorem childSet_card_le {P : Part α σ} (W : WF P) (p : Nat) : (childSet P p).card ≤ K P := by
  unfold childSet
  cases hp : P.nodes[p]? with
  | none => simp
  | some nd =>
    cases hc : nd.children with
    | none => simp [hc]
    | some cs =>
      obtain ⟨_, a, _, rfl, _⟩ := W.children p nd cs hp hc
      simpa [hc] using List.toFinset_card_le (List.range' a (K P))

/-- **every cell but the root is a child of an opened cell**, and an opened cell has `K`
children: the arena has at most `1 + K * (number of opened cells)` cells -/
theorem nodes_le_expTotal {P : Part α σ} (W : WF P) :
    P.nodes.length ≤ 1 + K P * expTotal P := by
  set N := P.nodes.length with hN
  let E : Finset Nat := (Finset.range N).filter (fun i => isExp P i = true)
  have hE : E.card = expTotal P := by
    unfold expTotal
    rw [List.countP_eq_length_filter, ← List.toFinset_card_of_nodup
      (List.nodup_range.filter _)]
    congr 1
    ext i
    simp [E, hN]
  have hsub : Finset.Ico 1 N ⊆ E.biUnion (childSet P) := by
    intro c hc
    rw [Finset.mem_Ico] at hc
    obtain ⟨p, pn, cs, _, p2, p3, p4, p5, _⟩ :=
      W.parent c _ hc.1 (List.getElem?_eq_getElem hc.2)
    rw [Finset.mem_biUnion]
    refine ⟨p, ?_, ?_⟩
    · simp only [E, Finset.mem_filter, Finset.mem_range]
      exact ⟨by omega, isExp_eq_true.2 ⟨pn, cs, p3, p4⟩⟩
    · simp [childSet, p3, p4, p5]
  have h1 : (Finset.Ico 1 N).card ≤ (E.biUnion (childSet P)).card := Finset.card_le_card hsub
  have h2 : (E.biUnion (childSet P)).card ≤ ∑ p ∈ E, (childSet P p).card :=
    Finset.card_biUnion_le
  have h3 : ∑ p ∈ E, (childSet P p).card ≤ E.card • K P :=
    Finset.sum_le_card_nsmul _ _ _ (fun p _ => childSet_card_le W p)
  rw [Nat.card_Ico] at h1
  rw [hE, smul_eq_mul, Nat.mul_comm] at h3
  omega

/-- the root is the only opened cell of depth `0` -/
theorem expTotal_le {P : Part α σ} (W : WF P) : expTotal P ≤ 1 + openedCount P := by
  unfold expTotal openedCount
  have hpos := W.length_pos
  obtain ⟨n, hn⟩ : ∃ n, P.nodes.length = n + 1 := ⟨P.nodes.length - 1, by omega⟩
  rw [hn, List.range_succ_eq_map, List.countP_cons, List.countP_cons]
  have : List.countP (isExp P) (List.map Nat.succ (List.range n)) ≤
      List.countP (fun i => isDeep P i && isExp P i) (List.map Nat.succ (List.range n)) := by
    apply Nat.le_of_eq
    apply List.countP_congr
    intro i hi
    rw [List.mem_map] at hi
    obtain ⟨j, hj, rfl⟩ := hi
    rw [List.mem_range] at hj
    have hlt : j + 1 < P.nodes.length := by omega
    have hd := W.depth_pos_of_pos (Nat.succ_pos j) (List.getElem?_eq_getElem hlt)
    have : isDeep P (j + 1) = true := by
      unfold isDeep
      rw [List.getElem?_eq_getElem hlt]
      simpa using Nat.succ_le_of_lt hd
    simp [this]
  split <;> split <;> omega

end Budget
end SQ
end PyXAB
