/-
  Erasure: forgetting the expansion events of the instrumented loops gives back the model
  functions `SOO.pull`, `DOO.pull`, `StoSOO.pull`.
-/
import PyXABProofs.Spec.SweepSpec

set_option linter.unusedSectionVars false

namespace PyXAB
open SW

theorem SW.map_erase_ok_iff {A B C D : Type} (x : Except Err (A × B × C × D)) (a : A) (b : B)
    (c : C) :
    x.map (fun y => (y.1, y.2.1, y.2.2.1)) = .ok (a, b, c) ↔ ∃ d, x = .ok (a, b, c, d) := by
  cases x with
  | error e => exact ⟨fun h => (nomatch h), fun ⟨_, h⟩ => (nomatch h)⟩
  | ok r =>
    obtain ⟨a', b', c', d'⟩ := r
    constructor
    · intro h; cases h; exact ⟨d', rfl⟩
    · rintro ⟨d, h⟩; cases h; rfl

namespace SOO
variable {α S : Type} [Add α] [Sub α] [Mul α] [Div α] [OfNat α 2] [NatCast α]
variable [LinearOrder S] [Inhabited S]

theorem sweep_eq (negInf : S) (hmax : Nat) (fuel h : Nat) (vmax : S) (P : Part α (SwSt S))
    (ds : List (Draw α)) :
    sweep negInf hmax fuel h vmax P ds =
      (sweepT negInf hmax fuel h vmax P ds).map (fun x => (x.1, x.2.1, x.2.2.1)) := by
  induction fuel generalizing h vmax P ds with
  | zero => rfl
  | succ fuel ih =>
    rw [sweep, sweepT]
    by_cases hh : h ≤ min P.depth hmax
    · rw [if_pos hh, if_pos hh]
      cases P.layers[h]? with
      | none => rfl
      | some layer =>
        dsimp only
        cases scan P layer negInf none with
        | found id => rfl
        | best maxv maxn =>
          dsimp only
          by_cases hc : vmax ≤ maxv
          · rw [if_pos hc, if_pos hc]
            cases maxn with
            | none => exact ih _ _ _ _
            | some m =>
              dsimp only [bind, Except.bind]
              cases P.makeChildrenD (st0 negInf) m (decide (h ≥ P.depth)) ds with
              | error e => rfl
              | ok r =>
                obtain ⟨P', ds'⟩ := r
                dsimp only
                rw [ih]
                cases sweepT negInf hmax fuel (h + 1) maxv P' ds' <;> rfl
          · rw [if_neg hc, if_neg hc]; exact ih _ _ _ _
    · rw [if_neg hh, if_neg hh]; rfl

theorem sweeps_eq (negInf : S) (hmax : Nat) (fuel : Nat) (P : Part α (SwSt S))
    (ds : List (Draw α)) :
    sweeps negInf hmax fuel P ds =
      (sweepsT negInf hmax fuel P ds).map (fun x => (x.1, x.2.1, x.2.2.1)) := by
  induction fuel generalizing P ds with
  | zero => rfl
  | succ fuel ih =>
    rw [sweeps, sweepsT]
    dsimp only [bind, Except.bind]
    rw [sweep_eq]
    cases sweepT negInf hmax (P.depth + 3) 0 negInf P ds with
    | error e => rfl
    | ok r =>
      obtain ⟨P', ds', r, tr⟩ := r
      cases r with
      | some id => rfl
      | none =>
        dsimp only [Except.map]
        rw [ih]
        cases sweepsT negInf hmax fuel P' ds' <;> rfl

theorem pull_eq (negInf : S) (s : SOO α S) (time : Nat) (ds : List (Draw α)) :
    pull negInf s time ds = (pullT negInf s time ds).map (fun x => (x.1, x.2.1, x.2.2.1)) := by
  rw [pull, pullT]
  dsimp only [bind, Except.bind]
  rw [sweeps_eq]
  cases sweepsT negInf s.hmax (s.P.nodes.length + 3) s.P ds <;> rfl

theorem pull_ok_iff (negInf : S) (s : SOO α S) (time : Nat) (ds : List (Draw α))
    (s' : SOO α S) (ds' : List (Draw α)) (v : Nat) :
    pull negInf s time ds = .ok (s', ds', v) ↔
      ∃ trs, pullT negInf s time ds = .ok (s', ds', v, trs) := by
  rw [pull_eq]; exact map_erase_ok_iff _ _ _ _

end SOO

namespace DOO
variable {α S : Type} [Add α] [Sub α] [Mul α] [Div α] [OfNat α 2] [NatCast α]
variable [LinearOrder S] [Inhabited S]

theorem loop_eq (cfg : DOOCfg α S) (fuel h : Nat) (maxv : S) (maxn : Option Nat)
    (P : Part α (SwSt S)) (ds : List (Draw α)) :
    loop cfg fuel h maxv maxn P ds =
      (loopT cfg fuel h maxv maxn P ds).map (fun x => (x.1, x.2.1, x.2.2.1)) := by
  induction fuel generalizing h maxv maxn P ds with
  | zero => rfl
  | succ fuel ih =>
    rw [loop, loopT]
    by_cases hh : h ≤ P.depth
    · rw [if_pos hh, if_pos hh]
      dsimp only [bind, Except.bind]
      cases cfg.delta P h with
      | error e => rfl
      | ok delta =>
        dsimp only
        cases P.layers[h]? with
        | none => rfl
        | some layer =>
          dsimp only
          cases scan cfg delta layer P maxv maxn with
          | mk P1 res =>
            cases res with
            | found id => rfl
            | best maxv' maxn' =>
              dsimp only
              by_cases hl : h + 1 > P1.depth
              · rw [if_pos hl, if_pos hl]
                cases maxn' with
                | none => rfl
                | some m =>
                  dsimp only
                  cases P1.nodes[m]? with
                  | none => rfl
                  | some nd =>
                    dsimp only
                    cases P1.makeChildrenD (st0 cfg) m (decide (nd.depth ≥ P1.depth)) ds with
                    | error e => rfl
                    | ok r =>
                      obtain ⟨P2, ds'⟩ := r
                      dsimp only
                      rw [ih]
                      cases loopT cfg fuel 0 maxv' (some m) P2 ds' <;> rfl
              · rw [if_neg hl, if_neg hl]; exact ih _ _ _ _ _
    · rw [if_neg hh, if_neg hh]; rfl

theorem pull_eq (cfg : DOOCfg α S) (s : DOO α S) (time : Nat) (ds : List (Draw α)) :
    pull cfg s time ds = (pullT cfg s time ds).map (fun x => (x.1, x.2.1, x.2.2.1)) := by
  rw [pull, pullT]
  dsimp only [bind, Except.bind]
  rw [loop_eq]
  cases loopT cfg (2 * s.P.depth + 8) 0 cfg.negInf none s.P ds <;> rfl

theorem pull_ok_iff (cfg : DOOCfg α S) (s : DOO α S) (time : Nat) (ds : List (Draw α))
    (s' : DOO α S) (ds' : List (Draw α)) (v : Nat) :
    pull cfg s time ds = .ok (s', ds', v) ↔ ∃ tr, pullT cfg s time ds = .ok (s', ds', v, tr) := by
  rw [pull_eq]; exact map_erase_ok_iff _ _ _ _

end DOO

namespace StoSOO
variable {α R S : Type} [Add α] [Sub α] [Mul α] [Div α] [OfNat α 2] [NatCast α]
variable [LinearOrder S] [Inhabited S] [Inhabited R]

theorem loop_eq (cfg : StoCfg S R) (time : Nat) (fuel h : Nat) (bmax : S)
    (P : Part α (TBSt R S)) (ds : List (Draw α)) :
    loop cfg time fuel h bmax P ds =
      (loopT cfg time fuel h bmax P ds).map
        (fun x => (x.1, x.2.1, x.2.2.1, x.2.2.2.1, x.2.2.2.2.1, x.2.2.2.2.2.1)) := by
  induction fuel generalizing h bmax P ds with
  | zero => rfl
  | succ fuel ih =>
    rw [loop, loopT]
    by_cases hh : h ≤ min (P.depth + 1) cfg.hmax
    · rw [if_pos hh, if_pos hh]
      by_cases ht : time ≤ cfg.n
      · rw [if_pos ht, if_pos ht]
        cases P.layers[h]? with
        | none => rfl
        | some layer =>
          dsimp only
          cases scan cfg layer 0 P none with
          | mk P1 res =>
            cases res with
            | none => exact ih _ _ _ _
            | some r =>
              obtain ⟨j, id, b⟩ := r
              dsimp only
              by_cases hb : bmax ≤ b
              · rw [if_pos hb, if_pos hb]
                cases P1.nodes[id]? with
                | none => rfl
                | some nd =>
                  dsimp only
                  by_cases hc : cfg.countLT nd.st.count = true
                  · rw [if_pos hc, if_pos hc]; rfl
                  · rw [if_neg hc, if_neg hc]
                    cases P1.makeChildrenD (st0 cfg) id (decide (h ≥ P1.depth)) ds with
                    | error e => rfl
                    | ok r =>
                      obtain ⟨P2, ds'⟩ := r
                      dsimp only [bind, Except.bind]
                      rw [ih]
                      cases loopT cfg time fuel (h + 1) b P2 ds' <;> rfl
              · rw [if_neg hb, if_neg hb]; exact ih _ _ _ _
      · rw [if_neg ht, if_neg ht]; rfl
    · rw [if_neg hh, if_neg hh]; rfl

theorem pull_eq (cfg : StoCfg S R) (s : StoSOO α R S) (time : Nat) (ds : List (Draw α)) :
    pull cfg s time ds = (pullT cfg s time ds).map (fun x => (x.1, x.2.1, x.2.2.1)) := by
  rw [pull, pullT]
  dsimp only [bind, Except.bind]
  rw [loop_eq]
  cases loopT cfg time (s.P.depth + 4) 0 cfg.negInf s.P ds <;> rfl

theorem pull_ok_iff (cfg : StoCfg S R) (s : StoSOO α R S) (time : Nat)
    (ds : List (Draw α)) (s' : StoSOO α R S) (ds' : List (Draw α)) (v : Nat) :
    pull cfg s time ds = .ok (s', ds', v) ↔ ∃ tr, pullT cfg s time ds = .ok (s', ds', v, tr) := by
  rw [pull_eq]; exact map_erase_ok_iff _ _ _ _

end StoSOO
end PyXAB
