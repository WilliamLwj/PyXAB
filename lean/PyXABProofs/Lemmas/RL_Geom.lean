/-
  C16.1: the geometry of the partitions commutes with per-dimension positive affine maps.
-/
import PyXABProofs.Spec.RelSpec
import PyXABProofs.Spec.Geometry
import Mathlib.Tactic.Ring

namespace PyXAB
namespace RL
open Rel
set_option linter.unusedSectionVars false

section plumbing
variable {α β : Type}

def ivMap (f : α → β) (i : Iv α) : Iv β := ⟨f i.lo, f i.hi⟩

theorem chainIvs_map (f : α → β) (l : List α) : chainIvs (l.map f) = (chainIvs l).map (ivMap f) := by
  induction l with
  | nil => rfl
  | cons a l ih =>
    cases l with
    | nil => rfl
    | cons b rest => exact congrArg (List.cons _) ih

theorem splitChain_mapIdx (g : Nat → Iv α → Iv α) (f : α → α) (dim : Nat)
    (hg : ∀ i, g dim i = ivMap f i) (b : Box α) (pts : List α) :
    splitChain (b.mapIdx g) dim (pts.map f) = (splitChain b dim pts).map (List.mapIdx g) := by
  unfold splitChain
  rw [List.getElem?_mapIdx]
  cases h : b[dim]? with
  | none => rfl
  | some iv =>
    simp only [Option.map_some, hg]
    have e : (ivMap f iv).lo :: (pts.map f ++ [(ivMap f iv).hi]) = (iv.lo :: (pts ++ [iv.hi])).map f := by
      simp [ivMap]
    rw [e, chainIvs_map, List.map_map, List.map_map]
    apply List.map_congr_left
    intro i _
    simp only [Function.comp_apply, List.mapIdx_set, hg]

theorem splitAll_mapIdx [Add α] [Sub α] [Mul α] [Div α] [OfNat α 2] [NatCast α] (b : Box α)
    (g : Nat → Iv α → Iv α)
    (hg : ∀ j i, g j i.lower = (g j i).lower ∧ g j i.upper = (g j i).upper) :
    splitAll (b.mapIdx g) = (splitAll b).map (List.mapIdx g) := by
  induction b generalizing g with
  | nil => rfl
  | cons iv rest ih =>
    rw [List.mapIdx_cons]
    simp only [splitAll]
    rw [ih (fun i => g (i + 1)) (fun j i => hg (j + 1) i)]
    simp only [List.flatMap_map, List.map_flatMap, List.map_cons, List.map_nil, List.mapIdx_cons,
      (hg 0 _).1, (hg 0 _).2]

end plumbing

section basic
variable {α : Type} [Add α] [Mul α] [One α] [Zero α]

theorem aff_box_length (φ : Aff α) (b : Box α) : (φ.box b).length = b.length :=
  List.length_mapIdx

theorem aff_box_getElem? (φ : Aff α) (b : Box α) (j : Nat) :
    (φ.box b)[j]? = (b[j]?).map (φ.iv j) :=
  List.getElem?_mapIdx

theorem aff_co_mem_or (φ : Aff α) (j : Nat) : φ.co j ∈ φ.a ∨ φ.co j = 1 := by
  unfold Aff.co
  rw [List.getD_eq_getElem?_getD]
  by_cases h : j < φ.a.length
  · rw [List.getElem?_eq_getElem h]
    exact .inl (List.getElem_mem h)
  · rw [List.getElem?_eq_none (Nat.le_of_not_lt h)]
    exact .inr rfl

end basic

section field
variable {α : Type} [Field α] [LinearOrder α] [IsStrictOrderedRing α]

theorem aff_ap_mid (φ : Aff α) (j : Nat) (x y : α) :
    φ.ap j (mid x y) = mid (φ.ap j x) (φ.ap j y) := by
  unfold mid Aff.ap
  ring

theorem aff_iv_mid (φ : Aff α) (j : Nat) (i : Iv α) : (φ.iv j i).mid = φ.ap j i.mid := by
  unfold Iv.mid Aff.iv
  exact (aff_ap_mid φ j i.lo i.hi).symm

theorem aff_cpoint_box (φ : Aff α) (b : Box α) : Box.cpoint (φ.box b) = φ.pt (Box.cpoint b) := by
  apply List.ext_getElem?
  intro j
  simp only [Box.cpoint, Aff.box, Aff.pt, List.getElem?_map, List.getElem?_mapIdx, Option.map_map]
  cases b[j]? with
  | none => rfl
  | some i => simp only [Option.map_some, Function.comp_apply, aff_iv_mid]

omit [LinearOrder α] [IsStrictOrderedRing α] in
/-- the identity behind the `K`-ary case (NumPy's `linspace` operation order) -/
theorem kary_boundary (a b lo hi : α) (i K : Nat) :
    (i : α) * ((a * hi + b - (a * lo + b)) / (K : α)) + (a * lo + b) =
      a * ((i : α) * ((hi - lo) / (K : α)) + lo) + b := by
  ring

omit [LinearOrder α] [IsStrictOrderedRing α] in
/-- `np.linspace` boundaries of the mapped range are the mapped boundaries -/
theorem aff_linspacePts (φ : Aff α) (j : Nat) (lo hi : α) (K : Nat) :
    linspacePts (φ.ap j lo) (φ.ap j hi) K = (linspacePts lo hi K).map (φ.ap j) := by
  unfold PyXAB.linspacePts
  rw [List.map_map]
  exact List.map_congr_left fun i _ => kary_boundary (φ.co j) (φ.sh j) lo hi i K

theorem aff_childBoxes (φ : Aff α) (k : Kind) (b : Box α) (d : Draw α) :
    childBoxes k (φ.box b) (φ.draw d) = (childBoxes k b d).map φ.box := by
  have hsc : ∀ pts, splitChain (φ.box b) d.dim (pts.map (φ.ap d.dim)) =
      (splitChain b d.dim pts).map φ.box := fun pts =>
    splitChain_mapIdx φ.iv (φ.ap d.dim) d.dim (fun _ => rfl) b pts
  cases k with
  | binary =>
    simp only [PyXAB.childBoxes, Aff.draw, aff_box_getElem?]
    cases h : b[d.dim]? with
    | none => rfl
    | some iv =>
      simp only [Option.map_some, aff_iv_mid]
      exact hsc [iv.mid]
  | randBinary =>
    simp only [PyXAB.childBoxes, Aff.draw, ← List.map_take]
    exact hsc _
  | dimBinary =>
    simp only [PyXAB.childBoxes]
    exact splitAll_mapIdx b φ.iv fun j i =>
      ⟨by unfold Iv.lower; rw [aff_iv_mid]; rfl, by unfold Iv.upper; rw [aff_iv_mid]; rfl⟩
  | kary K =>
    simp only [PyXAB.childBoxes, Aff.draw, aff_box_getElem?]
    cases h : b[d.dim]? with
    | none => rfl
    | some iv =>
      simp only [Option.map_some]
      have : (φ.iv d.dim iv).lo = φ.ap d.dim iv.lo ∧ (φ.iv d.dim iv).hi = φ.ap d.dim iv.hi :=
        ⟨rfl, rfl⟩
      rw [this.1, this.2, aff_linspacePts]
      exact hsc _
  | randKary K =>
    simp only [PyXAB.childBoxes, Aff.draw, ← List.map_take]
    exact hsc _

theorem transl_pos {φ : Aff α} (h : φ.IsTranslation) : φ.Pos := by
  intro x hx
  rw [h x hx]; exact one_pos

theorem pos_ap_le_iff {φ : Aff α} (h : φ.Pos) (j : Nat) (x y : α) :
    φ.ap j x ≤ φ.ap j y ↔ x ≤ y := by
  unfold Aff.ap
  rw [add_le_add_iff_right,
    mul_le_mul_iff_right₀ ((aff_co_mem_or φ j).elim (h _) fun e => e ▸ one_pos)]

theorem pos_ap_lt_iff {φ : Aff α} (h : φ.Pos) (j : Nat) (x y : α) :
    φ.ap j x < φ.ap j y ↔ x < y := by
  rw [← not_le, ← not_le, pos_ap_le_iff h]

/-- the closed containment test of `Zooming.receive_reward` is invariant (no length hypothesis
is needed: both sides look at the common prefix of the coordinates) -/
theorem pos_contains {φ : Aff α} (h : φ.Pos) (b : Box α) (x : List α) :
    Zooming.contains (φ.box b) (φ.pt x) = Zooming.contains b x := by
  unfold Zooming.contains Aff.box Aff.pt
  suffices H : ∀ (b : Box α) (x : List α) (g : Nat → Iv α → Iv α) (f : Nat → α → α),
      (∀ j i c, (decide ((g j i).lo ≤ f j c) && decide (f j c ≤ (g j i).hi)) =
        (decide (i.lo ≤ c) && decide (c ≤ i.hi))) →
      ((b.mapIdx g).zip (x.mapIdx f)).all (fun p => decide (p.1.lo ≤ p.2) && decide (p.2 ≤ p.1.hi)) =
      (b.zip x).all (fun p => decide (p.1.lo ≤ p.2) && decide (p.2 ≤ p.1.hi)) by
    apply H
    intro j i c
    show (decide (φ.ap j i.lo ≤ φ.ap j c) && decide (φ.ap j c ≤ φ.ap j i.hi)) = _
    simp only [pos_ap_le_iff h]
  intro b
  induction b with
  | nil => intro x g f _; rfl
  | cons i b ih =>
    intro x g f hgf
    cases x with
    | nil => simp only [List.mapIdx_nil, List.zip_nil_right]
    | cons c x =>
      simp only [List.mapIdx_cons, List.zip_cons_cons, List.all_cons, hgf]
      rw [ih x (fun j => g (j + 1)) (fun j => f (j + 1)) (fun j i c => hgf (j + 1) i c)]

end field

end RL
end PyXAB
