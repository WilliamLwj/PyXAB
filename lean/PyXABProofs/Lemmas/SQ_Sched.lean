/-
  Consequences of the invariant of SequOOL (schedule, depth bounds, the `opened` flags) and the
  run of one complete opening.
-/
import PyXABProofs.Lemmas.SQ_Run

set_option linter.unusedSectionVars false
set_option linter.unusedVariables false

namespace PyXAB
namespace SQ
open Tree TBA

variable {α S : Type} [Add α] [Sub α] [Mul α] [Div α] [OfNat α 2] [NatCast α]
variable [LinearOrder S] [Inhabited S] {negInf : S}

/-- **Schedule**: at every depth `h ≥ 1` at most `hmax / h` cells have been expanded. -/
theorem Inv.schedule {s : SequOOL α S} (I : Inv negInf s) {h : Nat} (h1 : 1 ≤ h) :
    expCount s.P h ≤ s.hmax / h := by
  by_cases hlt : h < s.currDepth
  · exact I.sched h h1 hlt
  · by_cases heq : h = s.currDepth ∧ s.currDepth ≤ s.hmax
    · obtain ⟨rfl, hle⟩ := heq
      obtain ⟨b, _, hb⟩ := I.budget h1
      -- at the current depth `expCount + b = hmax / h` (`+ 1` while a cell is being opened, which
      -- `expCount` already counts) with a budget `b ≥ 1` left
      obtain ⟨b1, _, b3⟩ := hb hle
      split at b3 <;> omega
    · rw [expCount_eq_zero I.wf h]
      · exact Nat.zero_le _
      · intro i nd cs hi hc
        have := I.ch_depth i nd cs hi hc
        omega

/-- no cell deeper than `hmax` is ever expanded, no cell deeper than `hmax + 1` created -/
theorem Inv.depth_bounds {s : SequOOL α S} (I : Inv negInf s) {i : Nat} {nd : Node α (SqSt S)}
    (hi : s.P.nodes[i]? = some nd) :
    nd.depth ≤ s.hmax + 1 ∧ (nd.children ≠ none → nd.depth ≤ s.hmax) := by
  refine ⟨Nat.le_trans (I.wf.depth_le i nd hi) I.pdepth_le, fun h => ?_⟩
  cases hc : nd.children with
  | none => exact absurd hc h
  | some cs => exact (I.ch_depth i nd cs hi hc).1

/-- after the first round the root has been expanded: its children are the cells `1 … K` -/
theorem Inv.root_children {s : SequOOL α S} (I : Inv negInf s) (hne : s.chosen ≠ []) :
    ∃ r, s.P.nodes[0]? = some r ∧ r.children = some (List.range' 1 (K s.P)) := by
  have W := I.wf
  have hm : 1 ≤ s.chosen.length := by
    cases hc : s.chosen with
    | nil => exact absurd hc hne
    | cons _ _ => simp
  have hlt : 1 < s.P.nodes.length := by rw [I.len]; omega
  obtain ⟨nd, hnd⟩ : ∃ nd, s.P.nodes[1]? = some nd := ⟨_, List.getElem?_eq_getElem hlt⟩
  obtain ⟨p, pn, cs, _, p2, p3, p4, p5, _⟩ := W.parent 1 nd (by omega) hnd
  obtain rfl : p = 0 := by omega
  obtain ⟨_, a, a1, rfl, _, _⟩ := W.children 0 pn cs p3 p4
  rw [List.mem_range'_1] at p5
  obtain rfl : a = 1 := by omega
  exact ⟨pn, p3, p4⟩

/-- **The `opened` flag** of a search cell is set exactly when all of its children have been
handed out. -/
theorem Inv.opened_iff {s : SequOOL α S} (I : Inv negInf s) {i : Nat} {nd : Node α (SqSt S)}
    (hi : s.P.nodes[i]? = some nd) (hd : 1 ≤ nd.depth) :
    nd.st.opened = true ↔ ∃ cs, nd.children = some cs ∧ ∀ c ∈ cs, c ∈ s.chosen := by
  constructor
  · intro ho
    obtain ⟨_, cs, a2, a3⟩ := I.opened_ch i nd hi ho
    refine ⟨cs, a2, fun c hc => ?_⟩
    obtain ⟨_, _, _, _, _, hlt, _⟩ := I.wf.child_facts hi a2 hc
    rw [I.mem_chosen]
    have := a3 c hc
    omega
  · rintro ⟨cs, h1, h2⟩
    rcases I.ch_opened i nd cs hi h1 hd with h | ⟨hop, rfl⟩
    · exact h
    · exfalso
      obtain ⟨_, _, _, _, _, t4, _, _⟩ := I.opening hop
      have hK := I.loc_lt
      have hmem : s.chosen.length + (K s.P - s.loc) ∈
          List.range' (1 + s.chosen.length - s.loc) (K s.P) := by
        rw [List.mem_range'_1]; omega
      have := I.mem_chosen.1 (h2 _ hmem)
      omega

/-- **The rounds which complete an opening** (a whole opening if `loc = 0`): `K - loc` rounds
hand out the next `K - loc` cells in creation order and end with `loc = 0`.  The cell being
opened is the selected cell `tgt`; it keeps its child list to the end; if the opening starts in
`s`, it is a leaf there and its children are the `K` new cells.  After the root, depth 1 is
entered with its full budget. -/
theorem opening_rest (hbot : ∀ x : S, negInf ≤ x) (inputs : List (S × List (Draw α))) :
    ∀ (s : SequOOL α S) (t : Nat), Inv negInf s → s.currDepth ≤ s.hmax → inputs ≠ [] →
      s.loc + inputs.length = K s.P → InputsOK s.P.kind (dimn s.P) inputs →
      ∃ s' H tgt tn cs, runRounds negInf s t inputs = .ok (s', H) ∧ Inv negInf s' ∧ s'.loc = 0 ∧
        H.map (·.1) = List.range' (s.chosen.length + 1) inputs.length ∧
        s'.chosen = s.chosen ++ List.range' (s.chosen.length + 1) inputs.length ∧
        Selected s tgt ∧ s'.P.nodes[tgt]? = some tn ∧ tn.children = some cs ∧
        (s.loc = 0 → s.P.isLeaf tgt = true ∧ cs = List.range' s.P.nodes.length (K s.P)) ∧
        (s.currDepth = 0 → s'.currDepth = 1 ∧ s'.budget = some (s.hmax / 1)) := by
  induction inputs with
  | nil => exact fun _ _ _ _ h => absurd rfl h
  | cons x rest ih =>
    obtain ⟨r, ds⟩ := x
    intro s t I hcd _ hK hin
    rw [List.length_cons] at hK
    obtain ⟨s1, h1, SP, M, I2⟩ := round_search hbot I hcd t r (hin (r, ds) (List.mem_cons_self ..))
    obtain ⟨tgt, tn, cs, c1, c2, _, c4, _, _, c7, _⟩ := SP.cell
    obtain ⟨x, x1, sk, _⟩ := credit_node s1 (s.chosen.length + 1) r c2
    have hc2 : (credit s1 (s.chosen.length + 1) r).chosen = s.chosen ++ [s.chosen.length + 1] :=
      SP.chosen
    by_cases hrest : rest = []
    · subst hrest
      have hlast : s.loc + 1 = K s.P := hK
      refine ⟨_, [(s.chosen.length + 1, r)], tgt, x, cs, by simp only [runRounds, h1], I2, ?_, rfl,
        hc2, c1, x1, sk.children.trans c4, c7, fun h0 => (SP.last0 hlast h0).2⟩
      by_cases h0 : s.currDepth = 0
      · exact (SP.last0 hlast h0).1
      · exact (SP.last hlast (Nat.pos_of_ne_zero h0)).1
    · have hpos := List.length_pos_iff.2 hrest
      obtain ⟨n1, n2, _⟩ := SP.next (by omega)
      have hin2 : InputsOK (credit s1 (s.chosen.length + 1) r).P.kind
          (dimn (credit s1 (s.chosen.length + 1) r).P) rest := by
        rw [kind_credit, dimn_credit, SP.kind, SP.dimn]
        exact fun x hx => hin x (List.mem_cons_of_mem _ hx)
      have hl2 : (credit s1 (s.chosen.length + 1) r).chosen.length = s.chosen.length + 1 := by
        rw [hc2, List.length_append]; rfl
      obtain ⟨s', H, _, _, _, k1, I', k3, k4, k5, _, _, _, _, k10⟩ :=
        ih (credit s1 (s.chosen.length + 1) r) (t + 1) I2
          (by show s1.currDepth ≤ s1.hmax; rw [n2, SP.hmax]; exact hcd) hrest
          (by rw [K_eq_of (P' := (credit s1 (s.chosen.length + 1) r).P) SP.kind
                ((dimn_credit _ _ _).trans SP.dimn)]
              show s1.loc + _ = _; omega) hin2
      -- `tgt` keeps its child list over the remaining rounds
      obtain ⟨x', y1, _, y3, _⟩ :=
        (ListAux.of_eq_ok₂ (run_frame hbot rest _ (t + 1) I2 hin2) k1).2.1 tgt x x1
      refine ⟨s', (s.chosen.length + 1, r) :: H, tgt, x', cs, by simp only [runRounds, h1, k1],
        I', k3, ?_, ?_, c1, y1, y3 cs (sk.children.trans c4), c7, fun h0 => ?_⟩
      · rw [List.map_cons, k4, hl2, List.length_cons, List.range'_succ]
      · rw [k5, hl2, hc2, List.append_assoc, List.length_cons, List.range'_succ]; rfl
      · have e3 : (credit s1 (s.chosen.length + 1) r).hmax = s.hmax := SP.hmax
        rw [← e3]; exact k10 (n2.trans h0)

/-- **One complete opening**: from a state with no opening in progress, `K` rounds open the
selected cell `tgt` (a leaf): they hand out its children `cs[0], …, cs[K-1]` in this order, one
per round, and end with the cell flagged `opened` (at a search depth) and `loc = 0`. -/
theorem opening_complete (hbot : ∀ x : S, negInf ≤ x) {s : SequOOL α S} (I : Inv negInf s)
    (hl0 : s.loc = 0) (hcd : s.currDepth ≤ s.hmax) (t : Nat)
    {inputs : List (S × List (Draw α))} (hlen : inputs.length = K s.P)
    (hin : InputsOK s.P.kind (dimn s.P) inputs) :
    ∃ s' H tgt tn cs, (runRounds negInf s t inputs = .ok (s', H) ∧ Inv negInf s' ∧ s'.loc = 0 ∧
      Selected s tgt ∧ s.P.isLeaf tgt = true ∧ s'.P.nodes[tgt]? = some tn ∧
      tn.children = some cs ∧ cs = List.range' s.P.nodes.length (K s.P) ∧ H.map (·.1) = cs ∧
      s'.chosen = s.chosen ++ cs ∧ (1 ≤ s.currDepth → tn.st.opened = true)) ∧
      (s.currDepth = 0 → s'.currDepth = 1 ∧ s'.budget = some (s.hmax / 1)) := by
  obtain ⟨s', H, tgt, tn, cs, g1, I', g2, g3, g4, g5, g6, g7, g8, g9⟩ :=
    opening_rest hbot inputs s t I hcd
      (List.ne_nil_of_length_pos (hlen ▸ I.K_pos)) (by rw [hl0, hlen, Nat.zero_add]) hin
  obtain ⟨hleaf, rfl⟩ := g8 hl0
  have hn : s.chosen.length + 1 = s.P.nodes.length := by
    rw [(I.core_idle hl0).len_false, Nat.add_comm]
  rw [hlen, hn] at g3 g4
  refine ⟨s', H, tgt, tn, _, ⟨g1, I', g2, g5, hleaf, g6, g7, rfl, g3, g4, fun hd => ?_⟩, g9⟩
  -- all children handed out, hence flagged
  obtain ⟨layer, l1, l2⟩ := g5.2 hd
  have htd : 0 < tgt := (Core.layer_le I hd l1 l2.mem).1
  rw [I'.opened_iff g6 (I'.wf.depth_pos_of_pos htd g6)]
  exact ⟨_, g7, fun c hc => by rw [g4]; exact List.mem_append_right _ hc⟩

end SQ
end PyXAB
