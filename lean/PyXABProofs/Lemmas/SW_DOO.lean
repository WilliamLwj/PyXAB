/-
  DOO: trees which differ in the stored `b_value`s only, and the layer scan (which refreshes the
  `b_value`s of the evaluated leaves it passes).
-/
import PyXABProofs.Lemmas.SW_Hist
import PyXABProofs.Lemmas.SW_Erase

set_option linter.unusedSectionVars false

namespace PyXAB
namespace DOO
open Tree TBA SW

variable {α S : Type} [Add α] [Sub α] [Mul α] [Div α] [OfNat α 2] [NatCast α]
variable [LinearOrder S] [Inhabited S]

theorem BOnly.of_prel {P P' : Part α (SwSt S)}
    {τ : Nat → Node α (SwSt S) → Node α (SwSt S) → Prop} (hr : PRel τ P P')
    (hτ : ∀ i a b, τ i a b → b.st.visited = a.st.visited ∧ b.st.reward = a.st.reward) :
    BOnly P P' :=
  ⟨hr.kind, hr.layers, hr.depth, hr.len, fun i nd hi => by
    obtain ⟨nd', a1, a2, a3⟩ := hr.node i nd hi
    exact ⟨nd', a1, a2.depth, a2.index, a2.parent, a2.children, a2.box, hτ _ _ _ a3⟩⟩

theorem BOnly.refl (P : Part α (SwSt S)) : BOnly P P :=
  ⟨rfl, rfl, rfl, rfl, fun _ nd hi => ⟨nd, hi, rfl, rfl, rfl, rfl, rfl, rfl, rfl⟩⟩

theorem BOnly.trans {P P' P'' : Part α (SwSt S)} (h1 : BOnly P P') (h2 : BOnly P' P'') :
    BOnly P P'' := by
  obtain ⟨a1, a2, a3, a4, a5⟩ := h1
  obtain ⟨b1, b2, b3, b4, b5⟩ := h2
  refine ⟨b1.trans a1, b2.trans a2, b3.trans a3, b4.trans a4, fun i nd hi => ?_⟩
  obtain ⟨x, c1, c2, c3, c4, c5, c6, c7, c8⟩ := a5 i nd hi
  obtain ⟨y, d1, d2, d3, d4, d5, d6, d7, d8⟩ := b5 i x c1
  exact ⟨y, d1, d2.trans c2, d3.trans c3, d4.trans c4, d5.trans c5, d6.trans c6, d7.trans c7,
    d8.trans c8⟩

abbrev VRRel (P P' : Part α (SwSt S)) : Prop := PRel (fun _ a b => SameVR a.st b.st) P P'

theorem VRRel.ext {P P' : Part α (SwSt S)} (h : VRRel P P') (s0 : SwSt S) :
    Ext SameVR s0 P P' :=
  Ext.of_prel h (fun _ _ _ hb => hb)

theorem VRRel.bonly {P P' : Part α (SwSt S)} (h : VRRel P P') : BOnly P P' :=
  BOnly.of_prel h (fun _ _ _ hb => hb)

theorem VRRel.pinv {P P' : Part α (SwSt S)} (h : VRRel P P') {r0 : S} (hI : PInv r0 P) :
    PInv r0 P' :=
  hI.of_prel h (fun _ _ _ hb => ⟨fun hv => by rw [hb.1]; exact hv, fun _ => hb.2⟩)

theorem VRRel.unv {P P' : Part α (SwSt S)} (h : VRRel P P') :
    unvisitedLeaf P' = unvisitedLeaf P :=
  funext (unvisitedLeaf_prel h (fun _ _ _ hb => hb.1))

theorem VRRel.low {P P' : Part α (SwSt S)} (h : VRRel P P') {k : Nat} (hl : LowVisited P k) :
    LowVisited P' k :=
  hl.prel h (fun _ _ _ hb => hb.1)

/-- the refresh of the stored `b_value` made by the scan with `delta` -/
def bRefresh (cfg : DOOCfg α S) (δ : S) (st : SwSt S) : SwSt S :=
  { st with b := cfg.bOf st.reward δ }

theorem unvisitedLeaf_refresh (cfg : DOOCfg α S) (δ : S) (P : Part α (SwSt S)) (a : Nat) :
    unvisitedLeaf (refreshAt (bRefresh cfg δ) (·.visited) P a) = unvisitedLeaf P :=
  funext fun _ => leafTest_prel (refreshAt_rel (bRefresh cfg δ) (·.visited) P a) (fun x y h _ => by
    rw [h]; split <;> rfl)

theorem leafScore_refresh (cfg : DOOCfg α S) (δ : S) (P : Part α (SwSt S)) (a : Nat) :
    leafScore (refreshAt (bRefresh cfg δ) (·.visited) P a) (fun st => cfg.bOf st.reward δ) =
      leafScore P (fun st => cfg.bOf st.reward δ) :=
  leafScore_refreshAt (g := bRefresh cfg δ) (·.visited) P a
    (sc := fun st => cfg.bOf st.reward δ) (fun _ => rfl)

theorem modifySt_eq_refreshAt (cfg : DOOCfg α S) (δ : S) {P : Part α (SwSt S)} {id : Nat}
    {nd : Node α (SwSt S)} (hn : P.nodes[id]? = some nd) (hl : nd.children.isNone = true)
    (hv : nd.st.visited = true) :
    P.modifySt id (fun s => { s with b := cfg.bOf nd.st.reward δ }) =
      refreshAt (bRefresh cfg δ) (·.visited) P id := by
  rw [refreshAt, if_pos (by rw [leafTest_at hn, hl, hv]; rfl)]
  exact Part.modifySt_congr (fun nd' hn' => by obtain rfl := getElem?_inj hn hn'; rfl)

/-- `DOO.scan` stops at the first unevaluated leaf of the list; up to there it has refreshed
the `b` of the (evaluated) leaves, and if there is none it returns the running last maximum
of `bOf reward δ` over the leaves. -/
theorem scan_eq (cfg : DOOCfg α S) (δ : S) (l : List Nat) (P : Part α (SwSt S)) (maxv : S)
    (maxn : Option Nat) :
    scan cfg δ l P maxv maxn =
      ((l.takeWhile (fun w => !unvisitedLeaf P w)).foldl
          (refreshAt (bRefresh cfg δ) (·.visited)) P,
        match l.find? (unvisitedLeaf P) with
        | some v => .found v
        | none => .best (amFold (leafScore P (fun st => cfg.bOf st.reward δ)) l (maxv, maxn)).1
            (amFold (leafScore P (fun st => cfg.bOf st.reward δ)) l (maxv, maxn)).2) := by
  fun_induction scan cfg δ l P maxv maxn
  case case1 => rfl
  case case2 id rest P maxv maxn hn ih =>
    simp [ih, unvisitedLeaf, leafTest_none hn, leafScore_none hn, amStep, refreshAt]
  case case3 id rest P maxv maxn nd hn hl hv b P' hc ih =>
    have e : P' = refreshAt (bRefresh cfg δ) (·.visited) P _ := modifySt_eq_refreshAt cfg δ hn hl hv
    rw [ih, e, unvisitedLeaf_refresh, leafScore_refresh]
    simp [unvisitedLeaf, leafTest_at hn, leafScore_at hn, amStep, hl, hv, hc, b]
  case case4 id rest P maxv maxn nd hn hl hv b P' hc ih =>
    have e : P' = refreshAt (bRefresh cfg δ) (·.visited) P _ := modifySt_eq_refreshAt cfg δ hn hl hv
    rw [ih, e, unvisitedLeaf_refresh, leafScore_refresh]
    simp [unvisitedLeaf, leafTest_at hn, leafScore_at hn, amStep, hl, hv, hc, b]
  case case5 nd hn hl hv => simp [unvisitedLeaf, leafTest_at hn, hl, hv]
  case case6 nd hn hl ih =>
    simp [ih, unvisitedLeaf, leafTest_at hn, leafScore_at hn, amStep, hl, refreshAt]

/-- What `scan` (DOO's pass over one layer `l`, started with maximum `maxv`/`maxn`) leaves: it
stops at the first unevaluated leaf, or refreshes the `b`-value of every evaluated leaf and
returns the updated maximum. -/
structure ScanPost (cfg : DOOCfg α S) (delta : S) (l : List Nat) (P : Part α (SwSt S))
    (maxv : S) (maxn : Option Nat) (P1 : Part α (SwSt S)) (res : Scan S) : Prop where
  rel : VRRel P P1
  found : ∀ id, l.find? (unvisitedLeaf P) = some id → res = .found id
  /-- without an unevaluated leaf the whole list has been refreshed -/
  best : l.find? (unvisitedLeaf P) = none →
    res = .best (amFold (leafScore P (fun st => cfg.bOf st.reward delta)) l (maxv, maxn)).1
      (amFold (leafScore P (fun st => cfg.bOf st.reward delta)) l (maxv, maxn)).2 ∧
    PRel (Refreshed (bRefresh cfg delta) (·.visited) l) P P1

theorem scan_spec (cfg : DOOCfg α S) (delta : S) (l : List Nat) (P : Part α (SwSt S))
    (maxv : S) (maxn : Option Nat) (P1 : Part α (SwSt S)) (res : Scan S)
    (hrun : scan cfg delta l P maxv maxn = (P1, res)) :
    ScanPost cfg delta l P maxv maxn P1 res := by
  rw [scan_eq] at hrun
  cases hrun
  have hR := fun l' => foldl_refreshAt_rel (g := bRefresh cfg delta) (c := (·.visited))
    (fun _ => rfl) (fun _ => rfl) l' P
  refine ⟨(hR _).mono (fun i a b _ h => ?_), fun id hf => by rw [hf], fun hf => ⟨by rw [hf], ?_⟩⟩
  · rw [Refreshed] at h
    rw [h]; split
    · exact ⟨rfl, rfl⟩
    · exact SameVR.rfl' _
  · have : l.takeWhile (fun w => !unvisitedLeaf P w) = l := by
      simpa using List.takeWhile_append_of_pos (p := fun w => !unvisitedLeaf P w) (l₂ := [])
        (fun w hw => by simpa using List.find?_eq_none.1 hf w hw)
    rw [this]; exact hR l

end DOO
end PyXAB
