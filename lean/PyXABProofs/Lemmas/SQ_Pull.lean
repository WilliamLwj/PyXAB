/-
  `SequOOL.pull` from an invariant state of the search phase, stage by stage: the target is the
  selected cell, it is (or has been) split into `K` children, and the child number `loc` is
  handed out.  The result is the invariant `Mid` and the documented effect `SearchPull`.
-/
import PyXABProofs.Lemmas.SQ_Core
import PyXABProofs.Lemmas.SQ_PullEq

set_option linter.unusedSectionVars false

namespace PyXAB
namespace SQ
open Tree TBA

variable {α S : Type} [Add α] [Sub α] [Mul α] [Div α] [OfNat α 2] [NatCast α]
variable [LinearOrder S] [Inhabited S] {negInf : S}

theorem Inv.core_idle {s : SequOOL α S} (I : Inv negInf s) (h : s.loc = 0) :
    Core negInf false s.chosen.length s := by
  have : decide (0 < s.loc) = false := by rw [h]; rfl
  unfold Inv at I; rwa [this] at I

theorem Inv.core_opening {s : SequOOL α S} (I : Inv negInf s) (h : 0 < s.loc) :
    Core negInf true s.chosen.length s := by
  unfold Inv at I; rwa [decide_eq_true h] at I

theorem Mid.mk' {s1 : SequOOL α S} {op : Bool} {mr : Nat} (C : Core negInf op mr s1)
    (hop : op = decide (0 < s1.loc)) (hmr : mr + 1 = s1.chosen.length)
    (hcu : s1.curr = some (mr + 1)) : Mid negInf s1 := by
  subst hop
  have e : s1.chosen.length - 1 = mr := by omega
  exact ⟨by rw [e]; exact C, by omega, by rw [hcu, hmr]⟩

theorem Mid.last_cell {s1 : SequOOL α S} (M : Mid negInf s1) :
    ∃ nd, s1.P.nodes[s1.chosen.length]? = some nd ∧ nd.st.rewards = [] := by
  have := M.pos
  have hlt : s1.chosen.length < s1.P.nodes.length := by rw [M.core.len]; omega
  exact ⟨_, List.getElem?_eq_getElem hlt,
    (M.core.rew _ _ (List.getElem?_eq_getElem hlt)).2 (by omega)⟩

theorem HeadOK.cons {k : Kind} {n : Nat} {ds : List (Draw α)} (h : HeadOK k n ds) :
    ∃ d rest, ds = d :: rest ∧ DrawOKLen k n d := by
  cases ds with
  | nil => cases h
  | cons d rest => exact ⟨d, rest, rfl, h⟩

/-- the cells of the current search layer have been evaluated -/
theorem Core.layer_rew {op : Bool} {s : SequOOL α S} (C : Core negInf op s.chosen.length s)
    (hcd : 1 ≤ s.currDepth) {layer : List Nat} (hl : s.P.layers[s.currDepth]? = some layer) :
    ∀ id ∈ layer, isUnopened s.P id = true → ∃ r, firstRew s.P id = some r := by
  intro id hid _
  obtain ⟨h1, h2⟩ := C.layer_le hcd hl hid
  obtain ⟨nd, n1, _⟩ := (C.wf.mem_layer_iff hl id).1 hid
  have := (C.rew id nd n1).1 h1 h2
  cases hr : nd.st.rewards with
  | nil => rw [hr] at this; cases this
  | cons r rs => exact ⟨r, by simp [firstRew, n1, hr]⟩

/-- Between openings the target is a leaf of the current depth: the root, or the unopened cell of
the current layer which the scan selects. -/
theorem Core.target_idle (hbot : ∀ x : S, negInf ≤ x) {s : SequOOL α S}
    (C : Core negInf false s.chosen.length s) (hcd : s.currDepth ≤ s.hmax) :
    ∃ (tgt num : Nat) (nd : Node α (SqSt S)), target negInf s = .ok (tgt, num) ∧
      s.P.nodes[tgt]? = some nd ∧ nd.depth = s.currDepth ∧ nd.children = none ∧
      Selected s tgt ∧
      (1 ≤ s.currDepth → nd.st.opened = false ∧ ∃ layer,
        s.P.layers[s.currDepth]? = some layer ∧ num = layer.countP (isUnopened s.P) ∧
        SequOOL.scan s.P layer 0 negInf none = .ok (num, some tgt)) := by
  have W := C.wf
  by_cases h0 : s.currDepth = 0
  · have hl := W.layer_zero
    obtain ⟨r, r1, r2, _⟩ := W.root
    refine ⟨0, 0, r, target_root h0 hl, r1, r2.trans h0.symm, ?_,
      ⟨fun _ => rfl, fun h => absurd h0 (Nat.ne_of_gt h)⟩, fun h => absurd h0 (Nat.ne_of_gt h)⟩
    cases hc : r.children with
    | none => rfl
    | some cs =>
      -- a root with children would put `1 + K` cells in the arena; between openings the arena
      -- holds `1 + chosen.length` cells, and at depth 0 `chosen.length = loc < K`
      obtain ⟨hK, a, a1, _, a3, _⟩ := W.children 0 r cs r1 hc
      have := C.len_false
      have := C.cd0 h0
      have := C.loc_lt
      omega
  · have h1 : 1 ≤ s.currDepth := Nat.pos_of_ne_zero h0
    obtain ⟨layer, id, hl, u2, u3⟩ := C.unopened h1 hcd
    obtain ⟨res, hsc, r2, r3⟩ := scan_layer s.P negInf layer (C.layer_rew h1 hl)
    obtain ⟨tgt, rfl⟩ := Option.ne_none_iff_exists'.1 (r3 hbot ⟨id, u2, u3⟩)
    have harg := r2 tgt rfl
    obtain ⟨nd, n1, n2⟩ := (W.mem_layer_iff hl tgt).1 harg.mem
    obtain ⟨nd', n1', n3⟩ := isUnopened_iff.1 harg.unopened
    obtain rfl := getElem?_inj n1 n1'
    refine ⟨tgt, _, nd, target_scan h0 hl hsc, n1, n2, ?_,
      ⟨fun h => absurd h h0, fun _ => ⟨layer, hl, harg⟩⟩, fun _ => ⟨n3, layer, hl, rfl, hsc⟩⟩
    cases hc : nd.children with
    | none => rfl
    | some cs =>
      rcases C.ch_opened tgt nd cs n1 hc (n2 ▸ h1) with h | ⟨h, _⟩
      · rw [n3] at h; cases h
      · cases h

/-- While an opening is in progress the target is the cell being opened. -/
theorem Core.target_opening {s : SequOOL α S} (C : Core negInf true s.chosen.length s) :
    ∃ (tgt num : Nat) (nd : Node α (SqSt S)), target negInf s = .ok (tgt, num) ∧
      s.P.nodes[tgt]? = some nd ∧ nd.depth = s.currDepth ∧
      nd.children = some (List.range' (1 + s.chosen.length - s.loc) (K s.P)) ∧
      Selected s tgt ∧
      (1 ≤ s.currDepth → nd.st.opened = false ∧ ∃ layer,
        s.P.layers[s.currDepth]? = some layer ∧ num = layer.countP (isUnopened s.P) ∧
        SequOOL.scan s.P layer 0 negInf none = .ok (num, some tgt)) := by
  have W := C.wf
  obtain ⟨t, tn, t1, t2, t3, t4, t5, t6⟩ := C.opening rfl
  by_cases h0 : s.currDepth = 0
  · have hl := W.layer_zero
    obtain rfl := W.eq_zero_of_depth_zero t1 (t2.trans h0)
    exact ⟨0, 0, tn, target_root h0 hl, t1, t2, t5,
      ⟨fun _ => rfl, fun h => absurd h0 (Nat.ne_of_gt h)⟩, fun h => absurd h0 (Nat.ne_of_gt h)⟩
  · have h1 : 1 ≤ s.currDepth := Nat.pos_of_ne_zero h0
    obtain ⟨a1, layer, num, a2, a3⟩ := t6 h1
    obtain ⟨res, r1, r2, _⟩ := scan_layer s.P negInf layer (C.layer_rew h1 a2)
    cases a3.symm.trans r1
    exact ⟨t, _, tn, target_scan h0 a2 r1, t1, t2, t5,
      ⟨fun h => absurd h h0, fun _ => ⟨layer, a2, r2 t rfl⟩⟩, fun _ => ⟨a1, layer, a2, rfl, r1⟩⟩

/-- What the second stage of `pull` makes of the arena: `P1` is `s.P` with the leaf `tgt` split
(at the start of an opening, `loc = 0`), or `s.P` itself. -/
structure Opens (s : SequOOL α S) (tgt : Nat) (P1 : Part α (SqSt S)) : Prop where
  kind : P1.kind = s.P.kind
  dimn : dimn P1 = dimn s.P
  layer : P1.layers[s.currDepth]? = s.P.layers[s.currDepth]?
  frame : ∀ (i : Nat) (nd : Node α (SqSt S)), s.P.nodes[i]? = some nd →
    ∃ nd', P1.nodes[i]? = some nd' ∧ nd'.st = nd.st ∧ nd'.box = nd.box ∧
      ∀ cs, nd.children = some cs → nd'.children = some cs
  fresh : s.loc = 0 → s.P.isLeaf tgt = true ∧ s.P.nodes.length = 1 + s.chosen.length
  cont : 0 < s.loc → P1 = s.P

theorem Opens.refl (s : SequOOL α S) (tgt : Nat) (h : 0 < s.loc) : Opens s tgt s.P :=
  ⟨rfl, rfl, rfl, fun _ nd hi => ⟨nd, hi, rfl, rfl, fun _ hc => hc⟩,
    fun h0 => absurd h0 (Nat.ne_of_gt h), fun _ => rfl⟩

theorem Opens.of_step {s : SequOOL α S} {tgt : Nat} {nd : Node α (SqSt S)}
    {P1 : Part α (SqSt S)} (W : WF s.P) (hnd : s.P.nodes[tgt]? = some nd)
    (hdep : nd.depth = s.currDepth) (hleaf : nd.children = none) (h0 : s.loc = 0)
    (hn : s.P.nodes.length = 1 + s.chosen.length) (St : Step s.P P1 SequOOL.st0 tgt nd) :
    Opens s tgt P1 where
  kind := St.kind_eq
  dimn := St.dimn_eq W hnd
  layer := step_layer_keep St W hnd (Nat.le_of_eq hdep.symm)
  frame := fun i x hi => by
    obtain ⟨x', x1, _, _, _, xb, x3, x2, _⟩ := St.pres hnd hi
    refine ⟨x', x1, x3, xb, fun cs hc => (x2 ?_).trans hc⟩
    rintro rfl
    obtain rfl := getElem?_inj hi hnd
    rw [hleaf] at hc; cases hc
  fresh := fun _ => ⟨isLeaf_iff.2 ⟨nd, hnd, hleaf⟩, hn⟩
  cont := fun h => absurd h0 (Nat.ne_of_gt h)

/-- The documented effect of a `pull` whose first two stages have led from `s` to the arena `P1`
(an opening of `tgt` in progress) and whose third stage has led to `s1`. -/
theorem SearchPull.of_opens {s s1 : SequOOL α S} {t tgt : Nat} {nd1 : Node α (SqSt S)}
    {P1 : Part α (SqSt S)} (O : Opens s tgt P1) (hsel : Selected s tgt)
    (CE : Core negInf true s.chosen.length { s with iteration := t, P := P1 })
    (hnd1 : P1.nodes[tgt]? = some nd1)
    (hch : nd1.children = some (List.range' (1 + s.chosen.length - s.loc) (K P1)))
    (f1 : s1.chosen = s.chosen ++ [s.chosen.length + 1])
    (f2 : s1.curr = some (s.chosen.length + 1)) (f3 : s1.hmax = s.hmax)
    (hP : s1.P = if s.loc + 1 = K s.P ∧ 1 ≤ s.currDepth
      then P1.modifySt tgt (fun st => { st with opened := true }) else P1)
    (next : s.loc + 1 < K s.P →
      s1.loc = s.loc + 1 ∧ s1.currDepth = s.currDepth ∧ s1.budget = s.budget)
    (last0 : s.loc + 1 = K s.P → s.currDepth = 0 →
      s1.loc = 0 ∧ s1.currDepth = 1 ∧ s1.budget = some (s.hmax / 1))
    (last : s.loc + 1 = K s.P → 1 ≤ s.currDepth → s1.loc = 0 ∧
      ∃ b layer, s.budget = some b ∧ s.P.layers[s.currDepth]? = some layer ∧
        if b - 1 = 0 ∨ layer.countP (isUnopened s.P) = 1 then
          s1.currDepth = s.currDepth + 1 ∧ s1.budget = some (s.hmax / (s.currDepth + 1))
        else s1.currDepth = s.currDepth ∧ s1.budget = some (b - 1)) :
    SearchPull s s1 (s.chosen.length + 1) := by
  have hK1 : K P1 = K s.P := K_eq_of O.kind O.dimn
  obtain ⟨hdep, hlm, hun⟩ : nd1.depth = s.currDepth ∧ s.loc ≤ s.chosen.length ∧
      (1 ≤ s.currDepth → nd1.st.opened = false) := by
    obtain ⟨a, -, b, c⟩ := CE.opening_at hnd1 hch
    exact ⟨a, b, fun h => (c h).1⟩
  have hloc : s.loc < K s.P := hK1 ▸ CE.loc_lt
  rw [hK1] at hch
  have R := PRel_modifySt P1 tgt (fun st : SqSt S => { st with opened := true })
  have hcell : ∃ tn, s1.P.nodes[tgt]? = some tn ∧ Skel nd1 tn ∧
      (1 ≤ s.currDepth → tn.st.opened = decide (s.loc + 1 = K s.P)) := by
    rw [hP]
    split
    · rename_i h
      obtain ⟨tn, m1, sk, hst⟩ := R.node tgt nd1 hnd1
      exact ⟨tn, m1, sk, fun _ => by rw [hst, if_pos rfl, decide_eq_true h.1]⟩
    · rename_i h
      exact ⟨nd1, hnd1, Skel.rfl' _, fun h1 => by
        rw [hun h1, decide_eq_false fun h' => h ⟨h', h1⟩]⟩
  have hframe : ∀ (i : Nat) (nd' : Node α (SqSt S)), P1.nodes[i]? = some nd' →
      ∃ nd'', s1.P.nodes[i]? = some nd'' ∧ nd''.st.rewards = nd'.st.rewards ∧ Skel nd' nd'' := by
    intro i nd' hi
    rw [hP]
    split
    · obtain ⟨nd'', m1, sk, hst⟩ := R.node i nd' hi
      exact ⟨nd'', m1, by rw [hst]; split <;> rfl, sk⟩
    · exact ⟨nd', hi, rfl, Skel.rfl' _⟩
  obtain ⟨tn, m1, sk, hflag⟩ := hcell
  refine
    { v_eq := rfl
      chosen := f1
      curr := f2
      hmax := f3
      kind := by rw [hP]; split <;> exact O.kind
      dimn := by
        rw [hP]; split
        · exact R.dimn_eq.trans O.dimn
        · exact O.dimn
      cell := ⟨tgt, tn, _, hsel, m1, sk.depth.trans hdep, sk.children.trans hch,
        List.length_range', ?_, fun h => ⟨(O.fresh h).1, ?_⟩, fun h => ?_, hflag⟩
      frame := fun i nd hi => by
        obtain ⟨nd', n1, n2, nb, n3⟩ := O.frame i nd hi
        obtain ⟨nd'', k1, k2, k3⟩ := hframe i nd' n1
        exact ⟨nd'', k1, k2.trans (congrArg _ n2), k3.box.trans nb,
          fun cs hc => k3.children.trans (n3 cs hc)⟩
      next := next
      last0 := last0
      last := last }
  · exact getElem?_range'_sub hloc hlm
  · rw [(O.fresh h).2, h]; rfl
  · have := O.cont h
    subst this
    refine ⟨?_, nd1, hnd1, hch⟩
    rw [hP]; split
    · exact R.len
    · rfl

/-- The third stage of `pull`, the opening of `tgt` being in progress in the arena `P1`, keeps
the invariant and has the documented effect. -/
theorem handOut_search {s : SequOOL α S} {t tgt num : Nat} {nd1 : Node α (SqSt S)}
    {P1 : Part α (SqSt S)} (O : Opens s tgt P1) (hsel : Selected s tgt)
    (CE : Core negInf true s.chosen.length { s with iteration := t, P := P1 })
    (hnd1 : P1.nodes[tgt]? = some nd1)
    (hch : nd1.children = some (List.range' (1 + s.chosen.length - s.loc) (K P1)))
    (hnum : 1 ≤ s.currDepth → ∃ layer, s.P.layers[s.currDepth]? = some layer ∧
      num = layer.countP (isUnopened s.P)) (ds1 : List (Draw α)) :
    ∃ s1, handOut { s with iteration := t, P := P1 } tgt num
        (List.range' (1 + s.chosen.length - s.loc) (K P1)) ds1 =
        .ok (s1, ds1, s.chosen.length + 1) ∧
      Mid negInf s1 ∧ SearchPull s s1 (s.chosen.length + 1) := by
  have hK1 : K P1 = K s.P := K_eq_of O.kind O.dimn
  have hloc : s.loc < K P1 := CE.loc_lt
  have hlm : s.loc ≤ s.chosen.length := CE.loc_le
  have hc : (List.range' (1 + s.chosen.length - s.loc) (K P1))[s.loc]? =
      some (s.chosen.length + 1) := getElem?_range'_sub hloc hlm
  have hlenr : (List.range' (1 + s.chosen.length - s.loc) (K P1)).length = K P1 :=
    List.length_range'
  have hml : s.chosen.length + 1 = (s.chosen ++ [s.chosen.length + 1]).length := by
    rw [List.length_append]; rfl
  by_cases hlast : s.loc + 1 = K P1
  · have hlast' : s.loc + 1 = K s.P := hK1 ▸ hlast
    by_cases h0 : s.currDepth = 0
    · refine ⟨_, handOut_last0 (by rw [hlenr]; exact hlast) hc h0, ?_, ?_⟩
      · exact Mid.mk' (op := false)
          (CE.last hlast hnd1 hch
            (PRel.refl (fun j nd => (if_neg fun h => absurd h0 (Nat.ne_of_gt h.2)).symm) P1)
            (Or.inl ⟨by rw [h0], by rw [h0]⟩) _) rfl hml rfl
      · exact .of_opens O hsel CE hnd1 hch rfl rfl rfl
          (if_neg fun h => absurd h0 (Nat.ne_of_gt h.2)).symm
          (fun h => absurd hlast' (Nat.ne_of_lt h)) (fun _ _ => ⟨rfl, rfl, rfl⟩)
          (fun _ h => absurd h0 (Nat.ne_of_gt h))
    · have h1 : 1 ≤ s.currDepth := Nat.pos_of_ne_zero h0
      obtain ⟨b, hb, _⟩ := CE.budget h1
      obtain ⟨layer, hl, harg⟩ := hsel.2 h1
      obtain ⟨layer', hl', hnum⟩ := hnum h1
      obtain rfl := getElem?_inj hl hl'
      refine ⟨_, handOut_last (by rw [hlenr]; exact hlast) hc h0 hb, ?_, ?_⟩
      · refine Mid.mk' (op := false) (CE.last hlast hnd1 hch
          ((PRel_modifySt P1 tgt _).mono fun j a b' _ h => by
            simpa only [h1, and_true] using h) ?_ _) rfl hml rfl
        by_cases hadv : b - 1 = 0 ∨ num = 1
        · exact Or.inl ⟨if_pos hadv, if_pos hadv⟩
        · refine Or.inr ⟨if_neg hadv, h1,
            ⟨b, hb, if_neg hadv, fun h => hadv (Or.inl ((if_neg hadv).symm.trans h))⟩, ?_⟩
          -- the layer has two unopened cells, one of them is not `tgt`
          have hl1 : P1.layers[s.currDepth]? = some layer := O.layer.trans hl
          have hpos : 0 < layer.countP (isUnopened s.P) :=
            List.countP_pos_iff.2 ⟨tgt, harg.mem, harg.unopened⟩
          obtain ⟨id, i1, i2, i3⟩ := exists_ne_of_countP (CE.wf.layer_nodup hl1) (t := tgt)
            (p := isUnopened s.P)
            (Nat.lt_of_le_of_ne hpos fun e => hadv (Or.inr (hnum.trans e.symm)))
          obtain ⟨nd, n1, n2⟩ := isUnopened_iff.1 i3
          obtain ⟨nd', m1, m2, _⟩ := O.frame id nd n1
          exact ⟨layer, id, hl1, i1, i2, isUnopened_iff.2 ⟨nd', m1, by rw [m2]; exact n2⟩⟩
      · refine .of_opens O hsel CE hnd1 hch rfl rfl rfl (if_pos ⟨hlast', h1⟩).symm
          (fun h => absurd hlast' (Nat.ne_of_lt h)) (fun _ h => absurd h h0)
          (fun _ _ => ⟨rfl, b, layer, hb, hl, ?_⟩)
        subst hnum
        split <;> exact ⟨rfl, rfl⟩
  · have hnl : s.loc + 1 < K P1 := Nat.lt_of_le_of_ne hloc hlast
    have hlast' : ¬ s.loc + 1 = K s.P := hK1 ▸ hlast
    refine ⟨_, handOut_next (hlenr.symm ▸ hnl) hc, ?_, ?_⟩
    · exact Mid.mk' (op := true) (CE.next hnl _) (by simp) hml rfl
    · exact .of_opens O hsel CE hnd1 hch rfl rfl rfl (if_neg fun h => hlast' h.1).symm
        (fun _ => ⟨rfl, rfl, rfl⟩) (fun h => absurd h hlast') (fun h => absurd h hlast')

/-- **`pull` in the search phase** never raises from an invariant state and has the documented
effect. -/
theorem pull_search (hbot : ∀ x : S, negInf ≤ x) {s : SequOOL α S} {t : Nat}
    {ds : List (Draw α)} (I : Inv negInf s) (hcd : s.currDepth ≤ s.hmax)
    (hds : HeadOK s.P.kind (dimn s.P) ds) :
    ∃ s1 ds1, SequOOL.pull negInf s t ds = .ok (s1, ds1, s.chosen.length + 1) ∧
      Mid negInf s1 ∧ SearchPull s s1 (s.chosen.length + 1) := by
  by_cases hl0 : s.loc = 0
  · have C := I.core_idle hl0
    have W := C.wf
    obtain ⟨tgt, num, nd, htg, hnd, hdep, hleaf, hsel, hsc⟩ := C.target_idle hbot hcd
    obtain ⟨d, rest, rfl, hd⟩ := hds.cons
    obtain ⟨P1, hmk, -, St⟩ := makeChildren_WF_step W SequOOL.st0 hnd hleaf
      (newlayer := decide (s.currDepth ≥ s.P.depth)) (by rw [hdep]) hd
    have hcs : List.range' s.P.nodes.length (K s.P) =
        List.range' (1 + s.chosen.length - s.loc) (K P1) := by
      rw [hl0, C.len_false, St.K_eq W hnd]; rfl
    have CE := (C.iter t s.curr).expand hcd hl0 hnd hdep hleaf St fun h => by
      obtain ⟨a1, layer, a2, _, a3⟩ := hsc h
      exact ⟨a1, layer, num, a2, a3⟩
    obtain ⟨s1, h1, M, SP⟩ :=
      handOut_search (Opens.of_step W hnd hdep hleaf hl0 C.len_false St) hsel CE
      St.atp (congrArg some hcs) (fun h => by
        obtain ⟨_, layer, a2, a3, _⟩ := hsc h
        exact ⟨layer, a2, a3⟩) rest
    refine ⟨s1, rest, ?_, M, SP⟩
    rw [pull_stages hcd htg
      (openCell_leaf hnd hleaf (makeChildrenD_cons hmk) St.atp (congrArg some hcs))]
    exact h1
  · have C := I.core_opening (by omega)
    obtain ⟨tgt, num, nd, htg, hnd, hdep, hch, hsel, hsc⟩ := C.target_opening
    obtain ⟨s1, h1, M, SP⟩ := handOut_search (Opens.refl s tgt (by omega)) hsel (C.iter t s.curr)
      hnd hch (fun h => by
        obtain ⟨_, layer, a2, a3, _⟩ := hsc h
        exact ⟨layer, a2, a3⟩) ds
    refine ⟨s1, ds, ?_, M, SP⟩
    rw [pull_stages hcd htg (openCell_inner hnd hch)]
    exact h1

end SQ
end PyXAB
