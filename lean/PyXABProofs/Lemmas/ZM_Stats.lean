/-
  Ghost-history invariants along any run: exact statistics and the phase schedule.
-/
import PyXABProofs.Lemmas.ZM_Inv
import Mathlib.Algebra.BigOperators.Group.List.Basic

set_option linter.unusedSectionVars false

namespace PyXAB
namespace ZM
open Zooming _root_.PyXAB.Tree

section round
variable {α R S : Type}

theorem rewardsOf_snoc (H : List (Nat × R)) (i j : Nat) (r : R) :
    rewardsOf (H ++ [(i, r)]) j = rewardsOf H j ++ (if i = j then [r] else []) := by
  unfold rewardsOf
  by_cases h : i = j <;> simp [List.filter_append, h]

theorem rewardsOf_nil_of_lt (H : List (Nat × R)) (j n : Nat) (hv : ∀ e ∈ H, e.1 < n)
    (hj : n ≤ j) : rewardsOf H j = [] := by
  unfold rewardsOf
  rw [List.map_eq_nil_iff, List.filter_eq_nil_iff]
  intro e he h
  exact absurd (beq_iff_eq.1 h ▸ hv e he) (Nat.not_lt.2 hj)

theorem sum_pulls_zero {l : List (Arm α S)} (h : ∀ a ∈ l, a.pulls = 0) :
    (l.map (·.pulls)).sum = 0 :=
  List.sum_eq_zero fun n hn => by
    obtain ⟨a, ha, rfl⟩ := List.mem_map.1 hn
    exact h a ha

theorem stats_init (cfg : ZoomCfg R S) (s : Zooming α S) (h : InitRel cfg s) : Stats cfg s [] := by
  obtain ⟨_, _, h3, _, h5⟩ := h
  exact ⟨h3, nofun, fun j a ha => (h5 a (List.mem_of_getElem? ha)).1,
    sum_pulls_zero fun a ha => (h5 a ha).1, fun a ha _ => (h5 a ha).2⟩

/-- The arm list after a round: the pulled arm is credited in place, every other old position
keeps its arm, the positions beyond carry fresh arms. -/
theorem roundRel_arms {cfg : ZoomCfg R S} {s s' : Zooming α S} {i : Nat} {r : R}
    (h : RoundRel cfg s i r s') :
    ∃ a a', s.arms[i]? = some a ∧ a'.pt = a.pt ∧ a'.pulls = a.pulls + 1 ∧
      a'.avg = cfg.upd a.avg a.pulls r ∧
      s.arms.length ≤ s'.arms.length ∧ s'.arms[i]? = some a' ∧
      (∀ j, j ≠ i → j < s.arms.length → s'.arms[j]? = s.arms[j]?) ∧
      (∀ j b, s.arms.length ≤ j → s'.arms[j]? = some b → b.pulls = 0 ∧ b.avg = cfg.zero) ∧
      (s'.arms.map (·.pulls)).sum = (s.arms.map (·.pulls)).sum + 1 := by
  obtain ⟨a, P2, c, fresh, ha, rfl, hf⟩ := h
  have hi := lt_length_of_getElem? ha
  have hl : (s.arms.set i { credit cfg a r with cell := c }).length = s.arms.length :=
    List.length_set
  refine ⟨a, { credit cfg a r with cell := c }, ha, rfl, rfl, rfl, ?_⟩
  rw [refined_arms]
  refine ⟨by rw [List.length_append, hl]; exact Nat.le_add_right _ _, ?_, fun j hji hj => ?_,
    fun j b hj hb => ?_, ?_⟩
  · rw [List.getElem?_append_left (hl ▸ hi), List.getElem?_set_self hi]
  · rw [List.getElem?_append_left (hl ▸ hj), List.getElem?_set_ne (Ne.symm hji)]
  · rw [List.getElem?_append_right (hl ▸ hj)] at hb
    exact hf b (List.mem_of_getElem? hb)
  · obtain ⟨t, d, e1, e2⟩ := ListAux.split_at ha
    rw [e2, e1]
    simp only [List.map_append, List.map_cons, List.sum_append, List.sum_cons,
      sum_pulls_zero fun f hf' => (hf f hf').1]
    show _ + (a.pulls + 1 + _) + 0 = _
    ac_rfl

theorem roundRel_clock {cfg : ZoomCfg R S} {s s' : Zooming α S} {i : Nat} {r : R}
    (h : RoundRel cfg s i r s') :
    s'.time = s.time + 1 ∧ s'.phase = phaseAfter s ∧ s'.nextEnd = nextEndAfter s := by
  obtain ⟨_, _, _, _, _, rfl, _⟩ := h
  exact ⟨rfl, rfl, rfl⟩

/-- The same by cases on a position of the new arm list: the pulled one, another old one, or a
new one. -/
theorem roundRel_cases {cfg : ZoomCfg R S} {s s' : Zooming α S} {i : Nat} {r : R}
    (h : RoundRel cfg s i r s') :
    ∃ a a', s.arms[i]? = some a ∧ a'.pulls = a.pulls + 1 ∧ a'.avg = cfg.upd a.avg a.pulls r ∧
      ∀ j b, s'.arms[j]? = some b → (j = i ∧ b = a') ∨ (j ≠ i ∧ s.arms[j]? = some b) ∨
        (s.arms.length ≤ j ∧ i ≠ j ∧ b.pulls = 0 ∧ b.avg = cfg.zero) := by
  obtain ⟨a, a', ha, _, hp, hav, _, ha', hold, hnew, _⟩ := roundRel_arms h
  refine ⟨a, a', ha, hp, hav, fun j b hb => ?_⟩
  have hi := lt_length_of_getElem? ha
  by_cases hj : j < s.arms.length
  · by_cases hji : j = i
    · exact .inl ⟨hji, Option.some.inj ((hji ▸ hb).symm.trans ha')⟩
    · exact .inr (.inl ⟨hji, hold j hji hj ▸ hb⟩)
  · exact .inr (.inr ⟨Nat.le_of_not_lt hj, fun e => hj (e ▸ hi), hnew j b (Nat.le_of_not_lt hj) hb⟩)

theorem stats_step (cfg : ZoomCfg R S) {s s' : Zooming α S} {H : List (Nat × R)} {i : Nat}
    {r : R} (hS : Stats cfg s H) (h : RoundRel cfg s i r s') :
    Stats cfg s' (H ++ [(i, r)]) := by
  obtain ⟨a, _, ha, _, _, _, hlen, _, _, _, hsum⟩ := roundRel_arms h
  obtain ⟨a0, a', ha0, hp, _, hcases⟩ := roundRel_cases h
  obtain rfl : a = a0 := Option.some.inj (ha.symm.trans ha0)
  have hi := lt_length_of_getElem? ha
  refine ⟨?_, fun e he => ?_, fun j b hb => ?_, ?_, fun b hb hb0 => ?_⟩
  · rw [(roundRel_clock h).1, hS.time, List.length_append]; rfl
  · rcases List.mem_append.1 he with he | he
    · exact Nat.lt_of_lt_of_le (hS.valid e he) hlen
    · rw [List.mem_singleton.1 he]; exact Nat.lt_of_lt_of_le hi hlen
  · rw [rewardsOf_snoc, List.length_append]
    rcases hcases j b hb with ⟨rfl, rfl⟩ | ⟨hji, hb'⟩ | ⟨hj, hne, hb0, _⟩
    · rw [hp, hS.pulls j a ha, if_pos rfl]; rfl
    · rw [hS.pulls j b hb', if_neg (Ne.symm hji)]; rfl
    · rw [hb0, rewardsOf_nil_of_lt H j _ hS.valid hj, if_neg hne]; rfl
  · rw [hsum, hS.total, List.length_append]; rfl
  · obtain ⟨j, hj⟩ := List.mem_iff_getElem?.1 hb
    rcases hcases j b hj with ⟨_, rfl⟩ | ⟨_, hb'⟩ | ⟨_, _, _, h0⟩
    · exact absurd (hp ▸ hb0) (Nat.succ_ne_zero _)
    · exact hS.zero b (List.mem_of_getElem? hb') hb0
    · exact h0

/-- One round keeps the schedule: the clock advances by one; when it reaches `nextEnd` the phase
advances and `nextEnd` grows by `2^(phase+1)`, otherwise both are unchanged. -/
theorem PhaseInv.step {s s' : Zooming α S} (hI : PhaseInv s) (e1 : s'.time = s.time + 1)
    (e2 : s'.phase = phaseAfter s) (e3 : s'.nextEnd = nextEndAfter s) : PhaseInv s' := by
  obtain ⟨h1, h2, h3, h4⟩ := hI
  by_cases hc : s.nextEnd ≤ s.time + 1
  · obtain ⟨p1, p2⟩ := phaseAfter_of_ge hc
    -- subtraction-free form of `h2`
    have hX := Nat.one_le_two_pow (n := s.phase)
    have hne : s.nextEnd + 2 = 2 * 2 ^ s.phase := by
      rw [h2, Nat.pow_succ']; exact Nat.sub_add_cancel (Nat.mul_le_mul_left 2 hX)
    refine ⟨?_, ?_, ?_, ?_⟩
    · rw [e2, p1]; exact Nat.le_add_left 1 _
    · rw [e3, e2, p2, p1, Nat.pow_succ', Nat.pow_succ', Nat.pow_succ']
      exact Nat.eq_sub_of_add_eq (by rw [Nat.add_right_comm, hne, ← Nat.two_mul])
    · rw [e2, e1, p1, Nat.pow_succ', Nat.sub_le_iff_le_add, ← hne]
      exact Nat.add_le_add_right hc 2
    · rw [e1, e3, p2]
      exact Nat.lt_of_le_of_lt h4 (Nat.lt_add_of_pos_right (Nat.two_pow_pos _))
  · obtain ⟨p1, p2⟩ := phaseAfter_of_lt (Nat.lt_of_not_le hc)
    refine ⟨?_, ?_, ?_, ?_⟩
    · rw [e2, p1]; exact h1
    · rw [e3, e2, p2, p1, h2]
    · rw [e2, e1, p1]; exact Nat.le_succ_of_le h3
    · rw [e1, e3, p2]; exact Nat.lt_of_not_le hc

theorem sum_two_pow (p : Nat) : ((List.range' 1 p).map (2 ^ ·)).sum = 2 ^ (p + 1) - 2 := by
  induction p with
  | zero => rfl
  | succ p ih =>
    have h2 : 2 ≤ 2 ^ (p + 1) := Nat.pow_succ' ▸ Nat.mul_le_mul_left 2 Nat.one_le_two_pow
    rw [List.range'_1_concat, List.map_append, List.sum_append, ih, Nat.add_comm 1 p,
      List.map_singleton, List.sum_singleton, ← Nat.sub_add_comm h2, ← Nat.two_mul,
      ← Nat.pow_succ']

end round

section run
variable {α R S : Type} [Add α] [Sub α] [Mul α] [Div α] [OfNat α 2] [NatCast α]
variable [LE α] [DecidableLE α] [LE S] [DecidableLE S]

/-- Induction over runs in terms of the bookkeeping relations. -/
theorem run_induction {cfg : ZoomCfg R S} {k : Kind} {domain : Box α}
    {motive : Zooming α S → List (Nat × R) → Prop}
    (h0 : ∀ s, InitRel cfg s → motive s [])
    (hstep : ∀ s H i r s', motive s H → RoundRel cfg s i r s' → motive s' (H ++ [(i, r)]))
    {s : Zooming α S} {H : List (Nat × R)} (hR : Run cfg k domain s H) : motive s H := by
  induction hR with
  | init h => exact h0 _ (init_inv h)
  | round _ hp hr ih => exact hstep _ _ _ _ _ ih (round_inv hp hr)

theorem run_stats {cfg : ZoomCfg R S} {k : Kind} {domain : Box α} {s : Zooming α S}
    {H : List (Nat × R)} (hR : Run cfg k domain s H) : Stats cfg s H :=
  run_induction (motive := fun s H => Stats cfg s H) (stats_init cfg)
    (fun _ _ _ _ _ ih h => stats_step cfg ih h) hR

theorem run_phase {cfg : ZoomCfg R S} {k : Kind} {domain : Box α} {s : Zooming α S}
    {H : List (Nat × R)} (hR : Run cfg k domain s H) : PhaseInv s :=
  run_induction (motive := fun s _ => PhaseInv s)
    (fun _ ⟨h1, h2, h3, _⟩ =>
      ⟨h1 ▸ Nat.le_refl 1, by rw [h1, h2], by rw [h1, h3], by rw [h2, h3]; exact Nat.zero_lt_two⟩)
    (fun _ _ _ _ _ ih h =>
      ih.step (roundRel_clock h).1 (roundRel_clock h).2.1 (roundRel_clock h).2.2) hR

end run

end ZM
end PyXAB
