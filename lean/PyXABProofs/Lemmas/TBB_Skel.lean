/-
  Payload-only updates of the partition arena in functional form: `Upd P Q F` (`Q` is `P` with
  the payload of node `j` replaced by `F j nd`) is `TBA.PRel` for the relation `b.st = F j a`,
  and `Skel P Q` is `PRel` for the trivial relation, so what only depends on the skeleton
  (`Tree.WF`, `dimn`, `K`, the number of nodes) comes from the `PRel` library.
-/
import PyXABProofs.Lemmas.TBA_Ops
import PyXABProofs.Spec.TBIndex

namespace PyXAB
namespace TBB

open Tree
open TBA (PRel)
open ListAux (getElem?_eq_none_of_length_eq)

variable {α σ : Type}

theorem eq_of_skel {a b : Node α σ} (h : TBA.Skel a b) : b = { a with st := b.st } := by
  cases a; cases b
  obtain ⟨h1, h2, h3, h4, h5⟩ := h
  simp only at h1 h2 h3 h4 h5
  subst h1 h2 h3 h4 h5
  rfl

abbrev AllNodes (P : Part α σ) (Q : Nat → Node α σ → Prop) : Prop :=
  ∀ (i : Nat) (nd : Node α σ), P.nodes[i]? = some nd → Q i nd

theorem AllNodes.prel {ρ : Nat → Node α σ → Node α σ → Prop} {P P' : Part α σ}
    {Q Q' : Nat → Node α σ → Prop} (hP : AllNodes P Q) (h : PRel ρ P P')
    (hQ : ∀ i a b, P.nodes[i]? = some a → TBA.Skel a b → ρ i a b → Q i a → Q' i b) :
    AllNodes P' Q' := by
  intro i nd' hi
  obtain ⟨nd, h1, h2, h3⟩ := h.bwd hi
  exact hQ i nd nd' h1 h2 h3 (hP i nd h1)

/-- The node relation "only one field of the payload changed", `set st x` being the payload
`st` with the value `x` in that field. -/
def SetR {β : Type} (set : σ → β → σ) : Nat → Node α σ → Node α σ → Prop :=
  fun _ a b => ∃ x, b = { a with st := set a.st x }

theorem prel_setR {β : Type} {set : σ → β → σ} {P Q : Part α σ} (kind : Q.kind = P.kind)
    (layers : Q.layers = P.layers) (depth : Q.depth = P.depth)
    (len : Q.nodes.length = P.nodes.length)
    (node : ∀ (j : Nat) (nd : Node α σ), P.nodes[j]? = some nd →
      ∃ x, Q.nodes[j]? = some { nd with st := set nd.st x }) : PRel (SetR set) P Q :=
  ⟨kind, layers, depth, len, fun j nd hj => by
    obtain ⟨x, hx⟩ := node j nd hj
    exact ⟨_, hx, ⟨rfl, rfl, rfl, rfl, rfl⟩, x, rfl⟩⟩

theorem setR_inv {β : Type} {set : σ → β → σ} {P Q : Part α σ} (h : PRel (SetR set) P Q)
    {j : Nat} {nd' : Node α σ} (hj : Q.nodes[j]? = some nd') :
    ∃ nd x, P.nodes[j]? = some nd ∧ nd' = { nd with st := set nd.st x } := by
  obtain ⟨nd, h1, _, x, h3⟩ := h.bwd hj
  exact ⟨nd, x, h1, h3⟩

/-- Properties of the single nodes which do not read the changed field survive. -/
theorem setR_all {β : Type} {set : σ → β → σ} {P Q : Part α σ} (h : PRel (SetR set) P Q)
    {A : Nat → Node α σ → Prop} (hA : ∀ i nd x, A i nd → A i { nd with st := set nd.st x })
    (hP : AllNodes P A) : AllNodes Q A :=
  hP.prel h (fun i a _ _ _ ⟨x, e⟩ ha => e ▸ hA i a x ha)

def forget (nd : Node α σ) : Node α Unit := { nd with st := () }

/-- `Q` has the same tree skeleton as `P`: only the payloads `st` may differ. -/
structure Skel (P Q : Part α σ) : Prop where
  kind : Q.kind = P.kind
  layers : Q.layers = P.layers
  depth : Q.depth = P.depth
  node : ∀ j : Nat, (Q.nodes[j]?).map forget = (P.nodes[j]?).map forget

theorem Skel.iff_prel {P Q : Part α σ} : Skel P Q ↔ PRel (fun _ _ _ => True) P Q := by
  constructor
  · intro h
    have hmap : Q.nodes.map forget = P.nodes.map forget :=
      List.ext_getElem? (fun j => by rw [List.getElem?_map, List.getElem?_map]; exact h.node j)
    have hlen := congrArg List.length hmap
    rw [List.length_map, List.length_map] at hlen
    refine ⟨h.kind, h.layers, h.depth, hlen, fun j nd hj => ?_⟩
    have hn := h.node j
    rw [hj] at hn
    cases hq : Q.nodes[j]? with
    | none => rw [hq] at hn; cases hn
    | some nd' =>
      rw [hq] at hn
      have e : forget nd' = forget nd := Option.some.inj hn
      simp only [forget, Node.mk.injEq] at e
      exact ⟨nd', rfl, ⟨e.1, e.2.1, e.2.2.1, e.2.2.2.1, e.2.2.2.2.1⟩, trivial⟩
  · intro h
    refine ⟨h.kind, h.layers, h.depth, fun j => ?_⟩
    cases hp : P.nodes[j]? with
    | none => rw [getElem?_eq_none_of_length_eq h.len hp]
    | some nd =>
      obtain ⟨nd', h1, h2, _⟩ := h.node j nd hp
      rw [h1, eq_of_skel h2]
      rfl

/-- `Q` is `P` with the payload of every node `j` (value `nd`) replaced by `F j nd`. -/
structure Upd (P Q : Part α σ) (F : Nat → Node α σ → σ) : Prop where
  kind : Q.kind = P.kind
  layers : Q.layers = P.layers
  depth : Q.depth = P.depth
  node : ∀ j : Nat, Q.nodes[j]? = (P.nodes[j]?).map (fun nd => { nd with st := F j nd })

namespace Upd
variable {P Q T : Part α σ} {F F' : Nat → Node α σ → σ}

theorem get (h : Upd P Q F) {j : Nat} {nd : Node α σ} (hj : P.nodes[j]? = some nd) :
    Q.nodes[j]? = some { nd with st := F j nd } := by
  rw [h.node j, hj]; rfl

theorem get_inv (h : Upd P Q F) {j : Nat} {nd' : Node α σ} (hj : Q.nodes[j]? = some nd') :
    ∃ nd, P.nodes[j]? = some nd ∧ nd' = { nd with st := F j nd } := by
  rw [h.node j] at hj
  cases hp : P.nodes[j]? with
  | none => rw [hp] at hj; cases hj
  | some nd =>
    rw [hp] at hj
    exact ⟨nd, rfl, (Option.some.inj hj).symm⟩

theorem skel (h : Upd P Q F) : Skel P Q :=
  ⟨h.kind, h.layers, h.depth, fun j => by
    rw [h.node j]; cases P.nodes[j]? <;> rfl⟩

theorem iff_prel : Upd P Q F ↔ PRel (fun j a b => b.st = F j a) P Q := by
  constructor
  · intro h
    exact ⟨h.kind, h.layers, h.depth, (Skel.iff_prel.1 h.skel).len,
      fun j nd hj => ⟨_, h.get hj, ⟨rfl, rfl, rfl, rfl, rfl⟩, rfl⟩⟩
  · intro h
    refine ⟨h.kind, h.layers, h.depth, fun j => ?_⟩
    cases hp : P.nodes[j]? with
    | none => rw [getElem?_eq_none_of_length_eq h.len hp]; rfl
    | some nd =>
      obtain ⟨nd', h1, h2, h3⟩ := h.node j nd hp
      rw [h1, eq_of_skel h2, h3]
      rfl

theorem prel (h : Upd P Q F) : PRel (fun j a b => b.st = F j a) P Q := iff_prel.1 h

theorem refl (P : Part α σ) : Upd P P (fun _ nd => nd.st) :=
  ⟨rfl, rfl, rfl, fun j => by cases P.nodes[j]? <;> rfl⟩

theorem congr (h : Upd P Q F) (hF : ∀ j nd, P.nodes[j]? = some nd → F j nd = F' j nd) :
    Upd P Q F' :=
  ⟨h.kind, h.layers, h.depth, fun j => by
    rw [h.node j]
    cases hp : P.nodes[j]? with
    | none => rfl
    | some nd => simp only [Option.map_some, hF j nd hp]⟩

theorem comp (h1 : Upd P Q F) (h2 : Upd Q T F') :
    Upd P T (fun j nd => F' j { nd with st := F j nd }) :=
  ⟨h2.kind.trans h1.kind, h2.layers.trans h1.layers, h2.depth.trans h1.depth, fun j => by
    rw [h2.node j, h1.node j]
    cases P.nodes[j]? <;> rfl⟩

theorem all (h : Upd P Q F) {A A' : Nat → Node α σ → Prop} (hP : AllNodes P A)
    (hA : ∀ i nd, P.nodes[i]? = some nd → A i nd → A' i { nd with st := F i nd }) :
    AllNodes Q A' := by
  intro i nd' hi
  obtain ⟨nd, h1, rfl⟩ := h.get_inv hi
  exact hA i nd h1 (hP i nd h1)

end Upd

theorem modifyNode_upd (P : Part α σ) (i : Nat) (G : Node α σ → σ) :
    Upd P (P.modifyNode i (fun nd => { nd with st := G nd }))
      (fun j nd => if j = i then G nd else nd.st) :=
  ⟨rfl, rfl, rfl, fun j => by
    rw [Part.getElem?_modifyNode]
    cases P.nodes[j]? with
    | none => rfl
    | some nd =>
      by_cases e : j = i
      · simp only [e, if_true, Option.map_some]
      · simp only [e, Ne.symm e, if_false, Option.map_some]⟩

/-- Node-wise updates along a duplicate-free id list, when the new payload of a node only
depends on the node itself. -/
theorem foldl_modifyNode_upd (G : Node α σ → σ) {l : List Nat} (hn : l.Nodup) (P : Part α σ) :
    Upd P (l.foldl (fun P id => P.modifyNode id (fun nd => { nd with st := G nd })) P)
      (fun j nd => if j ∈ l then G nd else nd.st) := by
  obtain ⟨h1, h2, h3, _⟩ :=
    Part.foldl_modifyNode_skeleton id (fun _ (nd : Node α σ) => { nd with st := G nd }) l P
  refine ⟨h1, h2, h3, fun j => ?_⟩
  rw [Part.getElem?_foldl_modifyNode _ l P hn j]
  cases P.nodes[j]? with
  | none => rfl
  | some nd => by_cases hj : j ∈ l <;> simp only [hj, if_true, if_false, Option.map_some]

theorem pos_of_leaf {P : Part α σ} (hroot : ∃ r cs, P.nodes[0]? = some r ∧ r.children = some cs)
    {v : Nat} {nd : Node α σ} (hnd : P.nodes[v]? = some nd) (hleaf : nd.children = none) :
    0 < v := by
  apply Nat.pos_of_ne_zero
  rintro rfl
  obtain ⟨r, cs, q1, q2⟩ := hroot
  obtain rfl := getElem?_inj q1 hnd
  rw [hleaf] at q2; cases q2

theorem _root_.PyXAB.Tree.WF.mem_layer_iff_depth {P : Part α σ} (W : WF P) {h : Nat} {l : List Nat}
    (hl : P.layers[h]? = some l) {i : Nat} {nd : Node α σ} (hi : P.nodes[i]? = some nd) :
    i ∈ l ↔ nd.depth = h :=
  (W.mem_layer_iff hl i).trans
    ⟨fun ⟨_, h1, h2⟩ => getElem?_inj h1 hi ▸ h2, fun e => ⟨nd, hi, e⟩⟩

theorem forListed_upd {P : Part α σ} (W : WF P) (f : Node α σ → σ) :
    Upd P (forListed P f) (fun _ nd => f nd) := by
  rw [Part.forListed_eq]
  exact (foldl_modifyNode_upd f W.layers_nodup P).congr (fun j nd hj =>
    if_pos ((W.mem_flatten_iff_valid j).2 (lt_length_of_getElem? hj)))

end TBB
end PyXAB
