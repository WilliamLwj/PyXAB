/-
  `init` establishes `Cover`; the complete case analysis of `receive` from a `Cover` state.
-/
import PyXABProofs.Lemmas.ZM_Cover

set_option linter.unusedSectionVars false

namespace PyXAB
namespace ZM
open Zooming _root_.PyXAB.Tree

variable {α R S : Type} [Field α] [LinearOrder α] [IsStrictOrderedRing α]

theorem init_cover (cfg : ZoomCfg R S) (k : Kind) (domain : Box α) (d : Draw α)
    (ds : List (Draw α)) (hv : Box.Valid domain) (hdl : DrawOKLen k domain.length d)
    (hd : DrawOK k domain d) :
    ∃ s, Zooming.init cfg k domain (d :: ds) = .ok (s, ds) ∧ Cover domain s ∧ s.P.kind = k ∧
      dimn s.P = domain.length ∧
      s.arms = (List.range' 1 (k.arity domain.length)).map (newArm cfg s.P) ∧
      s.phase = 1 ∧ s.nextEnd = 2 ∧ s.time = 0 ∧ s.best = none := by
  have W0 := init_WF' k domain ()
  have hp0 : (Part.init k domain ()).nodes[0]? =
      some { depth := 0, index := 1, parent := none, children := none, box := domain, st := () } :=
    rfl
  obtain ⟨P1, m, W1, St, hT1, hkids⟩ := mk_facts W0 (Tiles.self hv) hp0 rfl hdl hd
  have hl : P1.layers[1]? = some (List.range' 1 (k.arity domain.length)) :=
    St.layers_getElem? W0.layers_len 1
  refine ⟨_, init_eq cfg k domain d ds m hl, ?_, St.kind_eq, St.dimn_eq W0 hp0, rfl, rfl, rfl,
    rfl, rfl⟩
  obtain ⟨r', hr', _, _, _, hb, _⟩ := St.pres hp0 hp0
  refine Cover.of_perm W1 ⟨r', hr', hb⟩ hT1 (fun b hb => ?_) ?_
  · obtain ⟨x, hx, rfl⟩ := List.mem_map.1 hb
    obtain ⟨xn, x1, x2, x3, _⟩ := newCell St hx
    exact ⟨xn, ⟨x1, x3⟩, x2 ▸ Nat.le_add_left 1 _,
      newArm_mem cfg x1 (cellBox_eq x1 ▸ (hkids.1 _ (List.mem_map_of_mem hx)).2)⟩
  · show (((List.range' 1 (k.arity domain.length)).map (newArm cfg P1)).map (·.cell)).Perm
      (leafIds P1)
    have hid : (fun x : Arm α S => x.cell) ∘ newArm cfg P1 = id := rfl
    rw [leafIds_step St, List.map_map, hid, List.map_id]
    exact List.Perm.refl _

/-- **Case analysis of `receive`** from a `Cover` state in which `best` points at the arm `a`
(as `pull` leaves it), with draws satisfying `RecvDrawsOK`. -/
theorem receive_cases (cfg : ZoomCfg R S) {root : Box α} {s : Zooming α S} (hC : Cover root s)
    {i : Nat} {a : Arm α S} (hb : s.best = some i) (ha : s.arms[i]? = some a) (r : R)
    {ds : List (Draw α)} (hds : RecvDrawsOK cfg s ds) :
    ∃ nd, LeafAt s.P a.cell nd ∧ 1 ≤ nd.depth ∧
      ((refineCond cfg s a nd = false ∧
          receive cfg s r ds = .ok (credited cfg s i a r, ds) ∧
          Cover root (credited cfg s i a r)) ∨
       (refineCond cfg s a nd = true ∧
          ∃ d ds' P2 l₁ c l₂ cn, ds = d :: ds' ∧
            s.P.makeChildren () a.cell (decide (nd.depth ≥ s.P.depth)) d = .ok P2 ∧
            WF P2 ∧ Step s.P P2 () a.cell nd ∧
            List.range' s.P.nodes.length (K s.P) = l₁ ++ c :: l₂ ∧
            P2.nodes[c]? = some cn ∧ Box.Mem cn.box a.pt ∧
            (∀ x ∈ l₁, ∀ xn, P2.nodes[x]? = some xn → ¬ Box.Mem xn.box a.pt) ∧
            receive cfg s r ds =
              .ok (refined cfg s i a r P2 c ((l₁ ++ l₂).map (newArm cfg P2)), ds') ∧
            Cover root (refined cfg s i a r P2 c ((l₁ ++ l₂).map (newArm cfg P2))))) := by
  obtain ⟨nd, hn, hdep, hmem⟩ := hC.arm_leaf a (List.mem_of_getElem? ha)
  refine ⟨nd, hn, hdep, ?_⟩
  cases hc : refineCond cfg s a nd with
  | false => exact .inl ⟨rfl, receive_noref cfg r ds hb ha hn.1 hc, hC.credited cfg ha r⟩
  | true =>
    obtain ⟨d, ds', rfl, hdl, hd⟩ := hds i a nd hb ha hn.1 hc
    obtain ⟨P2, m, W2, St, hT2, hkids⟩ := mk_facts hC.wf hC.tiles hn.1 hn.2 hdl hd
    -- on the new cells the executable containment test is closed membership
    have hin : ∀ x ∈ List.range' s.P.nodes.length (K s.P), ∃ xn, P2.nodes[x]? = some xn ∧
        (inCell P2 a.pt x = true ↔ Box.Mem xn.box a.pt) := by
      intro x hx
      obtain ⟨xn, x1, _, _, x4⟩ := newCell St hx
      refine ⟨xn, x1, ?_⟩
      rw [inCell_eq x1]
      exact contains_iff
        (x4.trans ((hC.wf.boxlen _ _ hn.1).symm.trans (Box.Mem.length_eq hmem).symm))
    rcases first_split (inCell P2 a.pt) (List.range' s.P.nodes.length (K s.P)) with
      hnone | ⟨l₁, c, l₂, hsplit, hfirst, hcin⟩
    · -- the new cells cover the split cell, so one of them contains the point
      obtain ⟨b, hb', hbm⟩ := (hkids.2.1 a.pt).1 hmem
      obtain ⟨x, hx, rfl⟩ := List.mem_map.1 hb'
      obtain ⟨xn, x1, x2⟩ := hin x hx
      rw [cellBox_eq x1] at hbm
      exact absurd (x2.2 hbm) (by rw [hnone x hx]; exact Bool.false_ne_true)
    · obtain ⟨cn, hcn, hcc⟩ := hin c (hsplit ▸ List.mem_append_right _ List.mem_cons_self)
      have hrec := receive_ref cfg r hb ha hn.1 hc (makeChildrenD_cons (ds := ds') m) St.atp rfl
      rw [hsplit, assign_false_some cfg P2 a.pt
        (fun x hx => (hin x (hsplit ▸ hx)).imp fun _ h => h.1) hfirst hcin] at hrec
      refine .inr ⟨rfl, d, ds', P2, l₁, c, l₂, cn, rfl, m, W2, St, hsplit, hcn, hcc.1 hcin,
        fun x hx xn hxn hxm => ?_, hrec,
        hC.refined cfg ha hn W2 St hT2 hkids hsplit (cellBox_eq hcn ▸ hcc.1 hcin) r⟩
      obtain ⟨xn', x1, x2⟩ := hin x (hsplit ▸ List.mem_append_left _ hx)
      obtain rfl := getElem?_inj x1 hxn
      exact absurd (x2.2 hxm) (by rw [hfirst x hx]; exact Bool.false_ne_true)

end ZM
end PyXAB
