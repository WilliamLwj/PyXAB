/-
  `argmaxFirst` (the model of `np.argmax`) for an arbitrary decidable `<`: it fails exactly on
  the empty list, and otherwise returns a valid index.  Core Lean only.
-/
import PyXABProofs.Spec.MetaSpec

namespace PyXAB.MT
open PyXAB

variable {S : Type}

theorem argmaxFirst_nil [LT S] [DecidableLT S] : argmaxFirst ([] : List S) = none := rfl

theorem argmaxFirst_eq_none_iff [LT S] [DecidableLT S] (V : List S) : argmaxFirst V = none ↔ V = [] := by
  cases V <;> simp [argmaxFirst]

theorem argmaxFirst_isSome [LT S] [DecidableLT S] {V : List S} (h : V ≠ []) :
    ∃ i, argmaxFirst V = some i := by
  cases V with
  | nil => exact absurd rfl h
  | cons x xs => exact ⟨_, rfl⟩

/-- the loop of `argmaxFirst` -/
def amStep [LT S] [DecidableLT S] (acc : Nat × Nat × S) (y : S) : Nat × Nat × S :=
  if acc.2.2 < y then (acc.1 + 1, acc.1 + 1, y) else (acc.1 + 1, acc.2.1, acc.2.2)

theorem argmaxFirst_cons [LT S] [DecidableLT S] (x : S) (xs : List S) :
    argmaxFirst (x :: xs) = some (xs.foldl amStep (0, 0, x)).2.1 := rfl

theorem foldl_amStep_le [LT S] [DecidableLT S] (xs : List S) : ∀ (acc : Nat × Nat × S), acc.2.1 ≤ acc.1 →
    (xs.foldl amStep acc).2.1 ≤ acc.1 + xs.length := by
  induction xs with
  | nil => intro acc h; simpa using h
  | cons y ys ih =>
    intro acc h
    rw [List.foldl_cons]
    have h1 : (amStep acc y).2.1 ≤ (amStep acc y).1 := by
      unfold amStep; split <;> simp <;> omega
    have h2 : (amStep acc y).1 = acc.1 + 1 := by
      unfold amStep; split <;> rfl
    have := ih (amStep acc y) h1
    rw [h2] at this
    simp only [List.length_cons]
    omega

theorem argmaxFirst_lt_length [LT S] [DecidableLT S] {V : List S} {i : Nat}
    (h : argmaxFirst V = some i) : i < V.length := by
  cases V with
  | nil => cases h
  | cons x xs =>
    rw [argmaxFirst_cons] at h
    cases h
    have := foldl_amStep_le xs (0, 0, x) (Nat.le_refl _)
    simp only [List.length_cons]
    simp only [Nat.zero_add] at this
    omega

end PyXAB.MT
