/-
  The simp set `geo_eval`, in a module of its own because an attribute cannot be used in the file that
  registers it; `GeoTac.lean` says which lemmas it holds.
-/
import Lean.Meta.Tactic.Simp.RegisterCommand

/-- Evaluation of the model's child-box computation on a box written out as a list. -/
register_simp_attr geo_eval
