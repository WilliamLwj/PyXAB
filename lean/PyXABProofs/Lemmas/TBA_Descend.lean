/-
  The descent loop `descend` never raises on a well-formed tree (ids strictly increase along
  child links, so `nodes.length + 1` units of fuel suffice) and returns a downward chain;
  chains and the ancestor relation.
-/
import PyXABProofs.Lemmas.TBA_Ops
import PyXABProofs.Lemmas.TB_Step

namespace PyXAB
namespace TBA
open Tree

variable {α σ R S : Type} {P : Part α σ}

theorem foldl_pick_mem {β : Type} (p : β → β → Prop) [DecidableRel p] :
    ∀ (cs : List β) (c : β), cs.foldl (fun m c' => if p m c' then c' else m) c ∈ c :: cs
  | [], c => by simp
  | d :: cs, c => by
    rw [List.foldl_cons]
    have ih := foldl_pick_mem p cs (if p c d then d else c)
    rcases List.mem_cons.1 ih with e | e
    · rw [e]; split <;> simp
    · exact List.mem_cons_of_mem _ (List.mem_cons_of_mem _ e)

theorem pickChild_mem [LE S] [DecidableLE S] (bOf : Nat → S) (c : Nat) (cs : List Nat) :
    ∃ m, pickChild bOf (c :: cs) = some m ∧ m ∈ c :: cs :=
  ⟨_, rfl, foldl_pick_mem (fun m c' => bOf m ≤ bOf c') cs c⟩

theorem Child.lt_and_parent (W : WF P) {a b : Nat} (h : Child P a b) :
    a < b ∧ ∃ cn, P.nodes[b]? = some cn ∧ cn.parent = some a := by
  obtain ⟨nd, cs, h1, h2, h3⟩ := h
  obtain ⟨_, cn, _, _, _, c1, c2, c3, _⟩ := W.child_facts h1 h2 h3
  exact ⟨c1, cn, c2, c3⟩

theorem DownChain.tail_cons {P : Part α σ} {a b : Nat} {rest : List Nat}
    (h : DownChain P (a :: b :: rest)) : DownChain P (b :: rest) := h.2

theorem DownChain.all_valid :
    ∀ {l : List Nat}, DownChain P l → ∀ v ∈ l, v < P.nodes.length
  | [], h, _, _ => h.elim
  | [a], h, v, hv => by
    have : v = a := by simpa using hv
    subst this; exact h
  | a :: b :: rest, h, v, hv => by
    rcases List.mem_cons.1 hv with e | e
    · subst e
      obtain ⟨nd, _, h1, _⟩ := h.1
      exact lt_length_of_getElem? h1
    · exact DownChain.all_valid h.2 v e

theorem DownChain.child_getElem {P : Part α σ} :
    ∀ {l : List Nat}, DownChain P l → ∀ (k a b : Nat), l[k]? = some a → l[k + 1]? = some b →
      Child P a b
  | [], h, _, _, _, _, _ => h.elim
  | [_], _, k, _, _, _, hb => by simp at hb
  | x :: y :: rest, h, 0, a, b, ha, hb => by
    simp only [List.getElem?_cons_zero, List.getElem?_cons_succ, Option.some.injEq] at ha hb
    subst ha hb; exact h.1
  | x :: y :: rest, h, k + 1, a, b, ha, hb => by
    rw [List.getElem?_cons_succ] at ha hb
    exact DownChain.child_getElem h.2 k a b ha hb

theorem DownChain.head_lt (W : WF P) :
    ∀ {tail : List Nat} {a : Nat}, DownChain P (a :: tail) → ∀ v ∈ tail, a < v
  | [], _, _, _, hv => by cases hv
  | b :: rest, a, h, v, hv => by
    have hab := (Child.lt_and_parent W h.1).1
    rcases List.mem_cons.1 hv with e | e
    · subst e; exact hab
    · exact Nat.lt_trans hab (DownChain.head_lt W h.2 v e)

theorem DownChain.nodup (W : WF P) :
    ∀ {l : List Nat}, DownChain P l → l.Nodup
  | [], h => h.elim
  | [a], _ => by simp
  | a :: b :: rest, h => by
    rw [List.nodup_cons]
    refine ⟨fun hm => ?_, DownChain.nodup W h.2⟩
    exact Nat.lt_irrefl _ (DownChain.head_lt W h a hm)

theorem DownChain.getLast_valid {l : List Nat} (h : DownChain P l) {v : Nat}
    (hv : l.getLast? = some v) : v < P.nodes.length :=
  h.all_valid v (List.mem_of_getLast? hv)

/-- A chain survives if child lists, once set, are kept. -/
theorem DownChain.mono {P P' : Part α σ} (hlen : P.nodes.length ≤ P'.nodes.length)
    (hch : ∀ a b, Child P a b → Child P' a b) :
    ∀ {l : List Nat}, DownChain P l → DownChain P' l
  | [], h => h.elim
  | [_], h => Nat.lt_of_lt_of_le h hlen
  | _ :: _ :: _, h => ⟨hch _ _ h.1, DownChain.mono hlen hch h.2⟩

theorem Child.of_prel {ρ : Nat → Node α σ → Node α σ → Prop} {P P' : Part α σ}
    (h : PRel ρ P P') {a b : Nat} (hc : Child P a b) : Child P' a b := by
  obtain ⟨nd, cs, h1, h2, h3⟩ := hc
  obtain ⟨nd', g1, g2, _⟩ := h.node a nd h1
  exact ⟨nd', cs, g1, g2.children.trans h2, h3⟩

theorem IsPath.of_prel {ρ : Nat → Node α σ → Node α σ → Prop} {P P' : Part α σ}
    (h : PRel ρ P P') {l : List Nat} (hp : IsPath P l) : IsPath P' l :=
  ⟨hp.1, DownChain.mono (Nat.le_of_eq h.len.symm) (fun _ _ => Child.of_prel h) hp.2⟩

section descend
variable [LE S] [DecidableLE S] [Inhabited S] [Inhabited R]

/-- On a well-formed tree, with a loop test that never raises, the descent from a valid id
succeeds when `fuel + cur ≥ nodes.length`, appends a downward chain below `cur` to `acc`, and
stops at a leaf or at a node where the loop test fails. -/
theorem descend_ok {P : Part α (TBSt R S)} (W : WF P)
    (cont : Node α (TBSt R S) → Except Err Bool)
    (hcont : ∀ (i : Nat) (nd : Node α (TBSt R S)), P.nodes[i]? = some nd → ∃ b, cont nd = .ok b) :
    ∀ (fuel cur : Nat) (acc : List Nat), cur < P.nodes.length → P.nodes.length ≤ fuel + cur →
      ∃ tail v nd, descend P cont fuel cur acc = .ok (acc ++ tail) ∧
        DownChain P (cur :: tail) ∧ (cur :: tail).getLast? = some v ∧
        P.nodes[v]? = some nd ∧ (nd.children = none ∨ cont nd = .ok false) := by
  intro fuel
  induction fuel with
  | zero => exact fun cur acc h1 h2 => absurd h1 (Nat.not_lt_of_le (Nat.zero_add cur ▸ h2))
  | succ fuel ih =>
    intro cur acc hcur hfuel
    obtain ⟨nd, hnd⟩ : ∃ nd, P.nodes[cur]? = some nd := ⟨_, List.getElem?_eq_getElem hcur⟩
    obtain ⟨go, hgo⟩ := hcont cur nd hnd
    cases go with
    | false =>
      exact ⟨[], cur, nd, by rw [List.append_nil]; exact descend_stop hnd hgo (Or.inl rfl) fuel acc,
        hcur, rfl, hnd, Or.inr hgo⟩
    | true =>
      cases hc : nd.children with
      | none =>
        exact ⟨[], cur, nd,
          by rw [List.append_nil]; exact descend_stop hnd hgo (Or.inr hc) fuel acc,
          hcur, rfl, hnd, Or.inl hc⟩
      | some cs =>
        obtain ⟨c, cs', hcs'⟩ := List.exists_cons_of_ne_nil (W.children_ne_nil hnd hc)
        obtain ⟨m, hm1, hm2⟩ := pickChild_mem (fun i => (P.stOf i).b) c cs'
        rw [← hcs'] at hm1 hm2
        have hchild : Child P cur m := ⟨nd, cs, hnd, hc, hm2⟩
        obtain ⟨hlt, cn, hcn, _⟩ := Child.lt_and_parent W hchild
        -- ids grow along child links, so the remaining fuel still covers the arena
        obtain ⟨tail, v, vn, e1, e2, e3, e4, e5⟩ := ih m (acc ++ [m])
          (lt_length_of_getElem? hcn)
          (Nat.le_trans hfuel (by
            rw [Nat.add_right_comm]; exact Nat.add_le_add_left (Nat.succ_le_of_lt hlt) fuel))
        exact ⟨m :: tail, v, vn,
          by rw [descend_step hnd hgo hc hm1 fuel acc, e1, List.append_assoc]; rfl,
          ⟨hchild, e2⟩, by rw [List.getLast?_cons_cons]; exact e3, e4, e5⟩

/-- The descent of the three `pull`s, from the root with `nodes.length + 1` units of fuel. -/
theorem descend_root_ok {P : Part α (TBSt R S)} (W : WF P)
    (cont : Node α (TBSt R S) → Except Err Bool)
    (hcont : ∀ (i : Nat) (nd : Node α (TBSt R S)), P.nodes[i]? = some nd → ∃ b, cont nd = .ok b) :
    ∃ path v nd, descend P cont (P.nodes.length + 1) 0 [0] = .ok path ∧ IsPath P path ∧
      path.getLast? = some v ∧ P.nodes[v]? = some nd ∧
      (nd.children = none ∨ cont nd = .ok false) := by
  obtain ⟨tail, v, nd, e1, e2, e3, e4, e5⟩ := descend_ok W cont hcont (P.nodes.length + 1) 0 [0]
    W.length_pos (Nat.le_succ _)
  exact ⟨0 :: tail, v, nd, e1, ⟨rfl, e2⟩, e3, e4, e5⟩

end descend

theorem Anc.trans {P : Part α σ} {i j k : Nat} (h1 : Anc P i j) (h2 : Anc P j k) : Anc P i k := by
  induction h2 with
  | refl => exact h1
  | up a b _ ih => exact Anc.up a b ih

theorem parent_lt (W : WF P) {j p : Nat} {nd : Node α σ}
    (hj : P.nodes[j]? = some nd) (hp : nd.parent = some p) : p < j := by
  by_cases h0 : j = 0
  · subst h0
    obtain ⟨r, r0, _, _, r3⟩ := W.root
    obtain rfl := getElem?_inj r0 hj
    rw [r3] at hp; cases hp
  · obtain ⟨q, _, _, q1, q2, _⟩ := W.parent j nd (by omega) hj
    rw [hp] at q1; cases q1; exact q2

theorem Anc.le (W : WF P) {i j : Nat} (h : Anc P i j) : i ≤ j := by
  induction h with
  | refl => exact Nat.le_refl _
  | up a b _ ih => exact Nat.le_trans ih (Nat.le_of_lt (parent_lt W a b))

theorem Anc.of_child {P : Part α σ} (W : WF P) {a b : Nat} (h : Child P a b) : Anc P a b := by
  obtain ⟨_, cn, h1, h2⟩ := Child.lt_and_parent W h
  exact Anc.up h1 h2 (Anc.refl a)

theorem Anc.inv_parent {i b a : Nat} {cn : Node α σ}
    (hb : P.nodes[b]? = some cn) (hp : cn.parent = some a) :
    Anc P i b ↔ i = b ∨ Anc P i a := by
  constructor
  · intro h
    cases h with
    | refl => exact Or.inl rfl
    | up h1 h2 h3 =>
      obtain rfl := getElem?_inj h1 hb
      rw [hp] at h2; cases h2
      exact Or.inr h3
  · rintro (rfl | h)
    · exact Anc.refl _
    · exact Anc.up hb hp h

theorem Anc.root_iff (W : WF P) {i : Nat} : Anc P i 0 ↔ i = 0 :=
  ⟨fun h => Nat.le_zero.1 (h.le W), fun h => h ▸ Anc.refl _⟩

theorem anc_chain_iff (W : WF P) :
    ∀ {tail : List Nat} {a v : Nat}, DownChain P (a :: tail) → (a :: tail).getLast? = some v →
      ∀ i, Anc P i v ↔ i ∈ tail ∨ Anc P i a
  | [], a, v, _, hv, i => by
    have : a = v := by simpa using hv
    subst this; simp
  | b :: rest, a, v, h, hv, i => by
    rw [List.getLast?_cons_cons] at hv
    obtain ⟨_, cn, c1, c2⟩ := Child.lt_and_parent W h.1
    rw [anc_chain_iff W h.2 hv i, Anc.inv_parent c1 c2, List.mem_cons]
    constructor
    · rintro (h | h | h)
      · exact Or.inl (Or.inr h)
      · exact Or.inl (Or.inl h)
      · exact Or.inr h
    · rintro ((h | h) | h)
      · exact Or.inr (Or.inl h)
      · exact Or.inl h
      · exact Or.inr (Or.inr h)

/-- The elements of a root-to-cell path are exactly the ancestors-or-self of its end. -/
theorem IsPath.mem_iff_anc (W : WF P) {path : List Nat} {v : Nat}
    (hp : IsPath P path) (hv : path.getLast? = some v) (i : Nat) : i ∈ path ↔ Anc P i v := by
  obtain ⟨h0, hc⟩ := hp
  cases path with
  | nil => exact hc.elim
  | cons a tail =>
    have : a = 0 := by simpa using h0
    subst this
    rw [anc_chain_iff W hc hv i, Anc.root_iff W, List.mem_cons]
    constructor
    · rintro (h | h)
      · exact Or.inr h
      · exact Or.inl h
    · rintro (h | h)
      · exact Or.inr h
      · exact Or.inl h

theorem anc_root_of_valid (W : WF P) : ∀ j, j < P.nodes.length → Anc P 0 j := by
  intro j
  induction j using Nat.strongRecOn with
  | _ j ih =>
    intro hj
    by_cases h0 : j = 0
    · subst h0; exact Anc.refl 0
    · obtain ⟨nd, hnd⟩ : ∃ nd, P.nodes[j]? = some nd := ⟨_, List.getElem?_eq_getElem hj⟩
      obtain ⟨p, pn, _, h1, h2, h3, _⟩ := W.parent j nd (by omega) hnd
      exact Anc.up hnd h1 (ih p h2 (lt_length_of_getElem? h3))

theorem isAncF_sound {i : Nat} :
    ∀ (fuel j : Nat), isAncF P i fuel j = true → Anc P i j
  | 0, j, h => by
    have : i = j := by simpa [isAncF] using h
    subst this; exact Anc.refl _
  | fuel + 1, j, h => by
    simp only [isAncF, Bool.or_eq_true, beq_iff_eq] at h
    rcases h with rfl | h
    · exact Anc.refl _
    · cases hj : P.nodes[j]? with
      | none => simp [hj] at h
      | some nd =>
        cases hp : nd.parent with
        | none => simp [hj, hp] at h
        | some p =>
          simp only [hj, hp] at h
          exact Anc.up hj hp (isAncF_sound fuel p h)

theorem isAncF_complete (W : WF P) {i j : Nat} (h : Anc P i j) :
    ∀ fuel, j ≤ fuel → isAncF P i fuel j = true := by
  induction h with
  | refl => intro fuel _; cases fuel <;> simp [isAncF]
  | @up j p nd a b _ ih =>
    intro fuel hf
    have hlt := parent_lt W a b
    cases fuel with
    | zero => exact absurd (Nat.lt_of_lt_of_le hlt hf) (Nat.not_lt_zero _)
    | succ fuel =>
      simp only [isAncF, a, b, Bool.or_eq_true, beq_iff_eq]
      exact Or.inr (ih fuel (Nat.le_of_lt_succ (Nat.lt_of_lt_of_le hlt hf)))

/-- The executable ancestor test agrees with the relation on well-formed trees. -/
theorem isAnc_iff (W : WF P) (i j : Nat) : isAnc P i j = true ↔ Anc P i j :=
  ⟨isAncF_sound j j, fun h => isAncF_complete W h j (Nat.le_refl _)⟩

/-- Ancestors of an old node are the same in an extension which keeps the parent pointers. -/
theorem anc_ext {P P' : Part α σ} (W : WF P)
    (hpar : ∀ (j : Nat) (nd : Node α σ), P.nodes[j]? = some nd →
      ∃ nd', P'.nodes[j]? = some nd' ∧ nd'.parent = nd.parent)
    {i j : Nat} (hj : j < P.nodes.length) : Anc P' i j ↔ Anc P i j := by
  constructor
  · intro h
    induction h with
    | refl => exact Anc.refl _
    | @up j p nd' a b _ ih =>
      obtain ⟨nd, hnd⟩ : ∃ nd, P.nodes[j]? = some nd := ⟨_, List.getElem?_eq_getElem hj⟩
      obtain ⟨nd'', g1, g2⟩ := hpar j nd hnd
      obtain rfl := getElem?_inj g1 a
      rw [b] at g2
      have hlt := parent_lt W hnd g2.symm
      exact Anc.up hnd g2.symm (ih (by omega))
  · intro h
    induction h with
    | refl => exact Anc.refl _
    | @up j p nd a b _ ih =>
      obtain ⟨nd', g1, g2⟩ := hpar j nd a
      have hlt := parent_lt W a b
      exact Anc.up g1 (g2.trans b) (ih (by omega))

end TBA
end PyXAB
