/-
  StroquOOL: `lastPoint` and `buildCandidates` in closed form (`*_ok_iff`), idempotence of
  `lastPoint`; the candidate of a budget is `pickLast` over the eligible cells of `chosen`
  (`candFor_eq`), and `pickLast` returns the last maximum of its list (`IsLastMax`).
-/
import PyXABProofs.Lemmas.SK_Basic

namespace PyXAB
namespace SK
open Tree TBA StroquOOL

variable {α R S : Type}

theorem mem_eligibles {s : StroquOOL α R S} {p c : Nat} :
    some c ∈ eligibles s p ↔ c ∈ s.chosen ∧ eligible s.P p c = true := by
  simp only [eligibles, List.mem_map]
  constructor
  · rintro ⟨x, hx, e⟩
    split at e
    · cases e; exact ⟨hx, ‹_›⟩
    · cases e
  · rintro ⟨h1, h2⟩
    exact ⟨c, h1, if_pos h2⟩

section model
variable [LE S] [DecidableLE S]

theorem lastPoint_ok_iff (cfg : SkCfg R S) (s s' : StroquOOL α R S) (v : Nat) :
    lastPoint cfg s = .ok (s', v) ↔
      (∀ c ∈ s.candidate, ∃ id, c = some id ∧ id < s.P.nodes.length) ∧
        (pickLast (cmean cfg s.P) s.candidate (cfg.negInf, none)).2 = some v ∧
        s' = { s with P := refreshP cfg s.P s.candidate } := by
  rw [lastPoint_eq, ListAux.bind_eq_ok]
  constructor
  · rintro ⟨⟨P, b, mx⟩, hf, h⟩
    obtain ⟨hv, e⟩ := (lp_fold cfg _ _ _ _).1 hf
    obtain ⟨rfl, e'⟩ := Prod.mk.inj e
    rw [← e']
    cases mx with
    | none => nomatch h
    | some w => cases h; exact ⟨hv, rfl, rfl⟩
  · rintro ⟨hv, hp, rfl⟩
    refine ⟨_, (lp_fold cfg _ _ _ _).2 ⟨hv, rfl⟩, ?_⟩
    rw [show pickLast (cmean cfg s.P) s.candidate (cfg.negInf, none) = (_, some v) from
      Prod.ext rfl hp]
    rfl

theorem lastPoint_nil (cfg : SkCfg R S) (s : StroquOOL α R S) (h : s.candidate = []) :
    lastPoint cfg s = .error .noneDeref := by
  rw [lastPoint_eq, h]; rfl

theorem lastPoint_none (cfg : SkCfg R S) (s : StroquOOL α R S)
    (hv : ∀ c, some c ∈ s.candidate → c < s.P.nodes.length) (h : none ∈ s.candidate) :
    lastPoint cfg s = .error .noneDeref := by
  rw [lastPoint_eq, lp_fold_none cfg s.candidate s.P _ hv h]; rfl

theorem lastPoint_idem (cfg : SkCfg R S) {s s' : StroquOOL α R S} {v : Nat}
    (h : lastPoint cfg s = .ok (s', v)) : lastPoint cfg s' = .ok (s', v) := by
  obtain ⟨hv, hp, rfl⟩ := (lastPoint_ok_iff cfg s s' v).1 h
  refine (lastPoint_ok_iff ..).2 ⟨fun c hc => ?_, ?_, ?_⟩
  · rw [refreshP_eq, (prel_onCands ..).len]; exact hv c hc
  · rw [cmean_refreshP]; exact hp
  · rw [refreshP_eq, refreshP_eq, onCands_idem (compMean_idem cfg)]

/-- `lastPoint` looks at `P` and `candidate` only: a state it leaves as it is stays so whatever
happens to the other fields -/
theorem lastPoint_fixed (cfg : SkCfg R S) {s s2 : StroquOOL α R S} {v : Nat}
    (h : lastPoint cfg s = .ok (s, v)) (hP : s2.P = s.P) (hc : s2.candidate = s.candidate) :
    lastPoint cfg s2 = .ok (s2, v) := by
  obtain ⟨hv, hp, e⟩ := (lastPoint_ok_iff cfg s s v).1 h
  have eP : s.P = refreshP cfg s.P s.candidate := congrArg StroquOOL.P e
  refine (lastPoint_ok_iff ..).2 ⟨?_, ?_, ?_⟩
  · rw [hc, hP]; exact hv
  · rw [hc, hP]; exact hp
  · rw [hP, hc, ← eP, ← hP, ← hc]

theorem buildCandidates_ok_iff (cfg : SkCfg R S) (s s' : StroquOOL α R S) :
    buildCandidates cfg s = .ok s' ↔
      (∀ c ∈ candList cfg s, c ≠ none) ∧
        s' = { s with candidate := candList cfg s, P := clearP s.P (candList cfg s) } := by
  rw [buildCandidates_eq, rs_fold]
  by_cases hn : none ∈ candList cfg s
  · rw [if_pos hn]
    exact ⟨fun h => (nomatch h), fun h => absurd rfl (h.1 none hn)⟩
  · rw [if_neg hn]
    exact ⟨fun h => ⟨fun c hc e => hn (e ▸ hc), (Except.ok.inj h).symm⟩, fun h => h.2 ▸ rfl⟩

theorem buildCandidates_none (cfg : SkCfg R S) (s : StroquOOL α R S)
    (h : none ∈ candList cfg s) : buildCandidates cfg s = .error .noneDeref := by
  rw [buildCandidates_eq, rs_fold, if_pos h]; rfl

theorem candList_length (cfg : SkCfg R S) (s : StroquOOL α R S) :
    (candList cfg s).length = cfg.pmax + 1 := by
  rw [candList, List.length_map, List.length_range]

theorem candList_ne_nil (cfg : SkCfg R S) (s : StroquOOL α R S) : candList cfg s ≠ [] :=
  fun h => nomatch (congrArg List.length h).symm.trans (candList_length cfg s)

/-- the selection loop of `buildCandidates` is `pickLast` over the eligible cells -/
theorem candFold_eq (d : S) (P : Part α (SkSt R S)) (p : Nat) (l : List Nat)
    (acc : S × Option Nat) :
    l.foldl (fun (acc : S × Option Nat) id =>
      match P.nodes[id]? with
      | none => acc
      | some nd =>
        if nd.st.visited ≥ 2 ^ p then
          if acc.1 ≤ nd.st.mean then (nd.st.mean, some id) else acc
        else acc) acc =
    pickLast (meanAt d P) (l.map (fun id => if eligible P p id then some id else none)) acc := by
  induction l generalizing acc with
  | nil => rfl
  | cons x l ih =>
    rw [List.foldl_cons, List.map_cons, ih]
    cases hx : P.nodes[x]? with
    | none =>
      have : eligible P p x = false := by simp only [eligible, hx]
      simp only [this, Bool.false_eq_true, if_false]; rfl
    | some nd =>
      have hm : meanAt d P x = nd.st.mean := by simp only [meanAt, hx]
      have : eligible P p x = decide (nd.st.visited ≥ 2 ^ p) := by simp only [eligible, hx]
      by_cases hv : nd.st.visited ≥ 2 ^ p
      · simp only [this, hv, decide_true, if_true, pickLast_some, hm]
      · simp only [this, hv, decide_false, Bool.false_eq_true, if_false]; rfl

theorem candFor_eq (cfg : SkCfg R S) (s : StroquOOL α R S) (p : Nat) :
    candFor cfg s p =
      (pickLast (meanAt cfg.negInf s.P) (eligibles s p) (cfg.negInf, none)).2 :=
  congrArg Prod.snd (candFold_eq cfg.negInf s.P p s.chosen (cfg.negInf, none))

/-- a candidate is a cell of `chosen` (picked among its eligible entries) and a cell of the tree -/
theorem candList_mem (cfg : SkCfg R S) (s : StroquOOL α R S) {id : Nat}
    (h : some id ∈ candList cfg s) : id ∈ s.chosen ∧ id < s.P.nodes.length := by
  obtain ⟨p, _, hp⟩ := List.mem_map.1 h
  rw [candFor_eq] at hp
  obtain ⟨h1, h2⟩ := mem_eligibles.1 ((pickLast_mem _ _ _ _ hp).resolve_left nofun)
  refine ⟨h1, ?_⟩
  unfold eligible at h2
  cases hx : s.P.nodes[id]? with
  | none => rw [hx] at h2; cases h2
  | some nd => exact lt_length_of_getElem? hx

end model

section order
variable [LinearOrder S]

theorem forall_some_cons {p : Nat → Prop} {x : Nat} {l : List (Option Nat)} (hx : p x)
    (hl : ∀ c, some c ∈ l → p c) : ∀ c, some c ∈ some x :: l → p c :=
  fun c hc => (List.mem_cons.1 hc).elim (fun e => Option.some.inj e ▸ hx) (hl c)

/-- Either no entry reaches `best` and the accumulator is returned, or the loop returns the last
entry `v` with maximal score: `f v ≥ best`, earlier entries are `≤`, later ones `<`. -/
theorem pickLast_spec (f : Nat → S) (cands : List (Option Nat)) (best : S) (mx : Option Nat) :
    (pickLast f cands (best, mx) = (best, mx) ∧ ∀ c, some c ∈ cands → f c < best) ∨
    (∃ l1 l2 v, cands = l1 ++ some v :: l2 ∧ pickLast f cands (best, mx) = (f v, some v) ∧
      best ≤ f v ∧ (∀ c, some c ∈ l1 → f c ≤ f v) ∧ (∀ c, some c ∈ l2 → f c < f v)) := by
  induction cands generalizing best mx with
  | nil => exact Or.inl ⟨rfl, fun _ h => (nomatch h)⟩
  | cons x rest ih =>
    cases x with
    | none =>
      have hmem : ∀ {l : List (Option Nat)} {c : Nat}, some c ∈ none :: l → some c ∈ l :=
        fun h => (List.mem_cons.1 h).resolve_left nofun
      rcases ih best mx with ⟨h1, h2⟩ | ⟨l1, l2, v, h1, h2, h3, h4, h5⟩
      · exact Or.inl ⟨h1, fun c hc => h2 c (hmem hc)⟩
      · exact Or.inr ⟨none :: l1, l2, v, congrArg _ h1, h2, h3, fun c hc => h4 c (hmem hc), h5⟩
    | some x =>
      rw [pickLast_some]
      by_cases hb : best ≤ f x
      · rw [if_pos hb]
        right
        rcases ih (f x) (some x) with ⟨h1, h2⟩ | ⟨l1, l2, v, h1, h2, h3, h4, h5⟩
        · exact ⟨[], rest, x, rfl, h1, hb, fun _ h => (nomatch h), h2⟩
        · exact ⟨some x :: l1, l2, v, congrArg _ h1, h2, le_trans hb h3,
            forall_some_cons h3 h4, h5⟩
      · rw [if_neg hb]
        have hlt : f x < best := not_le.1 hb
        rcases ih best mx with ⟨h1, h2⟩ | ⟨l1, l2, v, h1, h2, h3, h4, h5⟩
        · exact Or.inl ⟨h1, forall_some_cons hlt h2⟩
        · exact Or.inr ⟨some x :: l1, l2, v, congrArg _ h1, h2, h3,
            forall_some_cons (le_of_lt (lt_of_lt_of_le hlt h3)) h4, h5⟩

theorem pickLast_isLastMax (f : Nat → S) (cands : List (Option Nat)) (b : S) {v : Nat}
    (h : (pickLast f cands (b, none)).2 = some v) : IsLastMax f cands v := by
  rcases pickLast_spec f cands b none with ⟨h1, _⟩ | ⟨l1, l2, w, h1, h2, _, h4, h5⟩
  · rw [h1] at h; cases h
  · rw [h2] at h
    cases h
    exact ⟨l1, l2, h1, h4, h5⟩

theorem pickLast_isSome (f : Nat → S) (cands : List (Option Nat)) (b : S) (hb : ∀ x, b ≤ x)
    {c : Nat} (hc : some c ∈ cands) : ∃ v, (pickLast f cands (b, none)).2 = some v := by
  rcases pickLast_spec f cands b none with ⟨_, h2⟩ | ⟨l1, l2, w, h1, h2, _, h4, h5⟩
  · exact absurd (hb (f c)) (not_le.2 (h2 c hc))
  · exact ⟨w, by rw [h2]⟩

theorem IsLastMax.mem {f : Nat → S} {cands : List (Option Nat)} {v : Nat}
    (h : IsLastMax f cands v) : some v ∈ cands := by
  obtain ⟨l1, l2, e, _⟩ := h
  rw [e]
  exact List.mem_append_right _ (List.mem_cons_self ..)

theorem IsLastMax.le {f : Nat → S} {cands : List (Option Nat)} {v : Nat}
    (h : IsLastMax f cands v) {c : Nat} (hc : some c ∈ cands) : f c ≤ f v := by
  obtain ⟨l1, l2, e, h1, h2⟩ := h
  rw [e] at hc
  rcases List.mem_append.1 hc with hc | hc
  · exact h1 c hc
  · exact forall_some_cons (p := fun c => f c ≤ f v) (le_refl _)
      (fun c hc => le_of_lt (h2 c hc)) c hc

end order

end SK
end PyXAB
