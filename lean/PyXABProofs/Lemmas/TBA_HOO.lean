/-
  T-HOO: `init`, `pull`, `receive` never raise from invariant states, keep the invariant, and
  `receive` has the extensional effect `RecvEffect`.
-/
import PyXABProofs.Lemmas.TBA_Recv

namespace PyXAB
namespace TBA.HOO
open Tree TBA PyXAB.HOO
variable {α R S : Type}

theorem good_st0 (cfg : HOOCfg R S) : Good cfg.meanOf (st0 cfg) :=
  ⟨rfl, fun h => absurd rfl h⟩

theorem computeU_soft (cfg : HOOCfg R S) (nd : Node α (TBSt R S)) :
    Soft cfg.meanOf nd.st (computeU cfg nd) := by
  unfold computeU
  split
  · exact ⟨rfl, rfl, rfl, rfl, Or.inl rfl⟩
  · next h => exact ⟨rfl, rfl, rfl, rfl, Or.inr ⟨h, rfl⟩⟩

theorem creditPass_rel (cfg : HOOCfg R S) (P : Part α (TBSt R S)) (path : List Nat)
    (hn : path.Nodup) (r : R) :
    PRel (CreditR cfg.meanOf none r (· ∈ path)) P (creditPass cfg P path r) := by
  refine (foldl_modifySt_nodup (credit cfg r) path P hn).trans'
    (forListed_rel (closed_SoftR cfg.meanOf) (computeU cfg)
      (fun i nd nd' _ h => show Soft _ _ _ from h ▸ computeU_soft cfg nd) _) ?_
  intro i a b c _ _ h1 h2
  refine CreditR.soft_right ⟨fun (hi : i ∈ path) => ?_, fun (hi : ¬ i ∈ path) => ?_⟩ h2
  · rw [h1, if_pos hi]
    exact ⟨rfl, rfl, rfl, rfl, rfl⟩
  · rw [h1, if_neg hi]
    exact Soft.rfl' _ _

variable [Add α] [Sub α] [Mul α] [Div α] [OfNat α 2] [NatCast α]
variable [LE S] [DecidableLE S] [Max S] [Min S] [Inhabited S] [Inhabited R]

/-- `T_HOO.__init__` succeeds given one well-formed draw and establishes the invariant. -/
theorem init_ok (cfg : HOOCfg R S) (k : Kind) (domain : Box α) {ds : List (Draw α)}
    (hds : DrawsOK k domain.length ds) :
    ∃ (s0 : HOO α R S) (ds' : List (Draw α)), init cfg k domain ds = .ok (s0, ds') ∧ Inv cfg s0 ∧
      s0.P.kind = k ∧ dimn s0.P = domain.length ∧ s0.P.isLeaf 0 = false ∧ s0.path = none ∧
      s0.iteration = 0 ∧
      ∀ (i : Nat) (nd : Node α (TBSt R S)), s0.P.nodes[i]? = some nd →
        nd.st = st0 cfg ∧ nd.depth ≤ 1 := by
  obtain ⟨P1, ds', e1, W1, h1, h2, h3, h4⟩ := init_expand k domain (st0 cfg) hds
  exact ⟨_, ds', init_eq_ok.2 ⟨P1, e1, rfl⟩,
    ⟨W1, fun i nd hi => (h4 i nd hi).1 ▸ good_st0 cfg⟩, h1, h2, h3, rfl, rfl, h4⟩

/-- `pull` succeeds from an invariant state: the stored path is a root-to-leaf chain. -/
theorem pull_ok (cfg : HOOCfg R S) {s : HOO α R S} (hI : Inv cfg s) :
    ∃ path v, pull s = .ok ({ s with path := some path }, v) ∧
      Ready cfg { s with path := some path } path v := by
  obtain ⟨path, v, nd, e1, e2, e3, e4, e5⟩ :=
    descend_root_ok hI.wf (fun _ => Except.ok true) (fun _ _ _ => ⟨true, rfl⟩)
  exact ⟨path, v, pull_eq_ok.2 ⟨path, e1, e3, rfl⟩, hI, rfl, e2, e3,
    isLeaf_iff.2 ⟨nd, e4, e5.resolve_right nofun⟩⟩

/-- `receive` after a `pull` succeeds given well-formed draws, keeps the invariant and has the
effect `RecvEffect`: the cells of the path are credited, and the pulled leaf is split iff
`expandOK (depth last)`. -/
theorem receive_ok (cfg : HOOCfg R S) {s : HOO α R S} {path : List Nat} {last : Nat}
    (hR : Ready cfg s path last) (r : R) {ds : List (Draw α)}
    (hds : DrawsOK s.P.kind (dimn s.P) ds) :
    ∃ s' ds', receive cfg s r ds = .ok (s', ds') ∧ ∃ nd, s.P.nodes[last]? = some nd ∧
      Inv cfg s' ∧ s'.path = s.path ∧ s'.iteration = s.iteration + 1 ∧
      RecvEffect cfg.meanOf none r (st0 cfg) (· ∈ path) s.P s'.P last (cfg.expandOK nd.depth) := by
  have W := hR.inv.wf
  obtain ⟨nd, hnd, hleaf⟩ := isLeaf_iff.1 hR.leaf
  have h12 := creditPass_rel cfg s.P path (DownChain.nodup W hR.isPath.2) r
  obtain ⟨nd2, n1, n2, _⟩ := h12.node last nd hnd
  obtain ⟨P3, ds', x1, x2, W3⟩ := expand_if (cfg.expandOK nd2.depth) (h12.wf W) (st0 cfg) n1
    (fun _ => n2.children.trans hleaf) (by rw [h12.kind, h12.dimn_eq]; exact hds)
  obtain ⟨P4, b1, b2⟩ := backward_rel cfg.negInf P3 W3.layers_len
  have E := RecvEffect.build (s0 := st0 cfg) rfl h12 x2 b2
  rw [n2.depth] at E
  exact ⟨_, ds', receive_eq_ok.2 ⟨path, last, nd2, P3, P4, hR.stored, hR.lastEq, n1, x1, b1, rfl⟩,
    nd, hnd, E.pinv (b2.wf W3) (good_st0 cfg) hR.inv, rfl, rfl, E⟩

end TBA.HOO
end PyXAB
