/-
  The invariant `Core` of SequOOL: what follows from it, and that the steps of a round keep it:
  the expansion of the selected cell, handing out its next child, completing an opening with
  the last child, and the credit of a reward.
-/
import PyXABProofs.Lemmas.SQ_Tree

set_option linter.unusedSectionVars false

namespace PyXAB
namespace SQ
open Tree TBA

variable {α S : Type} [Add α] [Sub α] [Mul α] [Div α] [OfNat α 2] [NatCast α]
variable [LinearOrder S] [Inhabited S] {negInf : S}

theorem view_of_st_eq {P P' : Part α (SqSt S)} {i : Nat} {nd nd' : Node α (SqSt S)}
    (h : P.nodes[i]? = some nd) (h' : P'.nodes[i]? = some nd') (e : nd'.st = nd.st) :
    view P i = view P' i := by
  simp only [view, h, h', Option.map_some, e]

namespace Core
variable {op : Bool} {mr : Nat} {s : SequOOL α S}

/-- `Core` reads neither `iteration` nor `curr`. -/
theorem iter (C : Core negInf op mr s) (t : Nat) (c : Option Nat) :
    Core negInf op mr { s with iteration := t, curr := c } :=
  ⟨C.wf, C.K_pos, C.cd_le, C.cd_le_depth, C.pdepth_le, C.loc_lt, C.chosen_eq, C.mr_le, C.len,
    C.cd0, C.rew, C.opened_ch, C.ch_depth, C.ch_opened, C.opening, C.unopened, C.budget, C.sched⟩

theorem len_false (C : Core negInf false mr s) : s.P.nodes.length = 1 + s.chosen.length := C.len

theorem len_true (C : Core negInf true mr s) :
    s.P.nodes.length = 1 + s.chosen.length + (K s.P - s.loc) := C.len

theorem loc_le (C : Core negInf true mr s) : s.loc ≤ s.chosen.length := by
  obtain ⟨_, _, _, _, _, h, _⟩ := C.opening rfl
  exact h

theorem child (C : Core negInf true mr s) {c : Nat}
    (hc : c ∈ List.range' (1 + s.chosen.length - s.loc) (K s.P)) :
    ∃ cn, s.P.nodes[c]? = some cn ∧ cn.depth = s.currDepth + 1 := by
  obtain ⟨t, tn, t1, t2, _, _, t5, _⟩ := C.opening rfl
  obtain ⟨_, cn, _, _, _, _, c1, _, _, c2⟩ := C.wf.child_facts t1 t5 hc
  exact ⟨cn, c1, by rw [c2, t2]⟩

theorem first_child (C : Core negInf true mr s) :
    1 + s.chosen.length - s.loc ∈ List.range' (1 + s.chosen.length - s.loc) (K s.P) := by
  have := C.K_pos
  rw [List.mem_range'_1]; omega

/-- the cell being opened is known by its child list -/
theorem opening_at (C : Core negInf true mr s) {t : Nat} {tn : Node α (SqSt S)}
    (ht : s.P.nodes[t]? = some tn)
    (hch : tn.children = some (List.range' (1 + s.chosen.length - s.loc) (K s.P))) :
    tn.depth = s.currDepth ∧ s.currDepth ≤ s.hmax ∧ s.loc ≤ s.chosen.length ∧
      (1 ≤ s.currDepth → tn.st.opened = false ∧ ∃ layer num,
        s.P.layers[s.currDepth]? = some layer ∧
        SequOOL.scan s.P layer 0 negInf none = .ok (num, some t)) := by
  obtain ⟨t', tn', t1, t2, t3, t4, t5, t6⟩ := C.opening rfl
  obtain rfl : t' = t := Classical.byContradiction fun hne =>
    C.wf.children_disjoint t1 ht t5 hch hne _ C.first_child C.first_child
  obtain rfl := getElem?_inj t1 ht
  exact ⟨t2, t3, t4, t6⟩

/-- nothing below the current depth has been expanded or flagged -/
theorem below (C : Core negInf op mr s) {i : Nat} {nd : Node α (SqSt S)}
    (hi : s.P.nodes[i]? = some nd) (hd : s.currDepth < nd.depth) :
    nd.children = none ∧ nd.st.opened = false := by
  have hc : nd.children = none := by
    cases hc : nd.children with
    | none => rfl
    | some cs => exact absurd hd (Nat.not_lt.2 (C.ch_depth i nd cs hi hc).2)
  refine ⟨hc, ?_⟩
  cases ho : nd.st.opened with
  | false => rfl
  | true =>
    obtain ⟨_, cs, a, _⟩ := C.opened_ch i nd hi ho
    rw [hc] at a; cases a

/-- the cells of the current search layer have all been handed out -/
theorem layer_le (C : Core negInf op mr s) (hcd : 1 ≤ s.currDepth) {layer : List Nat}
    (hl : s.P.layers[s.currDepth]? = some layer) {i : Nat} (hi : i ∈ layer) :
    1 ≤ i ∧ i ≤ s.chosen.length := by
  obtain ⟨nd, n1, n2⟩ := (C.wf.mem_layer_iff hl i).1 hi
  constructor
  · apply Nat.pos_of_ne_zero
    rintro rfl
    obtain ⟨r, r1, r2, _⟩ := C.wf.root
    obtain rfl := getElem?_inj r1 n1
    exact absurd (n2.symm.trans r2) (Nat.ne_of_gt hcd)
  · -- a cell beyond the handed-out ones is a pending child of the cell being opened, one level down
    apply Nat.le_of_not_lt
    intro hlt
    have hlen := lt_length_of_getElem? n1
    cases op with
    | false => rw [C.len_false] at hlen; omega
    | true =>
      have := C.loc_le
      have := C.loc_lt
      rw [C.len_true] at hlen
      obtain ⟨cn, c1, c2⟩ := C.child (c := i) (by rw [List.mem_range'_1]; omega)
      obtain rfl := getElem?_inj c1 n1
      exact absurd (n2.symm.trans c2) (Nat.ne_of_lt (Nat.lt_succ_self _))

theorem expand {t : Nat} {tn : Node α (SqSt S)} {P1 : Part α (SqSt S)}
    (C : Core negInf false mr s) (hcd : s.currDepth ≤ s.hmax) (hloc : s.loc = 0)
    (ht : s.P.nodes[t]? = some tn) (hdep : tn.depth = s.currDepth) (hleaf : tn.children = none)
    (St : Step s.P P1 SequOOL.st0 t tn)
    (hsc : 1 ≤ s.currDepth → tn.st.opened = false ∧ ∃ layer num,
      s.P.layers[s.currDepth]? = some layer ∧
      SequOOL.scan s.P layer 0 negInf none = .ok (num, some t)) :
    Core negInf true mr { s with P := P1 } := by
  have W := C.wf
  have hK : K P1 = K s.P := St.K_eq W ht
  have hn := C.len_false
  have hcs : List.range' s.P.nodes.length (K s.P) =
      List.range' (1 + s.chosen.length - s.loc) (K s.P) := by rw [hloc, hn]; rfl
  have hdepth : s.P.depth ≤ P1.depth ∧ P1.depth ≤ s.hmax + 1 := by
    rcases St.layers with ⟨e1, _, e3⟩ | ⟨_, _, e3⟩ <;> rw [e3]
    · exact ⟨Nat.le_succ _, by rw [← e1, hdep]; exact Nat.succ_le_succ hcd⟩
    · exact ⟨Nat.le_refl _, C.pdepth_le⟩
  -- the current layer and what the scan reads in it are untouched
  have hlayer : ∀ {layer}, s.P.layers[s.currDepth]? = some layer →
      P1.layers[s.currDepth]? = some layer ∧ ∀ id ∈ layer, view s.P id = view P1 id := by
    intro layer hl
    refine ⟨(step_layer_keep St W ht (Nat.le_of_eq hdep.symm)).trans hl, fun id hid => ?_⟩
    obtain ⟨nd, n1, _⟩ := (W.mem_layer_iff hl id).1 hid
    obtain ⟨nd', m1, _, _, _, _, m2, _⟩ := St.pres ht n1
    exact view_of_st_eq n1 m1 m2
  refine
    { wf := St.wf W ht hleaf C.K_pos
      K_pos := ?K_pos
      cd_le := C.cd_le
      cd_le_depth := Nat.le_trans C.cd_le_depth hdepth.1
      pdepth_le := hdepth.2
      loc_lt := ?loc_lt
      chosen_eq := C.chosen_eq
      mr_le := C.mr_le
      len := ?len
      cd0 := C.cd0
      rew := ?rew
      opened_ch := ?opened_ch
      ch_depth := ?ch_depth
      ch_opened := ?ch_opened
      opening := ?opening
      unopened := ?unopened
      budget := ?budget
      sched := ?sched } <;> dsimp only [pend]
  case K_pos => rw [hK]; exact C.K_pos
  case loc_lt => rw [hK]; exact C.loc_lt
  case len => rw [St.len, hn, hK, hloc]; rfl
  case rew =>
    intro i nd' hi
    rcases St.inv ht hi with ⟨x, h0, _, _, _, _, hst, _⟩ | ⟨j, _, rfl, _, _, _, _, _, hst⟩
    · rw [hst]; exact C.rew i x h0
    · have := C.mr_le
      rw [hst]
      exact ⟨fun _ _ => by omega, fun _ => rfl⟩
  case opened_ch =>
    intro i nd' hi ho
    rcases St.inv ht hi with ⟨x, h0, hd, _, _, _, hst, hne, _⟩ | ⟨j, _, _, _, _, _, _, _, hst⟩
    · rw [hst] at ho
      obtain ⟨a1, cs, a2, a3⟩ := C.opened_ch i x h0 ho
      have hit : i ≠ t := by
        rintro rfl
        obtain rfl := getElem?_inj h0 ht
        rw [hleaf] at a2; cases a2
      exact ⟨hd ▸ a1, cs, (hne hit).trans a2, a3⟩
    · rw [hst] at ho; cases ho
  case ch_depth =>
    intro i nd' cs hi hc
    rcases St.inv ht hi with ⟨x, h0, hd, _, _, _, _, hne, _⟩ | ⟨j, _, _, _, _, _, hch, _⟩
    · by_cases hit : i = t
      · subst hit
        obtain rfl := getElem?_inj h0 ht
        rw [hd, hdep]; exact ⟨hcd, Nat.le_refl _⟩
      · rw [hd]; exact C.ch_depth i x cs h0 ((hne hit).symm.trans hc)
    · rw [hch] at hc; cases hc
  case ch_opened =>
    rw [hK]
    intro i nd' cs hi hc hd1
    rcases St.inv ht hi with ⟨x, h0, hd, _, _, _, hst, hne, heq⟩ | ⟨j, _, _, _, _, _, hch, _⟩
    · by_cases hit : i = t
      · exact Or.inr ⟨rfl, Option.some.inj (hc.symm.trans ((heq hit).trans (congrArg _ hcs)))⟩
      · rcases C.ch_opened i x cs h0 ((hne hit).symm.trans hc) (hd ▸ hd1) with h | ⟨h, _⟩
        · left; rw [hst]; exact h
        · cases h
    · rw [hch] at hc; cases hc
  case opening =>
    rw [hK]
    intro _
    refine ⟨t, _, St.atp, hdep, hcd, hloc ▸ Nat.zero_le _, congrArg _ hcs, fun h1 => ?_⟩
    obtain ⟨a1, layer, num, a2, a3⟩ := hsc h1
    obtain ⟨b1, b2⟩ := hlayer a2
    exact ⟨a1, layer, num, b1, (scan_congr layer 0 negInf none b2).trans a3⟩
  case unopened =>
    intro h1 h2
    obtain ⟨layer, id, a1, a2, a3⟩ := C.unopened h1 h2
    obtain ⟨b1, b2⟩ := hlayer a1
    exact ⟨layer, id, b1, a2, (isUnopened_of_view (b2 id a2)).trans a3⟩
  case budget =>
    intro h1
    obtain ⟨b, b1, b2⟩ := C.budget h1
    refine ⟨b, b1, fun h2 => ?_⟩
    obtain ⟨c1, c2, c3⟩ := b2 h2
    have := expCount_step_eq St W ht hleaf
    rw [hdep] at this
    exact ⟨c1, c2, by rw [this, Nat.add_right_comm, c3]; rfl⟩
  case sched =>
    intro h h1 h2
    rw [expCount_step_lt St W ht (hdep ▸ h2)]
    exact C.sched h h1 h2

theorem opened_ch_succ (C : Core negInf op mr s) (i : Nat) (nd : Node α (SqSt S))
    (hi : s.P.nodes[i]? = some nd) (ho : nd.st.opened = true) :
    1 ≤ nd.depth ∧ ∃ cs, nd.children = some cs ∧ ∀ c ∈ cs, c ≤ s.chosen.length + 1 := by
  obtain ⟨a1, cs, a2, a3⟩ := C.opened_ch i nd hi ho
  exact ⟨a1, cs, a2, fun c hc => Nat.le_succ_of_le (a3 c hc)⟩

/-- not the last child: the opening continues -/
theorem next (C : Core negInf true mr s) (hlt : s.loc + 1 < K s.P) (cu : Option Nat) :
    Core negInf true mr
      { s with loc := s.loc + 1, chosen := s.chosen ++ [s.chosen.length + 1], curr := cu } := by
  obtain ⟨t, tn, t1, t2, t3, t4, t5, t6⟩ := C.opening rfl
  have esub : 1 + (s.chosen.length + 1) - (s.loc + 1) = 1 + s.chosen.length - s.loc :=
    Nat.add_sub_add_right (1 + s.chosen.length) 1 s.loc
  refine
    { wf := C.wf
      K_pos := C.K_pos
      cd_le := C.cd_le
      cd_le_depth := C.cd_le_depth
      pdepth_le := C.pdepth_le
      loc_lt := hlt
      chosen_eq := ?chosen_eq
      mr_le := ?mr_le
      len := ?len
      cd0 := ?cd0
      rew := C.rew
      opened_ch := ?opened_ch
      ch_depth := C.ch_depth
      ch_opened := ?ch_opened
      opening := ?opening
      unopened := C.unopened
      budget := C.budget
      sched := C.sched } <;>
    dsimp only [pend] <;> rw [List.length_append, List.length_singleton]
  case chosen_eq => exact chosen_snoc C.chosen_eq
  case mr_le => exact Nat.le_succ_of_le C.mr_le
  case len => rw [C.len_true, if_pos rfl]; omega
  case cd0 => intro h; rw [C.cd0 h]
  case opened_ch => exact C.opened_ch_succ
  case ch_opened => rw [esub]; exact C.ch_opened
  case opening => rw [esub]; exact fun _ => ⟨t, tn, t1, t2, t3, Nat.succ_le_succ t4, t5, t6⟩

/-- The last child: the opening of `t` is complete.  `P'` is `s.P` with the flag of `t` set,
unless `t` is the root.  Either the next depth is entered with its full budget, or (at a search
depth with another unopened cell) the budget is decremented and not yet spent. -/
theorem last {t cd' b' : Nat} {tn : Node α (SqSt S)} {P' : Part α (SqSt S)}
    (C : Core negInf true mr s) (hlast : s.loc + 1 = K s.P) (ht : s.P.nodes[t]? = some tn)
    (hch : tn.children = some (List.range' (1 + s.chosen.length - s.loc) (K s.P)))
    (R : PRel (fun j nd nd' => nd'.st =
      if j = t ∧ 1 ≤ s.currDepth then { nd.st with opened := true } else nd.st) s.P P')
    (hd : cd' = s.currDepth + 1 ∧ b' = s.hmax / (s.currDepth + 1) ∨
      cd' = s.currDepth ∧ 1 ≤ s.currDepth ∧ (∃ b, s.budget = some b ∧ b' = b - 1 ∧ b' ≠ 0) ∧
        ∃ layer id, s.P.layers[s.currDepth]? = some layer ∧ id ∈ layer ∧ id ≠ t ∧
          isUnopened s.P id = true)
    (cu : Option Nat) :
    Core negInf false mr
      { s with P := P', loc := 0, chosen := s.chosen ++ [s.chosen.length + 1], curr := cu,
               currDepth := cd', budget := some b' } := by
  have hKl : K s.P - s.loc = 1 := by omega
  obtain ⟨t2, t3, t4, -⟩ := C.opening_at ht hch
  have W := C.wf
  have hK : K P' = K s.P := R.K_eq
  obtain ⟨cn, c1, c2⟩ := C.child C.first_child
  have hcd' : s.currDepth ≤ cd' ∧ cd' ≤ s.currDepth + 1 ∧ 1 ≤ cd' := by
    rcases hd with ⟨rfl, _⟩ | ⟨rfl, h, _⟩
    · exact ⟨Nat.le_succ _, Nat.le_refl _, Nat.succ_pos _⟩
    · exact ⟨Nat.le_refl _, Nat.le_succ _, h⟩
  have hbud : 1 ≤ s.currDepth → ∃ b, s.budget = some b ∧ 1 ≤ b ∧
      expCount s.P s.currDepth + b = s.hmax / s.currDepth + 1 := fun h1 => by
    obtain ⟨b, b1, b2⟩ := C.budget h1
    obtain ⟨b3, _, b5⟩ := b2 t3
    exact ⟨b, b1, b3, b5⟩
  -- an unflagged cell other than `t` stays unflagged
  have hun : ∀ {id nd}, s.P.nodes[id]? = some nd → id ≠ t → nd.st.opened = false →
      isUnopened P' id = true := by
    intro id nd n1 hne ho
    obtain ⟨nd', m1, _, hst⟩ := R.node id nd n1
    exact isUnopened_iff.2 ⟨nd', m1, by rw [hst, if_neg (fun h => hne h.1)]; exact ho⟩
  refine
    { wf := R.wf W
      K_pos := ?K_pos
      cd_le := Nat.le_trans hcd'.2.1 (Nat.succ_le_succ t3)
      cd_le_depth := ?cd_le_depth
      pdepth_le := ?pdepth_le
      loc_lt := ?loc_lt
      chosen_eq := ?chosen_eq
      mr_le := ?mr_le
      len := ?len
      cd0 := fun h => absurd h (Nat.ne_of_gt hcd'.2.2)
      rew := ?rew
      opened_ch := ?opened_ch
      ch_depth := ?ch_depth
      ch_opened := ?ch_opened
      opening := nofun
      unopened := ?unopened
      budget := ?budget
      sched := ?sched } <;>
    dsimp only [pend] <;> try rw [List.length_append, List.length_singleton]
  case K_pos => rw [hK]; exact C.K_pos
  case cd_le_depth =>
    rw [R.depth]; exact Nat.le_trans hcd'.2.1 (c2 ▸ W.depth_le _ cn c1)
  case pdepth_le => rw [R.depth]; exact C.pdepth_le
  case loc_lt => rw [hK]; exact C.K_pos
  case chosen_eq => exact chosen_snoc C.chosen_eq
  case mr_le => exact Nat.le_succ_of_le C.mr_le
  case len => rw [R.len, C.len_true, hKl]; rfl
  case rew =>
    intro i nd' hi
    obtain ⟨nd, n1, _, hst⟩ := R.bwd hi
    have : nd'.st.rewards = nd.st.rewards := by rw [hst]; split <;> rfl
    rw [this]; exact C.rew i nd n1
  case opened_ch =>
    intro i nd' hi ho
    obtain ⟨nd, n1, sk, hst⟩ := R.bwd hi
    rw [sk.depth, sk.children]
    by_cases hit : i = t ∧ 1 ≤ s.currDepth
    · obtain ⟨rfl, h1⟩ := hit
      obtain rfl := getElem?_inj n1 ht
      refine ⟨t2 ▸ h1, _, hch, fun c hc => ?_⟩
      rw [List.mem_range'_1] at hc; omega
    · rw [hst, if_neg hit] at ho
      exact C.opened_ch_succ i nd n1 ho
  case ch_depth =>
    intro i nd' cs hi hc
    obtain ⟨nd, n1, sk, _⟩ := R.bwd hi
    have := C.ch_depth i nd cs n1 (sk.children.symm.trans hc)
    rw [sk.depth]; exact ⟨this.1, Nat.le_trans this.2 hcd'.1⟩
  case ch_opened =>
    intro i nd' cs hi hc hd1
    obtain ⟨nd, n1, sk, hst⟩ := R.bwd hi
    rw [sk.depth] at hd1
    have hc' := sk.children.symm.trans hc
    left
    rw [hst]
    split
    · rfl
    · rename_i hit
      rcases C.ch_opened i nd cs n1 hc' hd1 with h | ⟨_, rfl⟩
      · exact h
      · have hi : i = t := Classical.byContradiction fun hne =>
          W.children_disjoint n1 ht hc' hch hne _ C.first_child C.first_child
        subst hi
        obtain rfl := getElem?_inj n1 ht
        exact absurd ⟨rfl, t2 ▸ hd1⟩ hit
  case unopened =>
    intro _ _
    rw [R.layers]
    rcases hd with ⟨e, _⟩ | ⟨e, _, _, layer, id, l1, l2, l3, l4⟩
    · obtain ⟨l, l1, l2⟩ := W.layer_of_node c1
      rw [c2, ← e] at l1
      refine ⟨l, _, l1, l2, hun c1 ?_ (C.below c1 (c2 ▸ Nat.lt_succ_self _)).2⟩
      rintro rfl
      obtain rfl := getElem?_inj c1 ht
      exact absurd (t2.symm.trans c2) (Nat.ne_of_lt (Nat.lt_succ_self _))
    · obtain ⟨nd, n1, n2⟩ := isUnopened_iff.1 l4
      exact ⟨layer, id, e ▸ l1, l2, hun n1 l3 n2⟩
  case budget =>
    intro _
    refine ⟨b', rfl, fun h2 => ?_⟩
    rw [expCount_prel R, if_neg Bool.false_ne_true]
    rcases hd with ⟨rfl, rfl⟩ | ⟨rfl, h1, ⟨b, e1, rfl, e3⟩, _⟩
    · rw [expCount_eq_zero W _ fun i nd cs hi hc hd => by
        rw [(C.below hi (hd ▸ Nat.lt_succ_self _)).1] at hc; cases hc]
      exact ⟨Nat.div_pos h2 (Nat.succ_pos _), Nat.le_refl _, Nat.zero_add _⟩
    · -- same depth: `expCount + b = hmax / h + 1` held with the opening of `t` counted as under
      -- way; it is complete now and `b' = b - 1 ≠ 0`, so `expCount + b' = hmax / h` with `1 ≤ b'`
      obtain ⟨b0, b1, b3, b5⟩ := hbud h1
      obtain rfl : b = b0 := Option.some.inj (e1.symm.trans b1)
      omega
  case sched =>
    intro h h1 h2
    rw [expCount_prel R]
    by_cases hh : h < s.currDepth
    · exact C.sched h h1 hh
    · obtain rfl : h = s.currDepth := Nat.le_antisymm
        (Nat.le_of_lt_succ (Nat.lt_of_lt_of_le h2 hcd'.2.1)) (Nat.le_of_not_lt hh)
      -- the depth just left: `expCount + b = hmax / h + 1` with `b ≥ 1` gives `expCount ≤ hmax / h`
      obtain ⟨b0, _, b3, b5⟩ := hbud h1
      omega

/-- The reward goes to the root, which the counter `mr` of received rewards does not cover, or to
the cell handed out last, which the counter covers from now on.  While a cell is being opened
(`op`), a child of it has been handed out (`0 < s.loc`): then the credited cell is not in the layer
being scanned, so the views the scan reads do not change. -/
theorem credit (C : Core negInf op mr s) (r : S) {c mr' : Nat}
    (hc : c = 0 ∧ mr' = mr ∨
      c = mr + 1 ∧ mr' = mr + 1 ∧ c = s.chosen.length ∧ (op = true → 0 < s.loc)) :
    Core negInf op mr' (SQ.credit s c r) := by
  have W := C.wf
  have R := PRel_modifySt s.P c (fun st : SqSt S => { st with rewards := st.rewards ++ [r] })
  have hK := R.K_eq
  have hflag : ∀ {i : Nat} {nd nd' : Node α (SqSt S)}, nd'.st =
      (if i = c then { nd.st with rewards := nd.st.rewards ++ [r] } else nd.st) →
      nd'.st.opened = nd.st.opened := fun h => by rw [h]; split <;> rfl
  -- the credited cell does not lie in a layer which is being scanned
  have hview : op = true → 1 ≤ s.currDepth → ∀ {layer}, s.P.layers[s.currDepth]? = some layer →
      ∀ id ∈ layer, view s.P id = view (SQ.credit s c r).P id := by
    intro hop h1 layer hl id hid
    subst hop
    obtain ⟨nd, n1, n2⟩ := (W.mem_layer_iff hl id).1 hid
    obtain ⟨nd', m1, _, hst⟩ := R.node id nd n1
    refine view_of_st_eq n1 m1 (hst.trans (if_neg ?_))
    rintro rfl
    rcases hc with ⟨rfl, _⟩ | ⟨_, _, e, hl⟩
    · exact absurd (C.layer_le h1 hl hid).1 (Nat.not_succ_le_zero 0)
    · obtain ⟨cn, c1, c2⟩ := C.child (c := id) (by
        rw [e]; exact mem_range'_sub (hl rfl) C.loc_lt C.loc_le)
      obtain rfl := getElem?_inj c1 n1
      exact absurd (n2.symm.trans c2) (Nat.ne_of_lt (Nat.lt_succ_self _))
  refine
    { wf := R.wf W
      K_pos := ?K_pos
      cd_le := C.cd_le
      cd_le_depth := C.cd_le_depth
      pdepth_le := C.pdepth_le
      loc_lt := ?loc_lt
      chosen_eq := C.chosen_eq
      mr_le := ?mr_le
      len := ?len
      cd0 := C.cd0
      rew := ?rew
      opened_ch := ?opened_ch
      ch_depth := ?ch_depth
      ch_opened := ?ch_opened
      opening := ?opening
      unopened := ?unopened
      budget := ?budget
      sched := ?sched } <;> dsimp only [SQ.credit, pend]
  case K_pos => rw [hK]; exact C.K_pos
  case loc_lt => rw [hK]; exact C.loc_lt
  case mr_le =>
    rcases hc with ⟨_, rfl⟩ | ⟨e1, e2, e3, _⟩
    · exact C.mr_le
    · exact Nat.le_of_eq (e2.trans (e1.symm.trans e3))
  case len => rw [R.len, hK]; exact C.len
  case rew =>
    intro i nd' hi
    obtain ⟨nd, n1, _, hst⟩ := R.bwd hi
    obtain ⟨a1, a2⟩ := C.rew i nd n1
    rw [hst]
    rcases hc with ⟨rfl, rfl⟩ | ⟨rfl, rfl, _⟩ <;> split <;> rename_i hic
    · subst hic
      exact ⟨fun h1 _ => absurd h1 (Nat.not_succ_le_zero 0), fun h => absurd h (Nat.not_lt_zero _)⟩
    · exact ⟨a1, a2⟩
    · subst hic
      refine ⟨fun _ _ => ?_, fun h => absurd h (Nat.lt_irrefl _)⟩
      rw [show nd.st.rewards = [] from a2 (Nat.lt_succ_self _)]; rfl
    · exact ⟨fun h1 h2 => a1 h1 (Nat.le_of_lt_succ (Nat.lt_of_le_of_ne h2 hic)),
        fun h => a2 (Nat.lt_of_succ_lt h)⟩
  case opened_ch =>
    intro i nd' hi ho
    obtain ⟨nd, n1, sk, hst⟩ := R.bwd hi
    rw [sk.depth, sk.children]
    exact C.opened_ch i nd n1 ((hflag hst).symm.trans ho)
  case ch_depth =>
    intro i nd' cs hi hcs
    obtain ⟨nd, n1, sk, _⟩ := R.bwd hi
    rw [sk.depth]
    exact C.ch_depth i nd cs n1 (sk.children.symm.trans hcs)
  case ch_opened =>
    rw [hK]
    intro i nd' cs hi hcs hd
    obtain ⟨nd, n1, sk, hst⟩ := R.bwd hi
    rw [hflag hst]
    exact C.ch_opened i nd cs n1 (sk.children.symm.trans hcs) (sk.depth ▸ hd)
  case opening =>
    rw [hK]
    intro hop
    obtain ⟨t, tn, t1, t2, t3, t4, t5, t6⟩ := C.opening hop
    obtain ⟨tn', m1, sk, hst⟩ := R.node t tn t1
    refine ⟨t, tn', m1, sk.depth.trans t2, t3, t4, sk.children.trans t5, fun h1 => ?_⟩
    obtain ⟨a1, layer, num, a2, a3⟩ := t6 h1
    exact ⟨(hflag hst).trans a1, layer, num, a2,
      (scan_congr layer 0 negInf none (hview hop h1 a2)).trans a3⟩
  case unopened =>
    intro h1 h2
    obtain ⟨layer, id, a1, a2, a3⟩ := C.unopened h1 h2
    obtain ⟨nd, n1, n2⟩ := isUnopened_iff.1 a3
    obtain ⟨nd', m1, _, hst⟩ := R.node id nd n1
    exact ⟨layer, id, a1, a2, isUnopened_iff.2 ⟨nd', m1, (hflag hst).trans n2⟩⟩
  case budget => rw [expCount_prel R]; exact C.budget
  case sched => intro h h1 h2; rw [expCount_prel R]; exact C.sched h h1 h2

end Core

end SQ
end PyXAB
