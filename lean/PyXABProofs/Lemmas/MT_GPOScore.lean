/-
  GPO over a field: with `upd v k r = (v·k + r)/(k+1)` (and any `zero`), the score of a validated
  point is the arithmetic mean of exactly the rewards of the validation rounds of its phase.
-/
import PyXABProofs.Lemmas.MT_POOScore
import PyXABProofs.Lemmas.MT_GPORun

namespace PyXAB.MT
open PyXAB
namespace GPO
open PyXAB.GPO
variable {L α R S Pt ρ : Type}

theorem valRewards_snoc (cfg : GPOCfg R S ρ) (log : List (Entry R Pt)) (e : Entry R Pt) (p : Nat) :
    valRewards cfg (log ++ [e]) p =
      valRewards cfg log p ++ (if e.phase = p ∧ cfg.half ≤ e.counter then [e.r] else []) := by
  unfold valRewards
  rw [List.filter_append, List.map_append, List.filter_cons, List.filter_nil]
  by_cases h : e.phase = p ∧ cfg.half ≤ e.counter
  · rw [if_pos h, if_pos (by rw [Bool.and_eq_true, beq_iff_eq, decide_eq_true_iff]; exact h)]
    rfl
  · rw [if_neg h, if_neg (by rw [Bool.and_eq_true, beq_iff_eq, decide_eq_true_iff]; exact h)]
    rfl

/-- Along a run from the constructor: the number of validation rewards recorded for each phase
(`half` for the phases which are over, `counter - half` for the current one, none beyond), and
`score · count = sum` for every validated point. -/
structure ValInv [Field α] [LT α] [DecidableLT α] (cfg : GPOCfg α α ρ) (s : GPO L α Pt)
    (log : List (Entry α Pt)) : Prop where
  past : ∀ p, 1 ≤ p → p < s.phase → (valRewards cfg log p).length = cfg.half
  now : (valRewards cfg log s.phase).length = s.counter - cfg.half
  later : ∀ p, s.phase < p → valRewards cfg log p = []
  mean : ∀ (q : Nat) v, s.V[q]? = some v →
    v * (((valRewards cfg log (q + 1)).length : Nat) : α) = (valRewards cfg log (q + 1)).sum

variable [Field α] [CharZero α] [LT α] [DecidableLT α] {ops : LearnerOps L α α Pt ρ} {cfg : GPOCfg α α ρ}
  {s s' s2 : GPO L α Pt} {log : List (Entry α Pt)} {x : RoundIn α α} {e : Entry α Pt} {xs : List (RoundIn α α)}

theorem valInv_step (hh : 1 ≤ cfg.half)
    (hupd : ∀ v k r, cfg.upd v k r = (v * (k : α) + r) / ((k : α) + 1))
    (hI : Inv cfg s) (hJ : ValInv cfg s log) (hr : round ops cfg s x = .ok (s2, e)) : ValInv cfg s2 (log ++ [e]) := by
  obtain ⟨hep, hec, her, -⟩ := round_entry hr
  have hp1 := hI.hph.1
  rcases round_cases hh hr with ⟨hd, rfl, -⟩ | ⟨hd, hlt, hV, -, hph, hcn, -⟩ |
      ⟨hd, hge, hsched, -, -, V1, v, hV1, hv, hV, -⟩
  · -- all phases over: nothing is recorded, nothing changes
    have hsame : ∀ p, valRewards cfg (log ++ [e]) p = valRewards cfg log p := fun p => by
      rw [valRewards_snoc, if_neg (fun h' => Nat.not_le_of_lt hh ((hI.done hd).1 ▸ hec ▸ h'.2)), List.append_nil]
    exact ⟨fun p => hsame p ▸ hJ.past p, hsame _ ▸ hJ.now, fun p => hsame p ▸ hJ.later p,
      fun q => hsame (q + 1) ▸ hJ.mean q⟩
  · -- exploring: nothing is recorded
    have hsame : ∀ p, valRewards cfg (log ++ [e]) p = valRewards cfg log p := fun p => by
      rw [valRewards_snoc, if_neg (fun h' => Nat.not_le_of_lt hlt (hec ▸ h'.2)), List.append_nil]
    refine ⟨fun p => hph ▸ hsame p ▸ hJ.past p, ?_, fun p => hph ▸ hsame p ▸ hJ.later p,
      fun q => hV ▸ hsame (q + 1) ▸ hJ.mean q⟩
    rw [hph, hcn, hsame, hJ.now, Nat.sub_eq_zero_of_le (Nat.le_of_lt hlt), Nat.sub_eq_zero_of_le hlt]
  · -- validating: the reward is recorded for this phase, and enters its score
    have hsn : ∀ p, valRewards cfg (log ++ [e]) p = valRewards cfg log p ++ (if s.phase = p then [x.r] else []) :=
      fun p => by
        rw [valRewards_snoc, hep, hec, her]
        by_cases hp : s.phase = p
        · rw [if_pos ⟨hp, hge⟩, if_pos hp]
        · rw [if_neg (fun h' => hp h'.1), if_neg hp]
    have hother : ∀ p, p ≠ s.phase → valRewards cfg (log ++ [e]) p = valRewards cfg log p := fun p hp => by
      rw [hsn, if_neg (Ne.symm hp), List.append_nil]
    have hthis : (valRewards cfg (log ++ [e]) s.phase).length = s.counter - cfg.half + 1 := by
      rw [hsn, if_pos rfl, List.length_append, hJ.now]; rfl
    have hc2 := (hI.run hd).1
    refine ⟨fun p h1 hp => ?_, ?_, fun p hp => ?_, fun q w hq => ?_⟩
    · split at hsched
      · rw [hsched.1] at hp
        rw [hother p (Nat.ne_of_lt hp)]
        exact hJ.past p h1 hp
      · rw [hsched.1] at hp
        rcases Nat.lt_succ_iff_lt_or_eq.mp hp with hp | rfl
        · rw [hother p (Nat.ne_of_lt hp)]
          exact hJ.past p h1 hp
        · rw [hthis]; omega
    · split at hsched
      · rw [hsched.1, hsched.2.1, hthis]; exact (Nat.sub_add_comm hge).symm
      · rw [hsched.1, hsched.2, hother _ (Nat.succ_ne_self _), hJ.later _ (Nat.lt_succ_self _)]
        exact (Nat.zero_sub _).symm
    · have hp' : s.phase < p := by
        split at hsched
        · exact hsched.1 ▸ hp
        · rw [hsched.1] at hp; exact Nat.lt_of_succ_lt hp
      rw [hother p (Nat.ne_of_gt hp')]
      exact hJ.later p hp'
    · rw [hV] at hq
      -- before this round the score `v` of the phase was the mean of the rewards recorded so far
      have hvold : v * (((valRewards cfg log s.phase).length : Nat) : α) = (valRewards cfg log s.phase).sum := by
        by_cases hch : s.counter = cfg.half
        · rw [List.eq_nil_of_length_eq_zero (hJ.now.trans (by rw [hch, Nat.sub_self]))]
          simp
        · rw [if_neg hch] at hV1
          rw [hV1] at hv
          exact Nat.sub_add_cancel hp1 ▸ hJ.mean _ v hv
      by_cases hq1 : q = s.phase - 1
      · rw [hq1, getElem?_set_of_some hv, if_pos rfl] at hq
        cases hq
        rw [hq1, Nat.sub_add_cancel hp1, hsn, if_pos rfl, List.length_append, List.sum_append, List.sum_singleton,
          ← hvold, hupd, hJ.now]
        exact hJ.now ▸ mean_step v x.r _
      · rw [getElem?_set_of_some hv, if_neg hq1] at hq
        rw [hother (q + 1) (fun h => hq1 (Nat.eq_sub_of_add_eq h))]
        refine hJ.mean q w ?_
        rw [hV1] at hq
        split at hq
        · rename_i hch
          rcases getElem?_concat_cases hq with hq | ⟨hq', -⟩
          · exact hq
          · have hvl := (hI.run hd).2.2.1
            rw [if_neg (by rw [hch]; exact Nat.lt_irrefl _)] at hvl
            exact absurd (hq'.trans hvl) hq1
        · exact hq

theorem run_validation (hN : 1 ≤ cfg.N) (hh : 1 ≤ cfg.half)
    (hupd : ∀ v k r, cfg.upd v k r = (v * (k : α) + r) / ((k : α) + 1))
    (h : run ops cfg GPO.init xs = .ok (s', log)) : ValInv cfg s' log :=
  run_induction hh (fun _ _ _ _ _ hI hJ hr => valInv_step hh hupd hI hJ hr) (inv_init cfg hN hh)
    ⟨fun _ h1 hp => absurd (Nat.lt_of_le_of_lt h1 hp) (Nat.lt_irrefl 1), (Nat.zero_sub _).symm, fun _ _ => rfl,
      nofun⟩ h

end GPO
end PyXAB.MT
