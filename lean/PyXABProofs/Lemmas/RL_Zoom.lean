/-
  Zooming:
  * C15.2: `pull` only sets `best`; it is idempotent;
  * C16.3: `pull` / `receive` / `init` commute with mapping the boxes of the tree and the points
    of the arms, for maps which commute with the geometry the algorithm reads (child boxes,
    centres, containment test).
-/
import PyXABProofs.Lemmas.RL_Tree
import PyXABProofs.Lemmas.RL_Machine

namespace PyXAB
namespace RL
open Rel
set_option linter.unusedSectionVars false

section zoom
variable {α R S : Type} [Add α] [Sub α] [Mul α] [Div α] [OfNat α 2] [NatCast α]
variable [LE α] [DecidableLE α] [LE S] [DecidableLE S] [Inhabited S]

theorem zoom_pull_idem (cfg : ZoomCfg R S) {s s1 : Zooming α S} {v : Nat × List α}
    (h : Zooming.pull cfg s = .ok (s1, v)) : Zooming.pull cfg s1 = .ok (s1, v) := by
  unfold Zooming.pull at h ⊢
  split at h
  · cases h
  · rename_i i h1
    split at h
    · cases h
    · rename_i a h2
      simp only [Except.ok.injEq, Prod.mk.injEq] at h
      obtain ⟨rfl, rfl⟩ := h
      simp only [h1, h2]

/-- the maps commute with everything Zooming reads from the geometry -/
structure ZoomEquivariant (g : Box α → Box α) (gd : Draw α → Draw α) (f : List α → List α) :
    Prop where
  box : BoxEquivariant g gd
  cpoint : ∀ b, Box.cpoint (g b) = f (Box.cpoint b)
  contains : ∀ b x, Zooming.contains (g b) (f x) = Zooming.contains b x
  nil : f [] = []

variable {g : Box α → Box α} {gd : Draw α → Draw α} {f : List α → List α}

theorem argmaxArm_map (cfg : ZoomCfg R S) (phase : Nat) (f : List α → List α) (arms : List (Arm α S)) :
    Zooming.argmaxArm cfg phase (arms.map (armMapPt f)) = Zooming.argmaxArm cfg phase arms := by
  unfold Zooming.argmaxArm
  rw [List.foldl_map]
  rfl

theorem zoom_pull_map (cfg : ZoomCfg R S) (g : Box α → Box α) (f : List α → List α)
    (s : Zooming α S) :
    Zooming.pull cfg (zoomMap g f s) =
      mapRes (zoomMap g f) (fun v => (v.1, f v.2)) (Zooming.pull cfg s) := by
  unfold Zooming.pull
  simp only [zoomMap, argmaxArm_map]
  cases Zooming.argmaxArm cfg s.phase s.arms with
  | none => rfl
  | some i =>
    simp only [List.getElem?_map]
    cases s.arms[i]? with
    | none => rfl
    | some a => rfl

theorem newArm_map (hz : ZoomEquivariant g gd f) (cfg : ZoomCfg R S) (P : Part α Unit) (c : Nat) :
    Zooming.newArm (α := α) cfg (partMapBox g P) c = armMapPt f (Zooming.newArm cfg P c) := by
  unfold Zooming.newArm
  rw [partMapBox_getElem?]
  cases P.nodes[c]? with
  | none => simp only [Option.map_none, armMapPt, hz.nil]
  | some nd => simp only [Option.map_some, armMapPt, nodeMapBox_box, hz.cpoint]

theorem assign_map (hz : ZoomEquivariant g gd f) (cfg : ZoomCfg R S) (P : Part α Unit)
    (pt : List α) (cs : List Nat) (assigned : Bool) (cell : Option Nat) (fresh : List (Arm α S)) :
    Zooming.assign cfg (partMapBox g P) (f pt) cs assigned cell (fresh.map (armMapPt f)) =
      ((Zooming.assign cfg P pt cs assigned cell fresh).1,
       (Zooming.assign cfg P pt cs assigned cell fresh).2.map (armMapPt f)) := by
  induction cs generalizing assigned cell fresh with
  | nil => rfl
  | cons c cs ih =>
    simp only [Zooming.assign, partMapBox_getElem?]
    cases P.nodes[c]? with
    | none => exact ih assigned cell fresh
    | some nd =>
      simp only [Option.map_some, nodeMapBox_box, hz.contains]
      by_cases hc : (Zooming.contains nd.box pt && !assigned) = true
      · simp only [hc, if_true]
        exact ih true (some c) fresh
      · simp only [hc, if_false, Bool.false_eq_true]
        have := ih assigned cell (fresh ++ [Zooming.newArm cfg P c])
        simp only [List.map_append, List.map_cons, List.map_nil, ← newArm_map hz] at this
        exact this

theorem zoom_receive_map (hz : ZoomEquivariant g gd f) (cfg : ZoomCfg R S) (s : Zooming α S)
    (r : R) (ds : List (Draw α)) :
    Zooming.receive cfg (zoomMap g f s) r (ds.map gd) =
      mapRes (zoomMap g f) (List.map gd) (Zooming.receive cfg s r ds) := by
  unfold Zooming.receive
  rw [show (zoomMap g f s).best = s.best from rfl, show (zoomMap g f s).time = s.time from rfl,
    show (zoomMap g f s).nextEnd = s.nextEnd from rfl, show (zoomMap g f s).phase = s.phase from rfl,
    show (zoomMap g f s).arms = s.arms.map (armMapPt f) from rfl]
  cases s.best with
  | none => rfl
  | some i =>
    dsimp only
    rw [List.getElem?_map]
    cases s.arms[i]? with
    | none => rfl
    | some a =>
      dsimp only [Option.map_some]
      generalize (if s.time + 1 ≥ s.nextEnd then (s.phase + 1, s.nextEnd + 2 ^ (s.phase + 1))
        else (s.phase, s.nextEnd)) = pn
      obtain ⟨phase, nextEnd⟩ := pn
      dsimp only [zoomMap, armMapPt]
      rw [partMapBox_getElem?]
      cases s.P.nodes[a.cell]? with
      | none => rfl
      | some nd =>
        simp only [Option.map_some, nodeMapBox_depth', partMapBox_depth']
        split
        · refine mapRes_bind (makeChildrenD_map hz.box s.P () a.cell _ ds) fun P2 ds' => ?_
          dsimp only
          rw [partMapBox_getElem?]
          cases P2.nodes[a.cell]? with
          | none => rfl
          | some nd2 =>
            dsimp only [Option.map_some, nodeMapBox_children]
            cases nd2.children with
            | none => rfl
            | some cs =>
              have ha := assign_map hz cfg P2 a.pt cs false none ([] : List (Arm α S))
              rw [List.map_nil] at ha
              dsimp only
              rw [ha]
              cases (Zooming.assign cfg P2 a.pt cs false none ([] : List (Arm α S))).1 <;>
                simp only [mapRes, pure, Except.pure, zoomMap, armMapPt, List.map_append, List.map_set]
        · simp only [mapRes, pure, Except.pure, zoomMap, armMapPt, List.map_set]

theorem zoom_init_map (hz : ZoomEquivariant g gd f) (cfg : ZoomCfg R S) (k : Kind) (domain : Box α)
    (ds : List (Draw α)) :
    Zooming.init (S := S) cfg k (g domain) (ds.map gd) =
      mapRes (zoomMap g f) (List.map gd) (Zooming.init cfg k domain ds) := by
  refine mapRes_bind (deepen_map hz.box (Part.init k domain ()) () ds) fun P1 ds' => ?_
  dsimp only [partMapBox_layers]
  cases P1.layers[1]? with
  | none => rfl
  | some layer =>
    simp only [mapRes, pure, Except.pure, zoomMap, List.map_map]
    congr 3
    exact List.map_congr_left fun c _ => newArm_map hz cfg P1 c

end zoom

theorem aff_zoomEquivariant {α : Type} [Field α] [LinearOrder α] [IsStrictOrderedRing α]
    (φ : Aff α) (h : φ.Pos) : ZoomEquivariant φ.box φ.draw φ.pt :=
  ⟨aff_boxEquivariant φ, aff_cpoint_box φ, pos_contains h, rfl⟩

end RL
end PyXAB
