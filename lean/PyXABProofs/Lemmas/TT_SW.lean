/-
  C01 for the layer-sweep optimisers SOO, DOO, StoSOO.  All the instrumented loops `sweepT`,
  `sweepsT`, `loopT` do to the tree is replay their trace of expansion events (`Replays`):
  payload-only updates and one `make_children` per event.  Hence they keep `DomInv` when every
  event consumed a fitting draw (`EvDraws`), and the documented loop hands out valid cells only.
-/
import PyXABProofs.Lemmas.TT_Box
import PyXABProofs.Props.C08

set_option linter.unusedSectionVars false
set_option linter.unusedVariables false

namespace PyXAB
namespace TT
open _root_.PyXAB.Tree TBA SW

section evdraws
variable {α σ S : Type} [LinearOrder α]

theorem evDraws_nil {k : Kind} {root : Box α} (ds : List (Draw α)) :
    EvDraws (σ := σ) (S := S) k root ds [] := by
  cases ds <;> simp [EvDraws]

end evdraws

section replay
variable {α σ S : Type} [Add α] [Sub α] [Mul α] [Div α] [OfNat α 2] [NatCast α]

/-- `Replays s0 P ds tr P' ds'`: the tree `P'` arises from `P` by payload-only updates and, for
each event `ev` of the trace `tr` in turn, one `make_children` of the cell `ev.id` of the tree
`ev.before`, which consumes the next draw of `ds`; `ds'` are the draws left over. -/
inductive Replays (s0 : σ) :
    Part α σ → List (Draw α) → List (Ev α σ S) → Part α σ → List (Draw α) → Prop
  | done {P P' : Part α σ} {ds : List (Draw α)} : Geo P P' → Replays s0 P ds [] P' ds
  | step {P P2 P' : Part α σ} {ev : Ev α σ S} {nl : Bool} {d : Draw α} {ds ds' : List (Draw α)}
      {tr : List (Ev α σ S)} : Geo P ev.before → ev.before.makeChildren s0 ev.id nl d = .ok P2 →
      Replays s0 P2 ds tr P' ds' → Replays s0 P (d :: ds) (ev :: tr) P' ds'

namespace Replays
variable {s0 : σ} {P Q P1 P' : Part α σ} {ds ds1 ds' : List (Draw α)} {tr tr' : List (Ev α σ S)}

theorem geo_left (g : Geo P Q) (h : Replays s0 Q ds tr P' ds') : Replays s0 P ds tr P' ds' := by
  cases h with
  | done g' => exact .done (g.trans g')
  | step g' hm h => exact .step (g.trans g') hm h

theorem append (h : Replays s0 P ds tr P1 ds1) (h' : Replays s0 P1 ds1 tr' P' ds') :
    Replays s0 P ds (tr ++ tr') P' ds' := by
  induction h with
  | done g => exact h'.geo_left g
  | step g hm _ ih => exact .step g hm (ih h')

theorem keeps (h : Replays s0 P ds tr P' ds') : Keeps P P' := by
  induction h with
  | done g => exact Keeps.of_prel g
  | step g hm _ ih => exact ((Keeps.of_prel g).trans (makeChildren_keeps hm)).trans ih

/-- **Replay**: an invariant `I` of trees which is kept by payload-only updates and by those
`make_children` of the trace whose draw fits the box of the split cell is kept by the whole
replay, and holds in the tree of every event. -/
theorem inv [LE α] {k : Kind} {root : Box α} {I : Part α σ → Prop}
    (hgeo : ∀ P P', Geo P P' → I P → I P') (h : Replays s0 P ds tr P' ds')
    (hmk : ∀ ev ∈ tr, ∀ nd nl d P2, I ev.before → ev.before.nodes[ev.id]? = some nd →
      DrawFits k root nd.box d → ev.before.makeChildren s0 ev.id nl d = .ok P2 → I P2)
    (hI : I P) (hE : EvDraws k root ds tr) : I P' ∧ ∀ ev ∈ tr, I ev.before := by
  induction h with
  | done g => exact ⟨hgeo _ _ g hI, fun _ h => by cases h⟩
  | step g hm _ ih =>
    obtain ⟨nd, hp⟩ := Part.makeChildren_valid hm
    have hI1 := hgeo _ _ g hI
    obtain ⟨a, b⟩ := ih (fun ev hev => hmk ev (List.mem_cons_of_mem _ hev))
      (hmk _ (List.mem_cons_self ..) nd _ _ _ hI1 hp (hE.1 nd hp) hm) hE.2
    refine ⟨a, fun ev hev => ?_⟩
    rcases List.mem_cons.1 hev with rfl | hev
    · exact hI1
    · exact b ev hev

end Replays
end replay

theorem Replays.dom {α σ S : Type} [Field α] [LinearOrder α] [IsStrictOrderedRing α] {s0 : σ}
    {P P' : Part α σ} {ds ds' : List (Draw α)} {tr : List (Ev α σ S)} {k : Kind} {root : Box α}
    (h : Replays s0 P ds tr P' ds') (hD : DomInv k root P) (hE : EvDraws k root ds tr) :
    DomInv k root P' ∧ Keeps P P' :=
  ⟨(h.inv (fun _ _ g => DomInv.of_prel g)
    (fun _ _ _ _ _ _ hD hp hd hm => (makeChildren_dom hD hp hd hm).1) hD hE).1, h.keeps⟩

/-- The last-maximum folds of the recommendation functions (`f`: one step of the fold, over the
score `g`) only ever return cells of the tree. -/
theorem lastMax_valid {α τ S : Type} [LE S] [DecidableLE S] (P : Part α τ) (g : τ → S)
    {f : S × Option Nat → Nat → S × Option Nat}
    (hf : ∀ acc id, f acc id = match P.nodes[id]? with
      | none => acc
      | some nd => if acc.1 ≤ g nd.st then (g nd.st, some id) else acc)
    {l : List Nat} {a : S} {v : Nat} (h : (l.foldl f (a, none)).2 = some v) :
    v < P.nodes.length := by
  refine ListAux.foldl_inv (fun acc : S × Option Nat => ∀ w, acc.2 = some w → w < P.nodes.length) f l
    (a, none) (fun _ hw => by cases hw) (fun acc id _ ha w hw => ?_) v h
  rw [hf] at hw
  split at hw
  · exact ha w hw
  · rename_i hn
    split at hw
    · cases hw
      exact lt_length_of_getElem? hn
    · exact ha w hw

theorem argmaxListed_valid {α S : Type} [LE S] [DecidableLE S] (P : Part α (SwSt S)) (negInf : S)
    {v : Nat} (h : PyXAB.SOO.argmaxListed P negInf = some v) : v < P.nodes.length :=
  lastMax_valid P (·.reward) (fun _ id => by cases P.nodes[id]? <;> rfl) h

namespace SOO
open PyXAB.SOO
variable {α S : Type} [Field α] [LinearOrder α] [IsStrictOrderedRing α]
variable [LinearOrder S] [Inhabited S]

theorem sweepT_replays (negInf : S) (hmax fuel h : Nat) (vmax : S) (P : Part α (SwSt S))
    (ds : List (Draw α)) :
    ∀ P' ds' r tr, sweepT negInf hmax fuel h vmax P ds = .ok (P', ds', r, tr) →
      Replays (st0 negInf) P ds tr P' ds' := by
  -- one case per branch of `sweepT`, in the order of its definition; a branch that raises
  -- cannot have returned
  fun_induction sweepT negInf hmax fuel h vmax P ds <;> intro P' ds' r tr hrun
  · cases hrun
  · cases hrun
  · -- an unevaluated leaf is found and marked
    cases hrun
    exact .done (Geo.modifySt _ _ _)
  · cases hrun
  · cases hrun
  · -- the best leaf of the layer is split, the sweep goes on one layer down
    rename_i ih
    cases hrun
    obtain ⟨d, rfl, hmk⟩ := (Part.makeChildrenD_eq_ok (α := α)).1 ‹_›
    exact .step (ev := ⟨_, _, _, _⟩) (Geo.refl _) hmk (ih _ _ _ _ ‹_›)
  · rename_i ih
    exact ih _ _ _ _ hrun
  · rename_i ih
    exact ih _ _ _ _ hrun
  · cases hrun
    exact .done (Geo.refl _)

theorem sweepsT_replays (negInf : S) (hmax fuel : Nat) (P : Part α (SwSt S)) (ds : List (Draw α)) :
    ∀ P' ds' id trs, sweepsT negInf hmax fuel P ds = .ok (P', ds', id, trs) →
      Replays (st0 negInf) P ds trs.flatten P' ds' := by
  fun_induction sweepsT negInf hmax fuel P ds <;> intro P' ds' id trs hrun
  · cases hrun
  · cases hrun
  · -- the sweep found a cell to hand out
    rename_i hs
    cases hrun
    rw [List.flatten_cons, List.flatten_nil, List.append_nil]
    exact sweepT_replays _ _ _ _ _ _ _ _ _ _ _ hs
  · cases hrun
  · -- it did not: another sweep on the tree it left
    rename_i hs _ _ _ _ hrec ih
    cases hrun
    exact (sweepT_replays _ _ _ _ _ _ _ _ _ _ _ hs).append (ih _ _ _ _ hrec)

theorem pullT_replays (negInf : S) {s s' : SOO α S} {t : Nat} {ds ds' : List (Draw α)} {v : Nat}
    {trs : List (List (Ev α (SwSt S) S))} (h : pullT negInf s t ds = .ok (s', ds', v, trs)) :
    Replays (st0 negInf) s.P ds trs.flatten s'.P ds' := by
  unfold pullT at h
  split at h
  · cases h
  · rename_i hs
    cases h
    exact sweepsT_replays _ _ _ _ _ _ _ _ _ hs

theorem runRounds_dom (negInf : S) (hbot : ∀ x, negInf ≤ x) {k : Kind} {root : Box α}
    (inputs : List (Input α S)) (s : SOO α S) (hI : Inv negInf s) (hD : DomInv k root s.P)
    (hin : InputsOK k root.length inputs) (hcap : s.P.depth + inputs.length ≤ s.hmax)
    (hG : GoodDraws negInf k root s inputs) :
    ∃ s' H, runRounds negInf s inputs = .ok (s', H) ∧ (Inv negInf s' ∧ DomInv k root s'.P) ∧
      Keeps s.P s'.P ∧ H.map (·.2) = inputs.map (·.2.2) ∧ ∀ e ∈ H, PointOK root s'.P e.1 := by
  refine loop_dom (·.P) (fun _ => runRounds negInf) (·.2.2)
    (fun s => Inv negInf s ∧ DomInv k root s.P)
    (fun _ s xs => InputsOK k root.length xs ∧ s.P.depth + xs.length ≤ s.hmax ∧
      GoodDraws negInf k root s xs)
    (fun _ _ => rfl) ?_ inputs 0 s ⟨hI, hD⟩ ⟨hin, hcap, hG⟩
  · rintro _ s x rest ⟨hI, hD⟩ ⟨hin, hcap, hG⟩
    obtain ⟨hl, hds0⟩ := hin x (List.mem_cons_self ..)
    have hds : ∀ d ∈ x.2.1, DrawOKLen s.P.kind (dimn s.P) d := by
      rw [hD.kind, dimn_of_boxInv hI.pinv.wf hD.box]; exact hds0
    rw [List.length_cons] at hcap
    obtain ⟨s2, v, hr, hdep⟩ := round_total negInf hbot x hI (by omega) hl hds
    obtain ⟨s1, ds1, trs, Pb, hp⟩ := round_spec negInf hbot hI hds hr
    obtain ⟨hE, hG'⟩ := hG s1 ds1 v trs hp.pullT
    obtain ⟨hD1, hK1⟩ := (pullT_replays negInf hp.pullT).dom hD hE
    have g12 : Geo s1.P s2.P :=
      hp.eq2 ▸ Geo.modifySt s1.P v (fun st => { st with reward := x.2.2 })
    obtain ⟨nd, hnd, _⟩ := hp.inv1.curr v hp.curr1
    refine ⟨s2, v, ⟨hp.inv2, DomInv.of_prel g12 hD1⟩,
      ⟨fun y hy => hin y (List.mem_cons_of_mem _ hy), by rw [hp.hmax]; omega, hG' s2 hp.recv⟩,
      hK1.trans (Keeps.of_prel g12),
      (hD1.pointOK (lt_length_of_getElem? hnd)).keeps (Keeps.of_prel g12), fun s' H hrun => ?_⟩
    simp only [runRounds, hr, hrun]

theorem goodDraws_of_det (negInf : S) {k : Kind} (hk : Kind.Deterministic k) {root : Box α} :
    ∀ (inputs : List (Input α S)) (s : SOO α S),
      InputsOK k root.length inputs → GoodDraws negInf k root s inputs
  | [], _, _ => trivial
  | x :: rest, s, hin => fun s1 ds1 v trs _ =>
    ⟨evDraws_of_det hk _ _ (hin _ (List.mem_cons_self ..)).2, fun s2 _ =>
      goodDraws_of_det negInf hk rest s2 (fun y hy => hin y (List.mem_cons_of_mem _ hy))⟩

theorem lastPoint_valid (negInf : S) {s : SOO α S} {v : Nat}
    (h : lastPoint negInf s = .ok v) : v < s.P.nodes.length := by
  unfold lastPoint at h
  split at h
  · rename_i hid
    cases h
    exact argmaxListed_valid _ _ hid
  · cases h

end SOO

namespace DOO
open PyXAB.DOO
variable {α S : Type} [Field α] [LinearOrder α] [IsStrictOrderedRing α]
variable [LinearOrder S] [Inhabited S]

theorem loopT_replays (cfg : DOOCfg α S) (fuel h : Nat) (maxv : S) (maxn : Option Nat)
    (P : Part α (SwSt S)) (ds : List (Draw α)) :
    ∀ P' ds' id tr, loopT cfg fuel h maxv maxn P ds = .ok (P', ds', id, tr) →
      Replays (st0 cfg) P ds tr P' ds' := by
  -- the cases are the branches of `loopT` in the order of its definition
  fun_induction loopT cfg fuel h maxv maxn P ds <;> intro P' ds' id tr hrun
  case case4 =>
    -- the scan of the layer found an unevaluated leaf, which is marked
    cases hrun
    exact .done ((Geo.of_prel (scan_spec cfg _ _ _ _ _ _ _ ‹_›).rel).trans (Geo.modifySt _ _ _))
  case case8 =>
    -- the loop restarted after the split raised
    rename_i hrec _
    rw [hrec] at hrun
    cases hrun
  case case9 =>
    -- below the deepest layer: the best leaf is split and the loop starts again at the root
    rename_i hrec ih
    rw [hrec] at hrun
    cases hrun
    obtain ⟨d, rfl, hmk⟩ := (Part.makeChildrenD_eq_ok (α := α)).1 ‹_›
    exact .step (ev := ⟨_, _, _, _⟩) (Geo.of_prel (scan_spec cfg _ _ _ _ _ _ _ ‹_›).rel) hmk
      (ih _ _ _ _ hrec)
  case case10 =>
    -- next layer, on the tree with the `b`-values refreshed by the scan
    rename_i ih
    exact (ih _ _ _ _ hrun).geo_left (Geo.of_prel (scan_spec cfg _ _ _ _ _ _ _ ‹_›).rel)
  -- the branches that raise
  all_goals cases hrun

theorem pullT_replays (cfg : DOOCfg α S) {s s' : DOO α S} {t : Nat} {ds ds' : List (Draw α)}
    {v : Nat} {tr : List (Ev α (SwSt S) S)} (h : pullT cfg s t ds = .ok (s', ds', v, tr)) :
    Replays (st0 cfg) s.P ds tr s'.P ds' := by
  unfold pullT at h
  split at h
  · cases h
  · rename_i hs
    cases h
    exact loopT_replays _ _ _ _ _ _ _ _ _ _ _ hs

theorem runRounds_dom (cfg : DOOCfg α S) (hbot : ∀ x, cfg.negInf ≤ x) (hδ : DeltaOK cfg)
    {k : Kind} {root : Box α} (inputs : List (Input α S)) (s : DOO α S) (hI : Inv cfg s)
    (hD : DomInv k root s.P) (hin : InputsOK k root.length inputs)
    (hG : GoodDraws cfg k root s inputs) :
    ∃ s' H, runRounds cfg s inputs = .ok (s', H) ∧ (Inv cfg s' ∧ DomInv k root s'.P) ∧
      Keeps s.P s'.P ∧ H.map (·.2) = inputs.map (·.2.2) ∧ ∀ e ∈ H, PointOK root s'.P e.1 := by
  refine loop_dom (·.P) (fun _ => runRounds cfg) (·.2.2) (fun s => Inv cfg s ∧ DomInv k root s.P)
    (fun _ s xs => InputsOK k root.length xs ∧ GoodDraws cfg k root s xs)
    (fun _ _ => rfl) ?_ inputs 0 s ⟨hI, hD⟩ ⟨hin, hG⟩
  · rintro _ s x rest ⟨hI, hD⟩ ⟨hin, hG⟩
    obtain ⟨hl, hds0⟩ := hin x (List.mem_cons_self ..)
    have hds : ∀ d ∈ x.2.1, DrawOKLen s.P.kind (dimn s.P) d := by
      rw [hD.kind, dimn_of_boxInv hI.pinv.wf hD.box]; exact hds0
    obtain ⟨s2, v, hr, _⟩ := round_total cfg hbot hδ x hI hl hds
    obtain ⟨s1, ds1, tr, Pb, hp⟩ := round_spec cfg hbot hI hds hr
    obtain ⟨hE, hG'⟩ := hG s1 ds1 v tr hp.pullT
    obtain ⟨hD1, hK1⟩ := (pullT_replays cfg hp.pullT).dom hD hE
    have g12 : Geo s1.P s2.P :=
      hp.eq2 ▸ Geo.modifySt s1.P v (fun st => { st with reward := x.2.2 })
    obtain ⟨nd, hnd, _⟩ := hp.inv1.curr v hp.curr1
    refine ⟨s2, v, ⟨hp.inv2, DomInv.of_prel g12 hD1⟩,
      ⟨fun y hy => hin y (List.mem_cons_of_mem _ hy), hG' s2 hp.recv⟩,
      hK1.trans (Keeps.of_prel g12),
      (hD1.pointOK (lt_length_of_getElem? hnd)).keeps (Keeps.of_prel g12), fun s' H hrun => ?_⟩
    simp only [runRounds, hr, hrun]

theorem goodDraws_of_det (cfg : DOOCfg α S) {k : Kind} (hk : Kind.Deterministic k)
    {root : Box α} :
    ∀ (inputs : List (Input α S)) (s : DOO α S),
      InputsOK k root.length inputs → GoodDraws cfg k root s inputs
  | [], _, _ => trivial
  | x :: rest, s, hin => fun s1 ds1 v tr _ =>
    ⟨evDraws_of_det hk _ _ (hin _ (List.mem_cons_self ..)).2, fun s2 _ =>
      goodDraws_of_det cfg hk rest s2 (fun y hy => hin y (List.mem_cons_of_mem _ hy))⟩

theorem lastPoint_valid (cfg : DOOCfg α S) {s : DOO α S} {v : Nat}
    (h : lastPoint cfg s = .ok v) : v < s.P.nodes.length := by
  unfold lastPoint at h
  split at h
  · rename_i hid
    cases h
    exact argmaxListed_valid _ _ hid
  · cases h

end DOO

namespace StoSOO
open PyXAB.StoSOO
variable {α R S : Type} [Field α] [LinearOrder α] [IsStrictOrderedRing α]
variable [LinearOrder S] [Inhabited S] [Inhabited R]

theorem loopT_replays (cfg : StoCfg S R) (time fuel h : Nat) (bmax : S) (P : Part α (TBSt R S))
    (ds : List (Draw α)) :
    ∀ P' ds' bm h' j id tr, loopT cfg time fuel h bmax P ds = .ok (P', ds', bm, h', j, id, tr) →
      Replays (st0 cfg) P ds tr P' ds' := by
  -- the cases are the branches of `loopT` in the order of its definition; the scan of a
  -- layer only refreshes `b`-values
  fun_induction loopT cfg time fuel h bmax P ds <;> intro P' ds' bm h' j id tr hrun
  case case3 =>
    -- no leaf on this layer
    rename_i ih
    exact (ih _ _ _ _ _ _ _ hrun).geo_left (Geo.of_prel (scan_spec cfg _ _ _ _ _ _ ‹_›).1)
  case case5 =>
    -- the best leaf of the layer may still be evaluated: it is handed out
    cases hrun
    exact .done (Geo.of_prel (scan_spec cfg _ _ _ _ _ _ ‹_›).1)
  case case8 =>
    -- it has been evaluated `k` times: it is split
    rename_i hrec ih
    cases hrun
    obtain ⟨d, rfl, hmk⟩ := (Part.makeChildrenD_eq_ok (α := α)).1 ‹_›
    exact .step (ev := ⟨_, _, _, _⟩) (Geo.of_prel (scan_spec cfg _ _ _ _ _ _ ‹_›).1) hmk
      (ih _ _ _ _ _ _ _ hrec)
  case case9 =>
    -- its `b` is below `bmax`
    rename_i ih
    exact (ih _ _ _ _ _ _ _ hrun).geo_left (Geo.of_prel (scan_spec cfg _ _ _ _ _ _ ‹_›).1)
  -- the branches that raise
  all_goals cases hrun

theorem pullT_replays (cfg : StoCfg S R) {s s' : StoSOO α R S} {t : Nat}
    {ds ds' : List (Draw α)} {v : Nat} {tr : List (Ev α (TBSt R S) S)}
    (h : pullT cfg s t ds = .ok (s', ds', v, tr)) : Replays (st0 cfg) s.P ds tr s'.P ds' := by
  unfold pullT at h
  split at h
  · cases h
  · rename_i hs
    cases h
    exact loopT_replays _ _ _ _ _ _ _ _ _ _ _ _ _ _ hs

theorem runRounds_dom (cfg : StoCfg S R) (hbot : ∀ x, cfg.negInf ≤ x) (htop : ∀ x, x ≤ cfg.inf)
    (hk0 : cfg.countLT 0 = true) {k : Kind} {root : Box α} (inputs : List (Input α R))
    (s : StoSOO α R S) (hI : Inv cfg s) (hD : DomInv k root s.P)
    (hin : InputsOK k root.length inputs) (hn : ∀ x ∈ inputs, x.1 ≤ cfg.n)
    (hcap : s.P.depth + inputs.length ≤ cfg.hmax) (hG : GoodDraws cfg k root s inputs) :
    ∃ s' H, runRounds cfg s inputs = .ok (s', H) ∧ (Inv cfg s' ∧ DomInv k root s'.P) ∧
      Keeps s.P s'.P ∧ H.map (·.2) = inputs.map (·.2.2) ∧ ∀ e ∈ H, PointOK root s'.P e.1 := by
  refine loop_dom (·.P) (fun _ => runRounds cfg) (·.2.2) (fun s => Inv cfg s ∧ DomInv k root s.P)
    (fun _ s xs => InputsOK k root.length xs ∧ (∀ x ∈ xs, x.1 ≤ cfg.n) ∧
      s.P.depth + xs.length ≤ cfg.hmax ∧ GoodDraws cfg k root s xs)
    (fun _ _ => rfl) ?_ inputs 0 s ⟨hI, hD⟩ ⟨hin, hn, hcap, hG⟩
  · rintro _ s x rest ⟨hI, hD⟩ ⟨hin, hn, hcap, hG⟩
    obtain ⟨hl, hds0⟩ := hin x (List.mem_cons_self ..)
    have hds : ∀ d ∈ x.2.1, DrawOKLen s.P.kind (dimn s.P) d := by
      rw [hD.kind, dimn_of_boxInv hI.wf hD.box]; exact hds0
    rw [List.length_cons] at hcap
    obtain ⟨s1, ds1, v, tr, hpT, hdep⟩ := pullT_total cfg hbot htop hk0 hI (by omega)
      (hn x (List.mem_cons_self ..)) hl hds
    have hp : pull cfg s x.1 x.2.1 = .ok (s1, ds1, v) :=
      (pull_ok_iff cfg s x.1 x.2.1 s1 ds1 v).2 ⟨tr, hpT⟩
    obtain ⟨hR, _⟩ := PyXAB.StoSOO.pull_Ready cfg hI hds hp
    obtain ⟨s2, hr, hI2, hP2, _⟩ := PyXAB.StoSOO.receive_total cfg x.2.2 hR
    obtain ⟨hE, hG'⟩ := hG s1 ds1 v tr hpT
    obtain ⟨hD1, hK1⟩ := (pullT_replays cfg hpT).dom hD hE
    have g12 : Geo s1.P s2.P := hP2 ▸ Geo.modifySt s1.P v _
    obtain ⟨_, _, _, _, _, _, _, _, nd, hnd, _⟩ := hR.sel
    refine ⟨s2, v, ⟨hI2, DomInv.of_prel g12 hD1⟩,
      ⟨fun y hy => hin y (List.mem_cons_of_mem _ hy), fun y hy => hn y (List.mem_cons_of_mem _ hy),
        by rw [g12.depth]; omega, hG' s2 hr⟩,
      hK1.trans (Keeps.of_prel g12),
      (hD1.pointOK (lt_length_of_getElem? hnd)).keeps (Keeps.of_prel g12), fun s' H hrun => ?_⟩
    simp only [runRounds, round, hp, hr, hrun]

theorem goodDraws_of_det (cfg : StoCfg S R) {k : Kind} (hk : Kind.Deterministic k)
    {root : Box α} :
    ∀ (inputs : List (Input α R)) (s : StoSOO α R S),
      InputsOK k root.length inputs → GoodDraws cfg k root s inputs
  | [], _, _ => trivial
  | x :: rest, s, hin => fun s1 ds1 v tr _ =>
    ⟨evDraws_of_det hk _ _ (hin _ (List.mem_cons_self ..)).2, fun s2 _ =>
      goodDraws_of_det cfg hk rest s2 (fun y hy => hin y (List.mem_cons_of_mem _ hy))⟩

theorem lastPoint_valid (cfg : StoCfg S R) {s : StoSOO α R S} {v : Nat}
    (h : lastPoint cfg s = .ok v) : v < s.P.nodes.length := by
  unfold lastPoint at h
  split at h
  · cases h
  · split at h
    · rename_i hid
      cases h
      exact lastMax_valid s.P (·.mean) (fun _ id => by cases s.P.nodes[id]? <;> rfl) hid
    · cases h

end StoSOO

end TT
end PyXAB
