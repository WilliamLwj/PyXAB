/-
  Order-type tie, comparison-parametricity of the rules: a map `f` that preserves and reflects `≤` on the members
  of `vs` does not change what a rule chooses (`rule (vs.map f) = rule vs`).
-/
import PyXABProofs.Lemmas.OT_Core

namespace PyXAB.OT
open PyXAB

section
variable {S T : Type} [LinearOrder S] [LinearOrder T]

/-- `f` preserves and reflects `≤` on the members of `vs` -/
def Emb (vs : List S) (f : S → T) : Prop := ∀ x ∈ vs, ∀ y ∈ vs, (f x ≤ f y ↔ x ≤ y)

theorem Emb.le {vs : List S} {f : S → T} (hf : Emb vs f) {x y : S} (hx : x ∈ vs) (hy : y ∈ vs) :
    f x ≤ f y ↔ x ≤ y := hf x hx y hy

theorem Emb.lt {vs : List S} {f : S → T} (hf : Emb vs f) {x y : S} (hx : x ∈ vs) (hy : y ∈ vs) :
    f x < f y ↔ x < y := by
  rw [← not_le, ← not_le, hf y hy x hx]

theorem Emb.max {vs : List S} {f : S → T} (hf : Emb vs f) {x y : S} (hx : x ∈ vs) (hy : y ∈ vs) :
    max (f x) (f y) = f (max x y) ∧ max x y ∈ vs := by
  rw [max_def, max_def]
  by_cases h : x ≤ y
  · rw [if_pos h, if_pos ((hf.le hx hy).mpr h)]; exact ⟨rfl, hy⟩
  · rw [if_neg h, if_neg (fun h' => h ((hf.le hx hy).mp h'))]; exact ⟨rfl, hx⟩

theorem Emb.min {vs : List S} {f : S → T} (hf : Emb vs f) {x y : S} (hx : x ∈ vs) (hy : y ∈ vs) :
    min (f x) (f y) = f (min x y) ∧ min x y ∈ vs := by
  rw [min_def, min_def]
  by_cases h : x ≤ y
  · rw [if_pos h, if_pos ((hf.le hx hy).mpr h)]; exact ⟨rfl, hx⟩
  · rw [if_neg h, if_neg (fun h' => h ((hf.le hx hy).mp h'))]; exact ⟨rfl, hy⟩

theorem getElem!_map_of_lt {A B : Type} [Inhabited A] [Inhabited B] (vs : List A) (f : A → B) {i : Nat}
    (h : i < vs.length) : (vs.map f)[i]! = f vs[i]! := by
  simp [h]

theorem getElem!_mem_of_lt {A : Type} [Inhabited A] (vs : List A) {i : Nat} (h : i < vs.length) :
    vs[i]! ∈ vs := by
  simp [h]

/-- Fold fusion under an invariant: if one step of `g'` on the image `F s` of a state satisfying `P` is the image
of a step of `g`, and `P` is kept, then so is the whole fold.  Every rule below is a fold whose step compares
values met so far; `P` says that they are members of the list, where `f` preserves comparisons. -/
theorem foldl_fusion_inv {A σ τ : Type} (F : σ → τ) (P : σ → Prop) {g : σ → A → σ} {g' : τ → A → τ}
    {xs : List A} (h : ∀ y ∈ xs, ∀ s, P s → g' (F s) y = F (g s y) ∧ P (g s y)) {s : σ} (hs : P s) :
    xs.foldl g' (F s) = F (xs.foldl g s) ∧ P (xs.foldl g s) := by
  induction xs generalizing s with
  | nil => exact ⟨rfl, hs⟩
  | cons y ys ih =>
    obtain ⟨h1, h2⟩ := h y List.mem_cons_self s hs
    rw [List.foldl_cons, List.foldl_cons, h1]
    exact ih (fun z hz => h z (List.mem_cons_of_mem _ hz)) h2

/-! ### rules on keyed index lists -/

theorem pickChild_congr (b : Nat → S) (b' : Nat → T) (l : List Nat)
    (h : ∀ i ∈ l, ∀ j ∈ l, (b' i ≤ b' j ↔ b i ≤ b j)) : pickChild b' l = pickChild b l := by
  cases l with
  | nil => rfl
  | cons c cs =>
    refine congrArg some (foldl_fusion_inv id (· ∈ c :: cs) (fun a ha m hm => ?_) List.mem_cons_self).1
    have ha' : a ∈ c :: cs := List.mem_cons_of_mem _ ha
    simp only [h m hm a ha', id]
    exact ⟨trivial, by split <;> assumption⟩

theorem insertDesc_congr (key : Nat → S) (key' : Nat → T) (L : List Nat)
    (h : ∀ i ∈ L, ∀ j ∈ L, (key' i ≤ key' j ↔ key i ≤ key j)) (x : Nat) (hx : x ∈ L) :
    ∀ acc : List Nat, (∀ y ∈ acc, y ∈ L) →
      VROOM.insertDesc key' x acc = VROOM.insertDesc key x acc ∧ ∀ y ∈ VROOM.insertDesc key x acc, y ∈ L
  | [], _ => ⟨rfl, fun y hy => List.mem_singleton.1 hy ▸ hx⟩
  | y :: ys, hacc => by
    obtain ⟨hy, hys⟩ := List.forall_mem_cons.1 hacc
    obtain ⟨ih1, ih2⟩ := insertDesc_congr key key' L h x hx ys hys
    simp only [VROOM.insertDesc, h x hx y hy, ih1]
    refine ⟨trivial, ?_⟩
    split
    · exact List.forall_mem_cons.2 ⟨hy, ih2⟩
    · exact List.forall_mem_cons.2 ⟨hx, hacc⟩

theorem sortDesc_congr (key : Nat → S) (key' : Nat → T) (l : List Nat)
    (h : ∀ i ∈ l, ∀ j ∈ l, (key' i ≤ key' j ↔ key i ≤ key j)) :
    VROOM.sortDesc key' l = VROOM.sortDesc key l :=
  (foldl_fusion_inv id (fun acc => ∀ y ∈ acc, y ∈ l)
    (fun x hx acc hacc => insertDesc_congr key key' l h x hx acc hacc) (fun _ hy => absurd hy List.not_mem_nil)).1

end

section
variable {S T : Type} [LinearOrder S] [LinearOrder T] [Inhabited S] [Inhabited T]

theorem key_congr (vs : List S) (f : S → T) (hf : Emb vs f) :
    ∀ i ∈ List.range vs.length, ∀ j ∈ List.range vs.length,
      ((vs.map f)[i]! ≤ (vs.map f)[j]! ↔ vs[i]! ≤ vs[j]!) := by
  intro i hi j hj
  rw [List.mem_range] at hi hj
  rw [getElem!_map_of_lt vs f hi, getElem!_map_of_lt vs f hj]
  exact hf.le (getElem!_mem_of_lt vs hi) (getElem!_mem_of_lt vs hj)

theorem pick_map (vs : List S) (f : S → T) (hf : Emb vs f) : pick (vs.map f) = pick vs := by
  unfold pick
  rw [List.length_map]
  rw [pickChild_congr (fun i => vs[i]!) (fun i => (vs.map f)[i]!) _ (key_congr vs f hf)]

theorem sortD_map (vs : List S) (f : S → T) (hf : Emb vs f) : sortD (vs.map f) = sortD vs := by
  unfold sortD
  rw [List.length_map]
  exact sortDesc_congr (fun i => vs[i]!) (fun i => (vs.map f)[i]!) _ (key_congr vs f hf)

end

section
variable {S T : Type} [LinearOrder S] [LinearOrder T]

/- In the three rules that fold over the values themselves the state carries one value, the running maximum;
`F` maps it by `f` and leaves the counters alone. -/

theorem amaxFirst_map (vs : List S) (f : S → T) (hf : Emb vs f) : amaxFirst (vs.map f) = amaxFirst vs := by
  cases vs with
  | nil => rfl
  | cons x xs =>
    simp only [amaxFirst, List.map_cons, argmaxFirst, List.foldl_map]
    refine congrArg (fun s => (some s.2.1).toList) (foldl_fusion_inv
      (fun s : Nat × Nat × S => (s.1, s.2.1, f s.2.2)) (·.2.2 ∈ x :: xs) (fun y hy s hs => ?_)
      (s := (0, 0, x)) List.mem_cons_self).1
    have hy' : y ∈ x :: xs := List.mem_cons_of_mem _ hy
    simp only [hf.lt hs hy']
    split
    · exact ⟨rfl, hy'⟩
    · exact ⟨rfl, hs⟩

theorem amaxArm_map (vs : List S) (f : S → T) (hf : Emb vs f) : amaxArm (vs.map f) = amaxArm vs := by
  cases vs with
  | nil => rfl
  | cons bot xs =>
    simp only [amaxArm, List.map_cons, Zooming.argmaxArm, List.foldl_map, List.map_map]
    refine congrArg (fun s => Option.toList s.2.2) (foldl_fusion_inv
      (fun s : Nat × S × Option Nat => (s.1, f s.2.1, s.2.2)) (·.2.1 ∈ bot :: xs) (fun y hy s hs => ?_)
      (s := (0, bot, none)) List.mem_cons_self).1
    have hy' : y ∈ bot :: xs := List.mem_cons_of_mem _ hy
    simp only [Function.comp_apply, hf.le hs hy']
    split
    · exact ⟨rfl, hy'⟩
    · exact ⟨rfl, hs⟩

theorem foldl_max_map (vs : List S) (f : S → T) (hf : Emb vs f) (bs : List S) (hbs : ∀ y ∈ bs, y ∈ vs)
    (a : S) (ha : a ∈ vs) : (bs.map f).foldl max (f a) = f (bs.foldl max a) ∧ bs.foldl max a ∈ vs := by
  rw [List.foldl_map]
  exact foldl_fusion_inv f (· ∈ vs) (fun y hy _ hm => hf.max hm (hbs y hy)) ha

theorem backB_map (vs : List S) (f : S → T) (hf : Emb vs f) : backB (vs.map f) = backB vs := by
  match vs, hf with
  | [], _ => rfl
  | [_], _ => rfl
  | bot :: u :: bs, hf =>
    simp only [List.map_cons, backB]
    have h1 := foldl_max_map (bot :: u :: bs) f hf bs (fun y hy => by simp [hy]) bot (by simp)
    have h2 := hf.min (x := u) (y := bs.foldl max bot) (by simp) h1.2
    rw [h1.1, h2.1]
    have := denseRank_map (bot :: u :: bs) f hf h2.2
    simp only [List.map_cons] at this
    rw [this]

end

end PyXAB.OT
