/-
  StroquOOL: behaviour after the end — the configurations `Stuck` from which every later `pull`
  (non-decreasing time) goes to `finish`, and the stability of the recommendation.
-/
import PyXABProofs.Lemmas.SK_Blocks

namespace PyXAB
namespace SK
open Tree TBA StroquOOL

variable {α R S : Type}

theorem Stuck.mono {cfg : SkCfg R S} {s : StroquOOL α R S} {t t' : Nat} (h : Stuck cfg s t)
    (ht : t ≤ t') : Stuck cfg s t' :=
  h.imp
    (fun ⟨a, b, c⟩ => ⟨a, b, c.imp_right fun ⟨c1, c2, c3⟩ => ⟨c1, c2, Nat.lt_of_lt_of_le c3 ht⟩⟩)
    (fun ⟨a, b, c⟩ => ⟨a, b, c.imp_right fun c => Nat.lt_of_lt_of_le c ht⟩)

variable [Add α] [Sub α] [Mul α] [Div α] [OfNat α 2] [NatCast α] [LE S] [DecidableLE S]

theorem Stuck.stage {cfg : SkCfg R S} {s : StroquOOL α R S} {t : Nat} (h : Stuck cfg s t)
    (ds : List (Draw α)) :
    (if s.currDepth ≤ cfg.hmax then searchPart cfg s t ds else crossPart cfg s t ds) =
      finish cfg s ds := by
  rcases h with ⟨a, b, c⟩ | ⟨a, b, c⟩
  · rw [if_pos b]
    unfold searchPart
    rw [rootPart_pos cfg s t ds (Nat.ne_of_gt a)]
    show (if s.currP ≥ 0 then _ else _) = _
    rcases c with c | ⟨c1, c2, c3⟩
    · exact if_neg (Int.not_le.2 c)
    · split
      · rw [evalPart_idle cfg _ ds c1]
        obtain ⟨m, hm⟩ := Option.isSome_iff_exists.1 c2
        exact handOut_late cfg ds hm c3
      · rfl
  · rw [if_neg (Nat.not_le.2 a), crossPart_built cfg t ds b]
    exact crossOut_late cfg ds c

variable [Inhabited S] [Inhabited R]

/-- on an ended `Stuck` state whose recommendation is up to date, every later `pull` returns the
same id and only records the time -/
theorem stuck_stable (cfg : SkCfg R S) {s : StroquOOL α R S} {t t' v : Nat}
    (h : Stuck cfg s t) (he : s.ended = true) (hl : lastPoint cfg s = .ok (s, v)) (ht : t ≤ t')
    (ds : List (Draw α)) :
    pull cfg s t' ds = .ok ({ s with iteration := t' }, ds, v) := by
  rw [pull_eq, Stuck.stage (s := { s with iteration := t' }) (h.mono ht) ds, finish_ok_iff, ← he]
  exact ⟨rfl, lastPoint_fixed cfg (s2 := { s with iteration := t' }) hl rfl rfl⟩

end SK
end PyXAB
