/-
  GPO (PCT / VPCT): rounds and runs (the ghost-instrumented loop of `Spec/MetaSpec.lean`), the
  schedule, the construction parameters, and the provenance of the validated points.
  Core Lean only.
-/
import PyXABProofs.Lemmas.MT_GPOStep

namespace PyXAB.MT
open PyXAB
namespace GPO
open PyXAB.GPO
variable {L α R S Pt ρ : Type} [LT S] [DecidableLT S] {ops : LearnerOps L α R Pt ρ} {cfg : GPOCfg R S ρ}
  {s s' s2 : GPO L S Pt} {x : RoundIn α R} {e : Entry R Pt} {xs ys : List (RoundIn α R)} {log : List (Entry R Pt)}

theorem round_ok (h : round ops cfg s x = .ok (s2, e)) :
    ∃ s1 ds1 ds2, pull ops cfg s x.time x.ds = .ok (s1, ds1, e.pt) ∧
      receive ops cfg s1 x.time x.r ds1 = .ok (s2, ds2) ∧
      e = { phase := s.phase, counter := s.counter, pt := e.pt, r := x.r, created := creates cfg s } := by
  unfold round at h
  split at h
  · cases h
  · rename_i s1 ds1 pt hp
    split at h
    · cases h
    · rename_i s2' ds2 hr
      cases h
      exact ⟨s1, ds1, ds2, hp, hr, rfl⟩

theorem round_of_ok {s1 : GPO L S Pt} {ds1 ds2 : List (Draw α)} {pt : Pt}
    (hp : pull ops cfg s x.time x.ds = .ok (s1, ds1, pt))
    (hr : receive ops cfg s1 x.time x.r ds1 = .ok (s2, ds2)) :
    round ops cfg s x =
      .ok (s2, { phase := s.phase, counter := s.counter, pt := pt, r := x.r, created := creates cfg s }) := by
  unfold round
  rw [hp]
  dsimp only
  rw [hr]

theorem round_entry (h : round ops cfg s x = .ok (s2, e)) :
    e.phase = s.phase ∧ e.counter = s.counter ∧ e.r = x.r ∧ e.created = creates cfg s := by
  obtain ⟨_, _, _, -, -, he⟩ := round_ok h
  refine ⟨?_, ?_, ?_, ?_⟩ <;> rw [he]

theorem round_inv (hh : 1 ≤ cfg.half) (hI : Inv cfg s) (h : round ops cfg s x = .ok (s2, e)) : Inv cfg s2 := by
  obtain ⟨s1, ds1, ds2, hp, hr, -⟩ := round_ok h
  exact inv_step hh hI hp hr

theorem round_total (hh : 1 ≤ cfg.half) (hI : Inv cfg s) (hops : OpsTotal ops) (x : RoundIn α R) :
    ∃ s2 e, round ops cfg s x = .ok (s2, e) := by
  obtain ⟨s1, ds1, pt, hp⟩ := pull_total hh hI hops x.time x.ds
  obtain ⟨s2, ds2, hr⟩ := receive_total hh hI hp hops x.time x.r ds1
  exact ⟨s2, _, round_of_ok hp hr⟩

/-- The three kinds of round.  All phases over: nothing changes.  Exploring: the counter advances,
`goodx` becomes the point returned, scores and validated points stay.  Validating: the point
returned is `goodx`; it is recorded (with score `zero`) if this is the first validation round of
the phase, and the score of the phase is updated; then the counter advances, or the next phase
begins. -/
theorem round_cases (hh : 1 ≤ cfg.half) (h : round ops cfg s x = .ok (s2, e)) :
    (cfg.N < s.phase ∧ s2 = s ∧ s.goodx = some e.pt) ∨
    (s.phase ≤ cfg.N ∧ s.counter < cfg.half ∧ s2.V = s.V ∧ s2.Vx = s.Vx ∧ s2.phase = s.phase ∧
      s2.counter = s.counter + 1 ∧ s2.goodx = some e.pt ∧
      s2.created = s.created + (if s.counter = 0 then 1 else 0)) ∨
    (s.phase ≤ cfg.N ∧ cfg.half ≤ s.counter ∧
      (if s.counter + 1 < 2 * cfg.half then s2.phase = s.phase ∧ s2.counter = s.counter + 1 ∧ s2.goodx = some e.pt
        else s2.phase = s.phase + 1 ∧ s2.counter = 0) ∧
      s2.created = s.created ∧ s.goodx = some e.pt ∧
      ∃ V1 v, V1 = (if s.counter = cfg.half then s.V ++ [cfg.zero] else s.V) ∧ V1[s.phase - 1]? = some v ∧
        s2.V = V1.set (s.phase - 1) (cfg.upd v (s.counter - cfg.half) x.r) ∧
        s2.Vx = (if s.counter = cfg.half then s.Vx ++ [e.pt] else s.Vx)) := by
  obtain ⟨s1, ds1, ds2, hp, hr, -⟩ := round_ok h
  rcases Nat.lt_or_ge cfg.N s.phase with hd | hd
  · obtain ⟨rfl, -, hg⟩ := pull_done_ok hd hp
    rw [receive_done hd] at hr
    cases hr
    exact .inl ⟨hd, rfl, hg⟩
  rcases Nat.lt_or_ge s.counter cfg.half with hlt | hge
  · obtain ⟨_, _, _, -, -, -, -, rfl⟩ := explore_round hd hlt hp hr
    exact .inr (.inl ⟨hd, hlt, rfl, rfl, rfl, rfl, rfl, rfl⟩)
  · obtain ⟨hsched, hcr, -, -, -, -, hg, hV⟩ := validate_round hh hd hge hp hr
    refine .inr (.inr ⟨hd, hge, ?_, hcr, hg, hV⟩)
    by_cases hs : s.counter + 1 < 2 * cfg.half
    · rw [if_pos hs] at hsched ⊢
      exact hsched
    · rw [if_neg hs] at hsched ⊢
      exact ⟨hsched.1, hsched.2.1⟩

theorem run_eq_runM (s : GPO L S Pt) (xs : List (RoundIn α R)) :
    run ops cfg s xs = runM (round ops cfg) s xs := by
  induction xs generalizing s with
  | nil => rfl
  | cons x xs ih =>
    rw [run, runM]
    cases round ops cfg s x with
    | error _ => rfl
    | ok o =>
      obtain ⟨s1, e⟩ := o
      dsimp only [bind, Except.bind]
      rw [ih]
      cases runM (round ops cfg) s1 xs <;> rfl

theorem run_append_ok_iff :
    run ops cfg s (xs ++ ys) = .ok (s', log) ↔
      ∃ s1 log1 log2, run ops cfg s xs = .ok (s1, log1) ∧ run ops cfg s1 ys = .ok (s', log2) ∧
        log = log1 ++ log2 := by
  simp only [run_eq_runM]
  exact runM_append_ok_iff

theorem run_length (h : run ops cfg s xs = .ok (s', log)) : log.length = xs.length :=
  runM_length (run_eq_runM s xs ▸ h)

theorem run_inv (hh : 1 ≤ cfg.half) (hI : Inv cfg s) (h : run ops cfg s xs = .ok (s', log)) : Inv cfg s' :=
  runM_induction (J := fun s _ => Inv cfg s) (log0 := []) (fun _ _ _ _ _ hJ hr => round_inv hh hJ hr) hI
    (run_eq_runM s xs ▸ h)

theorem run_induction (hh : 1 ≤ cfg.half) {J : GPO L S Pt → List (Entry R Pt) → Prop}
    (step : ∀ s log x s' e, Inv cfg s → J s log → round ops cfg s x = .ok (s', e) → J s' (log ++ [e]))
    (hI : Inv cfg s) (hJ : J s []) (h : run ops cfg s xs = .ok (s', log)) : J s' log := by
  rw [run_eq_runM] at h
  have := runM_induction (J := fun s log => Inv cfg s ∧ J s log)
    (fun s log x s' e hJ hr => ⟨round_inv hh hJ.1 hr, step s log x s' e hJ.1 hJ.2 hr⟩) ⟨hI, hJ⟩ h
  rw [List.nil_append] at this
  exact this.2

theorem run_total (hh : 1 ≤ cfg.half) (hops : OpsTotal ops) (xs : List (RoundIn α R)) (hI : Inv cfg s) :
    ∃ s' log, run ops cfg s xs = .ok (s', log) := by
  simp only [run_eq_runM]
  refine runM_total (I := Inv cfg) (fun s x hI => ?_) xs hI
  obtain ⟨s1, e, hr⟩ := round_total hh hI hops x
  exact ⟨s1, e, hr, round_inv hh hI hr⟩

/-- `(q·d + c + b - 1) / d` for `c < d`, `0 < b ≤ d`: the quotient `q` is passed iff `c + b > d` -/
theorem shift_div {q c d b : Nat} (hc : c < d) (hb : 0 < b) (hbd : b ≤ d) :
    (q * d + c + b - 1) / d = if d < c + b then q + 1 else q := by
  rw [Nat.add_assoc, Nat.add_sub_assoc (Nat.le_add_left_of_le hb), Nat.mul_comm,
    Nat.mul_add_div (Nat.lt_of_lt_of_le hb hbd)]
  split
  · rw [Nat.div_eq_of_lt_le (k := 1) (by omega) (by omega)]
  · rw [Nat.div_eq_of_lt (by omega)]; rfl

/-- the bookkeeping part of the invariant, in a form common to running phases and the end -/
theorem _root_.PyXAB.GPO.Inv.sched (hh : 1 ≤ cfg.half) (hI : Inv cfg s) :
    s.counter < 2 * cfg.half ∧ s.created = s.phase - 1 + (if s.counter = 0 then 0 else 1) ∧
    s.V.length = s.phase - 1 + (if cfg.half < s.counter then 1 else 0) := by
  rcases Nat.lt_or_ge cfg.N s.phase with hd | hd
  · obtain ⟨h0, hcr, hvl, -⟩ := hI.done hd
    rw [h0, hcr, hvl, Nat.le_antisymm hI.hph.2 hd, Nat.add_sub_cancel, if_pos rfl, if_neg (Nat.not_lt_zero _)]
    exact ⟨Nat.mul_pos (by decide) hh, rfl, rfl⟩
  · exact ⟨(hI.run hd).1, (hI.run hd).2.1, (hI.run hd).2.2.1⟩

omit [LT S] [DecidableLT S] in
theorem roundNo_lt (hp1 : 1 ≤ s.phase) (hc : s.counter < 2 * cfg.half)
    (hd : s.phase ≤ cfg.N) : roundNo cfg s < cfg.N * (2 * cfg.half) := by
  have h1 : (s.phase - 1 + 1) * (2 * cfg.half) ≤ cfg.N * (2 * cfg.half) :=
    Nat.mul_le_mul_right _ (by omega)
  rw [Nat.succ_mul] at h1
  unfold roundNo
  omega

theorem schedule_of_roundNo (hh : 1 ≤ cfg.half) (hI : Inv cfg s) {k : Nat}
    (hk : roundNo cfg s = k) :
    s.phase = k / (2 * cfg.half) + 1 ∧ s.counter = k % (2 * cfg.half) ∧
    s.created = (k + 2 * cfg.half - 1) / (2 * cfg.half) ∧
    s.V.length = (k + cfg.half - 1) / (2 * cfg.half) := by
  obtain ⟨hc, hcr, hvl⟩ := hI.sched hh
  have hp1 := hI.hph.1
  have hd : 0 < 2 * cfg.half := Nat.lt_of_le_of_lt (Nat.zero_le _) hc
  subst hk
  unfold roundNo
  rw [shift_div hc hd (Nat.le_refl _), shift_div hc hh (Nat.le_mul_of_pos_left _ (by decide)), hcr, hvl,
    Nat.mul_comm, Nat.mul_add_div hd, Nat.mul_add_mod, Nat.div_eq_of_lt hc, Nat.mod_eq_of_lt hc, Nat.add_zero]
  refine ⟨(Nat.sub_add_cancel hp1).symm, rfl, ?_, ?_⟩
  · by_cases h0 : s.counter = 0
    · rw [if_pos h0, if_neg (by rw [h0, Nat.zero_add]; exact Nat.lt_irrefl _)]; rfl
    · rw [if_neg h0, if_pos (Nat.lt_add_of_pos_left (Nat.pos_of_ne_zero h0))]
  · by_cases hlt : cfg.half < s.counter
    · rw [if_pos hlt, if_pos (by rw [Nat.two_mul]; exact Nat.add_lt_add_right hlt _)]
    · rw [if_neg hlt, if_neg (by rw [Nat.two_mul]; exact fun h => hlt (Nat.lt_of_add_lt_add_right h))]; rfl

theorem round_roundNo (hh : 1 ≤ cfg.half) (hI : Inv cfg s) (h : round ops cfg s x = .ok (s2, e))
    (hd : s.phase ≤ cfg.N) : roundNo cfg s2 = roundNo cfg s + 1 := by
  unfold roundNo
  rcases round_cases hh h with ⟨hd', -⟩ | ⟨-, -, -, -, hph, hcn, -⟩ | ⟨-, -, hsched, -⟩
  · exact absurd hd (Nat.not_le_of_lt hd')
  · rw [hph, hcn]; rfl
  · split at hsched
    · rw [hsched.1, hsched.2.1]; rfl
    · have hc2 := (hI.run hd).1
      rw [hsched.1, hsched.2, Nat.add_sub_cancel, ← Nat.sub_add_cancel hI.hph.1, Nat.add_sub_cancel,
        Nat.succ_mul]
      omega

/-- the number of rounds played, as recorded by phase and counter, is the length of the log — until
all `N·2·half` rounds of the schedule are over -/
theorem run_roundNo (hN : 1 ≤ cfg.N) (hh : 1 ≤ cfg.half) (h : run ops cfg GPO.init xs = .ok (s', log)) :
    roundNo cfg s' = min log.length (cfg.N * (2 * cfg.half)) := by
  refine run_induction hh (J := fun s log => roundNo cfg s = min log.length (cfg.N * (2 * cfg.half)))
    (fun s log x s2 e hI hJ hr => ?_) (inv_init cfg hN hh) ?_ h
  · rw [List.length_append, List.length_singleton]
    rcases Nat.lt_or_ge cfg.N s.phase with hd | hd
    · -- all phases over: `roundNo = N·2·half` already, and nothing changes
      obtain ⟨-, rfl, -⟩ | ⟨hd', -⟩ | ⟨hd', -⟩ := round_cases hh hr
      · have hM : roundNo cfg s2 = cfg.N * (2 * cfg.half) := by
          rw [roundNo, (hI.done hd).1, Nat.le_antisymm hI.hph.2 hd]; rfl
        rw [hM] at hJ ⊢
        exact (Nat.min_eq_right (Nat.le_succ_of_le (by rw [hJ]; exact Nat.min_le_left _ _))).symm
      · exact absurd hd (Nat.not_lt_of_le hd')
      · exact absurd hd (Nat.not_lt_of_le hd')
    · have := roundNo_lt hI.hph.1 (hI.run hd).1 hd
      rw [round_roundNo hh hI hr hd]
      omega
  · show (1 - 1) * (2 * cfg.half) + 0 = min 0 _
    rw [Nat.sub_self, Nat.zero_mul, Nat.zero_min]

theorem run_over (hN : 1 ≤ cfg.N) (hh : 1 ≤ cfg.half) (h : run ops cfg GPO.init xs = .ok (s', log))
    (hk : cfg.N * (2 * cfg.half) ≤ xs.length) : cfg.N < s'.phase := by
  have hI := run_inv hh (inv_init cfg hN hh) h
  have hrn := run_roundNo hN hh h
  rw [run_length h, Nat.min_eq_right hk] at hrn
  exact Nat.lt_of_not_le fun hd => Nat.lt_irrefl _ (hrn ▸ roundNo_lt hI.hph.1 (hI.run hd).1 hd)

/-- every log entry records phase and counter of a state reached, along the run, after as many
rounds as its index -/
theorem run_entry (hN : 1 ≤ cfg.N) (hh : 1 ≤ cfg.half) (h : run ops cfg GPO.init xs = .ok (s', log)) {j : Nat}
    (hj : log[j]? = some e) :
    ∃ s1 : GPO L S Pt, Inv cfg s1 ∧ roundNo cfg s1 = min j (cfg.N * (2 * cfg.half)) ∧
      e.phase = s1.phase ∧ e.counter = s1.counter ∧ e.created = creates cfg s1 := by
  rw [run_eq_runM] at h
  obtain ⟨s1, x, s2, hpre, -, hr⟩ := runM_getElem? h hj
  rw [← run_eq_runM] at hpre
  obtain ⟨hep, hec, -, hcr⟩ := round_entry hr
  refine ⟨s1, run_inv hh (inv_init cfg hN hh) hpre, ?_, hep, hec, hcr⟩
  rw [run_roundNo hN hh hpre, List.length_take,
    Nat.min_eq_left (Nat.le_of_lt (List.getElem?_eq_some_iff.mp hj).1)]

theorem run_entry_index (hN : 1 ≤ cfg.N) (hh : 1 ≤ cfg.half) (h : run ops cfg GPO.init xs = .ok (s', log))
    {j : Nat} (hj : log[j]? = some e) (hd : e.phase ≤ cfg.N) : j = (e.phase - 1) * (2 * cfg.half) + e.counter := by
  obtain ⟨s1, hI1, hrn, hep, hec, -⟩ := run_entry hN hh h hj
  rw [hep] at hd
  have := roundNo_lt hI1.hph.1 (hI1.run hd).1 hd
  rw [hep, hec]
  unfold roundNo at hrn this
  omega

omit [LT S] [DecidableLT S] in
theorem createdParams_snoc (log : List (Entry R Pt)) (e : Entry R Pt) :
    createdParams (log ++ [e]) = createdParams log ++ e.created.toList := by
  unfold createdParams
  rw [List.filterMap_append]
  cases h : e.created <;> simp [h]

/-- The learners are constructed with `rhoOf 1, rhoOf 2, …` in this order. -/
theorem run_created (hN : 1 ≤ cfg.N) (hh : 1 ≤ cfg.half) (h : run ops cfg GPO.init xs = .ok (s', log)) :
    createdParams log = List.range' 1 s'.created := by
  refine run_induction hh (J := fun s log => createdParams log = List.range' 1 s.created)
    (fun s log x s2 e hI hJ hr => ?_) (inv_init cfg hN hh) rfl h
  rw [createdParams_snoc, (round_entry hr).2.2.2, hJ, creates]
  rcases round_cases hh hr with ⟨hd, rfl, -⟩ | ⟨hd, hlt, -, -, -, -, -, hcr⟩ | ⟨hd, hge, -, hcr, -⟩
  · rw [if_neg (fun h' => absurd hd (Nat.not_lt_of_le h'.1))]
    exact List.append_nil _
  · rw [hcr]
    by_cases h0 : s.counter = 0
    · -- the learner of phase `created + 1` is constructed
      have hcp : s.created + 1 = s.phase := by
        rw [(hI.run hd).2.1, if_pos h0]; exact Nat.sub_add_cancel hI.hph.1
      rw [if_pos ⟨hd, h0⟩, if_pos h0, List.range'_concat, Nat.one_mul, Nat.add_comm 1, hcp]
      rfl
    · rw [if_neg (fun h' => h0 h'.2), if_neg h0]
      exact List.append_nil _
  · rw [hcr, if_neg (fun h' : _ ∧ s.counter = 0 => Nat.not_le_of_lt hh (h'.2 ▸ hge))]
    exact List.append_nil _

/-- Along a run from the constructor: while a phase is running, `goodx` is the last proposal of
its learner so far — the point of the log entry `counter - half` places before the last one, whose
counter is `min counter half - 1`; every validation round returned that point; and so is every
validated point `Vx[q]` the last proposal of the learner of phase `q + 1`. -/
structure PointsInv (cfg : GPOCfg R S ρ) (s : GPO L S Pt) (log : List (Entry R Pt)) : Prop where
  good : 0 < s.counter → s.counter - cfg.half + 1 ≤ log.length ∧
    ∃ e0, log[log.length - (s.counter - cfg.half + 1)]? = some e0 ∧ e0.phase = s.phase ∧
      e0.counter + 1 = min s.counter cfg.half ∧ s.goodx = some e0.pt
  val : ∀ (k : Nat) e, log[k]? = some e → e.phase ≤ cfg.N → cfg.half ≤ e.counter →
    ∃ e0, e.counter - cfg.half + 1 ≤ k ∧ log[k - (e.counter - cfg.half + 1)]? = some e0 ∧
      e0.phase = e.phase ∧ e0.counter + 1 = cfg.half ∧ e0.pt = e.pt
  vx : ∀ (q : Nat) pt, s.Vx[q]? = some pt →
    ∃ (k : Nat) (e0 : Entry R Pt), log[k]? = some e0 ∧ e0.phase = q + 1 ∧ q + 1 ≤ cfg.N ∧
      e0.counter + 1 = cfg.half ∧ e0.pt = pt

theorem pointsInv_step (hh : 1 ≤ cfg.half) (hI : Inv cfg s) (hJ : PointsInv cfg s log)
    (hr : round ops cfg s x = .ok (s2, e)) :
    PointsInv cfg s2 (log ++ [e]) := by
  obtain ⟨hep, hec, -⟩ := round_entry hr
  -- what is known of the old log stays true of the longer one
  have hval : ∀ (k : Nat) e', log[k]? = some e' → e'.phase ≤ cfg.N → cfg.half ≤ e'.counter →
      ∃ e0, e'.counter - cfg.half + 1 ≤ k ∧ (log ++ [e])[k - (e'.counter - cfg.half + 1)]? = some e0 ∧
        e0.phase = e'.phase ∧ e0.counter + 1 = cfg.half ∧ e0.pt = e'.pt := fun k e' hk hd' hge' =>
    let ⟨e0, hb, he0, h⟩ := hJ.val k e' hk hd' hge'
    ⟨e0, hb, getElem?_concat_of_some he0 e, h⟩
  have hvx : ∀ (q : Nat) pt, s.Vx[q]? = some pt → ∃ (k : Nat) (e0 : Entry R Pt),
      (log ++ [e])[k]? = some e0 ∧ e0.phase = q + 1 ∧ q + 1 ≤ cfg.N ∧ e0.counter + 1 = cfg.half ∧
        e0.pt = pt := fun q pt hq =>
    let ⟨k, e0, hk, h⟩ := hJ.vx q pt hq
    ⟨k, e0, getElem?_concat_of_some hk e, h⟩
  rcases round_cases hh hr with ⟨hd, rfl, -⟩ | ⟨hd, hlt, -, hVx, hph, hcn, hg, -⟩ |
      ⟨hd, hge, hsched, -, hg, V1, v, -, -, -, hVx⟩
  · -- all phases over
    refine ⟨fun h0 => absurd ((hI.done hd).1 ▸ h0) (Nat.lt_irrefl 0), fun k e' hk hd' hge' => ?_, hvx⟩
    rcases getElem?_concat_cases hk with hk | ⟨-, rfl⟩
    · exact hval k e' hk hd' hge'
    · exact absurd (hep ▸ hd') (Nat.not_le_of_lt hd)
  · -- exploring: the new entry is the last proposal
    refine ⟨fun _ => ?_, fun k e' hk hd' hge' => ?_, hVx ▸ hvx⟩
    · rw [hcn, hph, hg, List.length_append, List.length_singleton, Nat.sub_eq_zero_of_le hlt, Nat.add_sub_cancel]
      exact ⟨Nat.le_add_left _ _, e, List.getElem?_concat_length, hep, hec ▸ (Nat.min_eq_left hlt).symm, rfl⟩
    · rcases getElem?_concat_cases hk with hk | ⟨-, rfl⟩
      · exact hval k e' hk hd' hge'
      · exact absurd (hec ▸ hge') (Nat.not_le_of_lt hlt)
  · -- validating: the point returned is `goodx`, the last proposal
    have hpos : 0 < s.counter := Nat.lt_of_lt_of_le hh hge
    obtain ⟨hb, e0, he0, hph0, hcn0, hg0⟩ := hJ.good hpos
    have hpt : e0.pt = e.pt := Option.some.inj (hg0.symm.trans hg)
    rw [Nat.min_eq_right hge] at hcn0
    refine ⟨fun h0 => ?_, fun k e' hk hd' hge' => ?_, fun q pt hq => ?_⟩
    · split at hsched
      · rw [hsched.1, hsched.2.1, hsched.2.2, List.length_append, List.length_singleton, Nat.sub_add_comm hge,
          Nat.add_sub_add_right,
          Nat.min_eq_right (Nat.le_succ_of_le hge)]
        exact ⟨Nat.succ_le_succ hb, e0, getElem?_concat_of_some he0 e, hph0, hcn0, by rw [hpt]⟩
      · exact absurd (hsched.2 ▸ h0) (Nat.lt_irrefl 0)
    · rcases getElem?_concat_cases hk with hk | ⟨hk', he'⟩
      · exact hval k e' hk hd' hge'
      · rw [hk', he', hec, hep]
        exact ⟨e0, hb, getElem?_concat_of_some he0 e, hph0, hcn0, hpt⟩
    · rw [hVx] at hq
      split at hq
      · -- the first validation round of phase `|Vx| + 1` records the point
        rename_i hch
        rcases getElem?_concat_cases hq with hq | ⟨hq', rfl⟩
        · exact hvx q pt hq
        · have hvl := (hI.run hd).2.2.1
          rw [if_neg (by rw [hch]; exact Nat.lt_irrefl _), ← hI.hlen] at hvl
          have hq1 : q + 1 = s.phase := by rw [hq', hvl]; exact Nat.sub_add_cancel hI.hph.1
          exact ⟨_, e0, getElem?_concat_of_some he0 e, hph0.trans hq1.symm, hq1 ▸ hd, hcn0, hpt⟩
      · exact hvx q pt hq

theorem run_points (hN : 1 ≤ cfg.N) (hh : 1 ≤ cfg.half) (h : run ops cfg GPO.init xs = .ok (s', log)) :
    PointsInv cfg s' log :=
  run_induction hh (fun _ _ _ _ _ hI hJ hr => pointsInv_step hh hI hJ hr) (inv_init cfg hN hh)
    ⟨fun h0 => absurd h0 (Nat.lt_irrefl 0), nofun, nofun⟩ h

end GPO
end PyXAB.MT
