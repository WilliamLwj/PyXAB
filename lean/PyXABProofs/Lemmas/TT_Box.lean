/-
  C01, geometry backbone: the invariant `BoxInv` / `DomInv` ("every cell of the arena is a valid
  sub-box of the domain") is established by `Part.init`, kept by every payload-only update
  (`PRel`) and by every `make_children` whose draw fits the box being split; `loop_dom` carries
  it along the documented loop of any of the algorithms.
-/
import PyXABProofs.Spec.TotalSpec
import PyXABProofs.Lemmas.ZM_Tree
import PyXABProofs.Lemmas.TBA_Ops

set_option linter.unusedSectionVars false
set_option linter.unusedVariables false

namespace PyXAB
namespace TT
open _root_.PyXAB.Tree TBA

section plain
variable {α σ : Type}

theorem Keeps.refl (P : Part α σ) : Keeps P P := fun _ nd h => ⟨nd, h, rfl⟩

theorem Keeps.trans {P P' P'' : Part α σ} (h1 : Keeps P P') (h2 : Keeps P' P'') : Keeps P P'' := by
  intro i nd hi
  obtain ⟨nd', a1, a2⟩ := h1 i nd hi
  obtain ⟨nd'', b1, b2⟩ := h2 i nd' a1
  exact ⟨nd'', b1, b2.trans a2⟩

theorem Keeps.of_prel {ρ : Nat → Node α σ → Node α σ → Prop} {P P' : Part α σ}
    (h : PRel ρ P P') : Keeps P P' := by
  intro i nd hi
  obtain ⟨nd', a1, a2, _⟩ := h.node i nd hi
  exact ⟨nd', a1, a2.box⟩

theorem Keeps.of_eq {P P' : Part α σ} (h : P' = P) : Keeps P P' := h ▸ Keeps.refl P

theorem Keeps.valid {P P' : Part α σ} (h : Keeps P P') {v : Nat} (hv : v < P.nodes.length) :
    v < P'.nodes.length := by
  obtain ⟨nd', a1, _⟩ := h v _ (List.getElem?_eq_getElem hv)
  exact lt_length_of_getElem? a1

theorem boxOf_eq {P : Part α σ} {i : Nat} {nd : Node α σ} (h : P.nodes[i]? = some nd) :
    boxOf P i = nd.box := by
  simp only [boxOf, h]

theorem Keeps.boxOf {P P' : Part α σ} (h : Keeps P P') {v : Nat} (hv : v < P.nodes.length) :
    boxOf P' v = boxOf P v := by
  obtain ⟨nd', a1, a2⟩ := h v _ (List.getElem?_eq_getElem hv)
  rw [boxOf_eq a1, boxOf_eq (List.getElem?_eq_getElem hv), a2]

/-- The point handed out for the cell `v` never changes afterwards. -/
theorem Keeps.ptOf [Add α] [Div α] [OfNat α 2] {P P' : Part α σ} (h : Keeps P P') {v : Nat}
    (hv : v < P.nodes.length) : ptOf P' v = ptOf P v := by
  unfold TT.ptOf
  rw [h.boxOf hv]

/-- No constraint on the payloads: `PRel AnyR` says only that the two trees have the same cells with
the same boxes, depths and links. -/
def AnyR : Nat → Node α σ → Node α σ → Prop := fun _ _ _ => True

theorem closed_AnyR : Closed (AnyR (α := α) (σ := σ)) :=
  ⟨fun _ _ => trivial, fun _ _ _ _ _ _ _ _ => trivial⟩

/-- `Geo P P'`: `P'` is `P` up to payloads. -/
abbrev Geo (P P' : Part α σ) : Prop := PRel AnyR P P'

theorem Geo.of_prel {ρ : Nat → Node α σ → Node α σ → Prop} {P P' : Part α σ} (h : PRel ρ P P') :
    Geo P P' := h.mono (fun _ _ _ _ _ => trivial)

theorem Geo.refl (P : Part α σ) : Geo P P := PRel.refl' closed_AnyR P

theorem Geo.trans {P P' P'' : Part α σ} (h1 : Geo P P') (h2 : Geo P' P'') : Geo P P'' :=
  PRel.comp closed_AnyR h1 h2

theorem Geo.modifySt (P : Part α σ) (i : Nat) (f : σ → σ) : Geo P (P.modifySt i f) :=
  Geo.of_prel (PRel_modifySt P i f)

theorem Geo.foldl {γ : Type} (step : Part α σ → γ → Part α σ) (hstep : ∀ Q x, Geo Q (step Q x))
    (l : List γ) (P : Part α σ) : Geo P (l.foldl step P) :=
  PRel_foldl closed_AnyR step hstep l P

theorem dimn_of_boxInv [LE α] {root : Box α} {P : Part α σ} (W : WF P) (hB : BoxInv root P) :
    dimn P = root.length := by
  obtain ⟨r, hr, _⟩ := W.root
  simp only [dimn, hr]
  exact (hB 0 r hr).2.2

theorem mem_leafBoxes {P : Part α σ} {c : Box α} :
    c ∈ ZM.leafBoxes P ↔
      ∃ (w : Nat) (nd : Node α σ), P.nodes[w]? = some nd ∧ nd.children = none ∧ nd.box = c := by
  unfold ZM.leafBoxes
  constructor
  · intro h
    obtain ⟨nd, hnd, rfl⟩ := List.mem_map.1 h
    obtain ⟨hmem, hl⟩ := List.mem_filter.1 hnd
    obtain ⟨w, hw⟩ := List.mem_iff_getElem?.1 hmem
    exact ⟨w, nd, hw, Option.isNone_iff_eq_none.1 hl, rfl⟩
  · rintro ⟨w, nd, hw, hl, rfl⟩
    exact List.mem_map.2 ⟨nd, List.mem_filter.2 ⟨List.mem_of_getElem? hw,
      Option.isNone_iff_eq_none.2 hl⟩, rfl⟩

theorem forListed_geo (f : Node α σ → σ) (P : Part α σ) : Geo P (forListed P f) :=
  forListed_rel closed_AnyR f (fun _ _ _ _ _ => trivial) P

section backward
variable {R S : Type} [Max S] [Min S] [Inhabited S] [Inhabited R]

theorem backward_geo (negInf : S) {P P' : Part α (TBSt R S)} (h : backward negInf P = .ok P') :
    Geo P P' := by
  unfold backward at h
  refine ListAux.foldlM_ok_inv (fun Q => Geo P Q) _ _ P P' (Geo.refl P) ?_ h
  intro Q i Q' _ hQ hstep
  split at hstep
  · split at hstep
    · cases hstep
      exact hQ.trans (Geo.of_prel (backwardLayer_rel negInf Q _))
    · cases hstep
  · cases hstep

end backward

section mk
variable [Add α] [Sub α] [Mul α] [Div α] [OfNat α 2] [NatCast α]

/-- Every cell after `make_children` is an old cell up to its child list, or a new cell: one
level below the split cell, its box one of the child boxes. -/
theorem makeChildren_cases {P P' : Part α σ} {s0 : σ} {p : Nat} {nd : Node α σ} {nl : Bool}
    {d : Draw α} (hp : P.nodes[p]? = some nd) (h : P.makeChildren s0 p nl d = .ok P') {i : Nat}
    {x : Node α σ} (hi : P'.nodes[i]? = some x) :
    (∃ y c, P.nodes[i]? = some y ∧ x = { y with children := c }) ∨
      (x.box ∈ childBoxes P.kind nd.box d ∧ x.depth = nd.depth + 1) := by
  by_cases hlt : i < P.nodes.length
  · have hy := List.getElem?_eq_getElem hlt
    rw [Part.makeChildren_old hp h hy] at hi
    cases hi
    by_cases e : i = p
    · exact .inl ⟨_, _, hy, if_pos e⟩
    · exact .inl ⟨_, P.nodes[i].children, hy, if_neg e⟩
  · have hj := (Part.makeChildren_getElem? hp h).2.2.2 (i - P.nodes.length)
    rw [Nat.add_sub_cancel' (Nat.le_of_not_lt hlt), hi] at hj
    obtain ⟨hd, _, _, _, hb, _⟩ := Part.of_getElem?_newKids hj.symm
    exact .inr ⟨List.mem_of_getElem? hb, hd⟩

theorem makeChildren_keeps {P P' : Part α σ} {s0 : σ} {p : Nat} {nl : Bool} {d : Draw α}
    (h : P.makeChildren s0 p nl d = .ok P') : Keeps P P' := by
  obtain ⟨nd, hp⟩ := Part.makeChildren_valid h
  intro i y hi
  refine ⟨_, Part.makeChildren_old hp h hi, ?_⟩
  split <;> rfl

end mk
end plain

section order
variable {α σ : Type} [LinearOrder α]

theorem DomInv.of_prel {ρ : Nat → Node α σ → Node α σ → Prop} {k : Kind} {root : Box α}
    {P P' : Part α σ} (h : PRel ρ P P') (hD : DomInv k root P) : DomInv k root P' := by
  refine ⟨h.kind.trans hD.kind, fun i nd' hi => ?_⟩
  obtain ⟨nd, a1, a2, _⟩ := h.bwd hi
  rw [a2.box]
  exact hD.box i nd a1

theorem SplitFits.of_prel {ρ : Nat → Node α σ → Node α σ → Prop} {k : Kind} {root : Box α}
    {P P' : Part α σ} {p : Nat} {ds : List (Draw α)} (h : PRel ρ P P')
    (hS : SplitFits k root P p ds) : SplitFits k root P' p ds := by
  intro nd' hi
  obtain ⟨nd, a1, a2, _⟩ := h.bwd hi
  rw [a2.box]
  exact hS nd a1

theorem SplitFits.of_prel_back {ρ : Nat → Node α σ → Node α σ → Prop} {k : Kind} {root : Box α}
    {P P' : Part α σ} {p : Nat} {ds : List (Draw α)} (h : PRel ρ P P')
    (hS : SplitFits k root P' p ds) : SplitFits k root P p ds := by
  intro nd hi
  obtain ⟨nd', a1, a2, _⟩ := h.node p nd hi
  rw [← a2.box]
  exact hS nd' a1

theorem DomInv.init {k : Kind} {root : Box α} (hv : Box.Valid root) (s0 : σ) :
    DomInv k root (Part.init k root s0) := by
  refine ⟨rfl, fun i nd hi => ?_⟩
  obtain ⟨-, rfl⟩ := Part.getElem?_init.1 hi
  exact ⟨Box.Subset.refl root, hv, rfl⟩

/-- For the deterministic partition classes the NumPy guarantee is the well-formedness of the
draw. -/
theorem drawFits_of_det {k : Kind} (hk : Kind.Deterministic k) {root b : Box α} {d : Draw α}
    (hd : DrawOKLen k root.length d) : DrawFits k root b d := by
  intro _ hs
  have hl : b.length = root.length := Box.Subset.length_eq hs
  cases k with
  | binary => simpa [DrawOK, DrawOKLen, hl] using hd
  | dimBinary => trivial
  | kary K =>
    simp only [DrawOKLen] at hd
    simp only [DrawOK, hl]
    exact ⟨hd.2, hd.1⟩
  | randBinary => exact absurd hk (by simp [Kind.Deterministic])
  | randKary K => exact absurd hk (by simp [Kind.Deterministic])

theorem headFits_of_det {k : Kind} (hk : Kind.Deterministic k) {root b : Box α}
    {ds : List (Draw α)} (hd : ∀ d ∈ ds, DrawOKLen k root.length d) : HeadFits k root b ds := by
  cases ds with
  | nil => trivial
  | cons d rest => exact drawFits_of_det hk (hd d (List.mem_cons_self ..))

theorem splitFits_of_det {k : Kind} (hk : Kind.Deterministic k) {root : Box α} {P : Part α σ}
    {p : Nat} {ds : List (Draw α)} (hd : ∀ d ∈ ds, DrawOKLen k root.length d) :
    SplitFits k root P p ds := fun _ _ => headFits_of_det hk hd

theorem evDraws_of_det {S : Type} {k : Kind} (hk : Kind.Deterministic k) {root : Box α} :
    ∀ (ds : List (Draw α)) (evs : List (SW.Ev α σ S)), (∀ d ∈ ds, DrawOKLen k root.length d) →
      EvDraws k root ds evs
  | _, [], _ => by simp [EvDraws]
  | [], _ :: _, _ => by simp [EvDraws]
  | d :: ds, ev :: evs, h => by
    simp only [EvDraws]
    exact ⟨fun _ _ => drawFits_of_det hk (h d (List.mem_cons_self ..)),
      evDraws_of_det hk ds evs (fun d' hd' => h d' (List.mem_cons_of_mem _ hd'))⟩

end order

section field
variable {α σ : Type} [Field α] [LinearOrder α] [IsStrictOrderedRing α]

/-- **`make_children` with a fitting draw keeps the invariant**: the children are valid
sub-boxes of the split cell (`C02.childBoxes_tiles`), hence of the domain. -/
theorem makeChildren_dom {k : Kind} {root : Box α} {P P' : Part α σ} {s0 : σ} {p : Nat}
    {nd : Node α σ} {nl : Bool} {d : Draw α} (hD : DomInv k root P) (hp : P.nodes[p]? = some nd)
    (hd : DrawFits k root nd.box d) (h : P.makeChildren s0 p nl d = .ok P') :
    DomInv k root P' ∧ Keeps P P' := by
  obtain ⟨ps, pv, pl⟩ := hD.box p nd hp
  have hT := (C02.childBoxes_tiles k nd.box d pv (hd pv ps)).1.1
  refine ⟨⟨(Part.makeChildren_ok hp h).1.trans hD.kind, fun i x hi => ?_⟩, makeChildren_keeps h⟩
  rcases makeChildren_cases hp h hi with ⟨y, c, hy, rfl⟩ | ⟨hx, _⟩
  · exact hD.box i y hy
  · obtain ⟨c1, c2⟩ := hT x.box (hD.kind ▸ hx)
    exact ⟨c1.trans ps, c2, (Box.Subset.length_eq c1).trans pl⟩

/-- Payload-only updates around one conditional expansion: the shape of the `receive_reward`s
of the tree bandits. -/
theorem expand_if_dom {k : Kind} {root : Box α} {P Pa Pb P' : Part α σ} {s0 : σ} {p : Nat}
    {c : Bool} {ds ds' : List (Draw α)} (hD : DomInv k root P) (hS : SplitFits k root P p ds)
    (g1 : Geo P Pa) (h : (if c = true then Pa.expand s0 p ds else .ok (Pa, ds)) = .ok (Pb, ds'))
    (g2 : Geo Pb P') : DomInv k root P' ∧ Keeps P P' := by
  have hab : DomInv k root Pb ∧ Keeps Pa Pb := by
    cases c with
    | false => cases h; exact ⟨DomInv.of_prel g1 hD, Keeps.refl _⟩
    | true =>
      obtain ⟨nd, d, hp, rfl, hm⟩ := Part.expand_eq_ok.1 h
      exact makeChildren_dom (DomInv.of_prel g1 hD) hp (SplitFits.of_prel g1 hS nd hp) hm
  exact ⟨DomInv.of_prel g2 hab.1, ((Keeps.of_prel g1).trans hab.2).trans (Keeps.of_prel g2)⟩

/-- Splitting the root of the fresh partition, as the constructors of the algorithms do. -/
theorem init_split_dom {k : Kind} {domain : Box α} {s0 : σ} {nl : Bool} {d : Draw α}
    {P1 : Part α σ} (hv : Box.Valid domain) (hd : DrawFits k domain domain d)
    (h : (Part.init k domain s0).makeChildren s0 0 nl d = .ok P1) : DomInv k domain P1 :=
  (makeChildren_dom (DomInv.init hv s0) rfl hd h).1

theorem init_expand_dom {k : Kind} {domain : Box α} {s0 : σ} {ds ds' : List (Draw α)}
    {P1 : Part α σ} (hv : Box.Valid domain) (hd : HeadFits k domain domain ds)
    (h : (Part.init k domain s0).expand s0 0 ds = .ok (P1, ds')) : DomInv k domain P1 := by
  obtain ⟨nd, d, -, rfl, hm⟩ := Part.expand_eq_ok.1 h
  exact init_split_dom hv hd hm

/-- A cell of a tree satisfying the invariant: its representative point is a `d`-vector inside
the domain. -/
theorem BoxInv.cpoint {root : Box α} {P : Part α σ} (hB : BoxInv root P) {i : Nat}
    {nd : Node α σ} (hi : P.nodes[i]? = some nd) :
    Box.Mem root (Box.cpoint nd.box) ∧ (Box.cpoint nd.box).length = root.length := by
  obtain ⟨ps, pv, pl⟩ := hB i nd hi
  exact ⟨Box.mem_of_subset ps (C02.cpoint_mem nd.box pv), (cpoint_length nd.box).trans pl⟩

theorem DomInv.pointOK {k : Kind} {root : Box α} {P : Part α σ} (hD : DomInv k root P) {v : Nat}
    (hv : v < P.nodes.length) : PointOK root P v := by
  have hi : P.nodes[v]? = some P.nodes[v] := List.getElem?_eq_getElem hv
  have := hD.box.cpoint hi
  refine ⟨hv, ?_, ?_⟩ <;> simp only [ptOf, boxOf, hi]
  · exact this.1
  · exact this.2

theorem PointOK.keeps {root : Box α} {P P' : Part α σ} {v : Nat} (h : PointOK root P v)
    (hK : Keeps P P') : PointOK root P' v := by
  obtain ⟨h1, h2, h3⟩ := h
  exact ⟨hK.valid h1, by rw [hK.ptOf h1]; exact h2, by rw [hK.ptOf h1]; exact h3⟩

/-- **A machine whose rounds keep the cells of its tree and hand out cells of it.**  `I s` is
what is assumed of the state between rounds, `G t s xs` what is assumed, before round number `t`,
of the inputs `xs` still to come.  If from every such state the next round succeeds,
re-establishes `I` and `G` for the remaining inputs, keeps all cells (`Keeps`) and hands out a
cell whose point lies in the domain, then the loop `run` succeeds and every point handed out lies
in the domain (and is still the point of its cell in the final tree). -/
theorem loop_dom {ς τ ι ρ : Type} {root : Box α} (tree : ς → Part α τ)
    (run : Nat → ς → List ι → Except Err (ς × List (Nat × ρ))) (out : ι → ρ) (I : ς → Prop)
    (G : Nat → ς → List ι → Prop) (hnil : ∀ t s, run t s [] = .ok (s, []))
    (hcons : ∀ t s x xs, I s → G t s (x :: xs) → ∃ s2 v, I s2 ∧ G (t + 1) s2 xs ∧
      Keeps (tree s) (tree s2) ∧ PointOK root (tree s2) v ∧
      ∀ s' H, run (t + 1) s2 xs = .ok (s', H) → run t s (x :: xs) = .ok (s', (v, out x) :: H)) :
    ∀ (xs : List ι) (t : Nat) (s : ς), I s → G t s xs → ∃ s' H, run t s xs = .ok (s', H) ∧
      I s' ∧ Keeps (tree s) (tree s') ∧ H.map (·.2) = xs.map out ∧
      ∀ e ∈ H, PointOK root (tree s') e.1
  | [], t, s, hI, _ => ⟨s, [], hnil t s, hI, Keeps.refl _, rfl, fun _ h => by cases h⟩
  | x :: xs, t, s, hI, hG => by
    obtain ⟨s2, v, hI2, hG2, hK, hv, hrun⟩ := hcons t s x xs hI hG
    obtain ⟨s', H, e, hI', hK', hH, hpts⟩ :=
      loop_dom tree run out I G hnil hcons xs (t + 1) s2 hI2 hG2
    refine ⟨s', (v, out x) :: H, hrun s' H e, hI', hK.trans hK',
      by rw [List.map_cons, List.map_cons, hH], fun e he => ?_⟩
    rcases List.mem_cons.1 he with rfl | he
    · exact hv.keeps hK'
    · exact hpts e he

/-- In a tree grown from a `Valid` root box, EVERY cell (leaf or not)
is a valid sub-box of the root box, of the same dimension. -/
theorem grown_domInv {k : Kind} {root : Box α} {s0 : σ} {P : Part α σ} (hroot : Box.Valid root)
    (hG : ZM.Grown k root s0 P) : DomInv k root P := by
  induction hG with
  | init => exact DomInv.init hroot s0
  | mk _ hp _ _ hd hm ih =>
    exact (makeChildren_dom ih hp (fun _ _ => by rw [← ih.kind]; exact hd) hm).1

end field
end TT
end PyXAB
