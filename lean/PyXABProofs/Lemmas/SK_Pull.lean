/-
  StroquOOL: the vocabulary in which the blocks of `pull` are specified — what a block keeps
  under the invariant (`Blk`), the end of a run (`Finished`), handing out a cell (`Give`), and the
  two possible outcomes of a `pull` (`Out`).
-/
import PyXABProofs.Lemmas.SK_Ext

namespace PyXAB
namespace SK
open Tree TBA StroquOOL

variable {α R S : Type}

theorem Inv.prel {s s' : StroquOOL α R S} (hI : Inv s)
    {ρ : Nat → Node α (SkSt R S) → Node α (SkSt R S) → Prop} (hq : PRel ρ s.P s'.P)
    (hm : s'.maxNode = s.maxNode) (hc : s'.chosen = s.chosen)
    (hcd : ∀ c, some c ∈ s'.candidate → c ∈ s.chosen)
    (hcur : s'.curr < s.P.nodes.length) : Inv s' where
  wf := hq.wf hI.wf
  ar := hq.K_eq.trans hI.ar
  mx := fun m h => prel_expd hq (hI.mx m (hm ▸ h))
  ch := by rw [hc, hI.ch, hq.len]
  cd := fun c h => hc ▸ hcd c h
  cur := by rw [hq.len]; exact hcur

/-- A block of `pull` under the invariant: keeps `Inv` and well-formed draws, only extends the
arena, does not touch `candidate`. -/
structure Blk (s s1 : StroquOOL α R S) (ds1 : List (Draw α)) : Prop where
  inv : Inv s1
  dok : DrawsOK s1.P ds1
  ext : Ext s.P s1.P
  cand : s1.candidate = s.candidate

theorem Blk.rfl' {s : StroquOOL α R S} {ds : List (Draw α)} (hI : Inv s) (hd : DrawsOK s.P ds) :
    Blk s s ds := ⟨hI, hd, Ext.rfl' _, rfl⟩

theorem Blk.trans {s s1 s2 : StroquOOL α R S} {ds1 ds2 : List (Draw α)}
    (h1 : Blk s s1 ds1) (h2 : Blk s1 s2 ds2) : Blk s s2 ds2 :=
  ⟨h2.inv, h2.dok, h1.ext.trans h2.ext, h2.cand.trans h1.cand⟩

/-- `s'` is `s` with the schedule moved on (`iteration`, `timeStamp`, `currDepth`, `currP`,
`currLoc`, `eval`), possibly a cell marked `opened`, and `curr` set to `c` -/
structure Give (s s' : StroquOOL α R S) (c : Nat) : Prop where
  quiet : Quiet s.P s'.P
  maxNode : s'.maxNode = s.maxNode
  chosen : s'.chosen = s.chosen
  cand : s'.candidate = s.candidate
  ended : s'.ended = s.ended
  curr : s'.curr = c

theorem Give.refl (s : StroquOOL α R S) : Give s s s.curr :=
  ⟨Quiet.refl _, rfl, rfl, rfl, rfl, rfl⟩

theorem Give.setCurr {s s' : StroquOOL α R S} {c : Nat} (G : Give s s' c) (b : Nat) :
    Give s { s' with curr := b } b :=
  ⟨G.quiet, G.maxNode, G.chosen, G.cand, G.ended, rfl⟩

theorem Give.blk {s s' : StroquOOL α R S} {c : Nat} (G : Give s s' c) {ds : List (Draw α)}
    (hI : Inv s) (hd : DrawsOK s.P ds) (hc : c ∈ s.chosen) : Blk s s' ds ∧ c ∈ s'.chosen :=
  ⟨⟨hI.prel G.quiet G.maxNode G.chosen (fun x hx => hI.cd x (G.cand ▸ hx))
      (G.curr ▸ (hI.mem_chosen.1 hc).2), G.quiet.ext.drawsOK hd, G.quiet.ext, G.cand⟩,
    G.chosen ▸ hc⟩

section model
variable [LE S] [DecidableLE S]

theorem finish_ok_iff (cfg : SkCfg R S) (s s' : StroquOOL α R S) (ds ds' : List (Draw α))
    (v : Nat) : finish cfg s ds = .ok (s', ds', v) ↔
      ds' = ds ∧ lastPoint cfg { s with ended := true } = .ok (s', v) := by
  unfold finish
  rw [ListAux.bind_eq_ok]
  constructor
  · rintro ⟨⟨a, b⟩, h1, h2⟩
    cases h2
    exact ⟨rfl, h1⟩
  · rintro ⟨rfl, h⟩
    exact ⟨_, h, rfl⟩

/-- the output of `finish`: the run is marked ended, only candidates' means are refreshed, and
the returned id is (idempotently) the recommendation of the new state -/
structure Finished (cfg : SkCfg R S) (s s' : StroquOOL α R S) (v : Nat) : Prop where
  eq : s' = { s with ended := true, P := refreshP cfg s.P s.candidate }
  reco : lastPoint cfg s' = .ok (s', v)
  mem : some v ∈ s'.candidate

theorem finish_spec (cfg : SkCfg R S) {s s' : StroquOOL α R S} {ds ds' : List (Draw α)} {v : Nat}
    (h : finish cfg s ds = .ok (s', ds', v)) : ds' = ds ∧ Finished cfg s s' v := by
  obtain ⟨rfl, h2⟩ := (finish_ok_iff cfg s s' ds ds' v).1 h
  obtain ⟨_, hp, e⟩ := (lastPoint_ok_iff cfg _ s' v).1 h2
  have hm := (pickLast_mem _ _ _ _ hp).resolve_left nofun
  exact ⟨rfl, e, lastPoint_idem cfg h2, by rw [e]; exact hm⟩

namespace Finished
variable {cfg : SkCfg R S} {s s' : StroquOOL α R S} {v : Nat}

theorem ended (h : Finished cfg s s' v) : s'.ended = true := by rw [h.eq]

theorem blk (F : Finished cfg s s' v) {s0 : StroquOOL α R S} {ds : List (Draw α)} (B : Blk s0 s ds) :
    Blk s0 s' ds ∧ v ∈ s'.chosen := by
  have hq : Quiet s.P s'.P := by rw [F.eq]; exact quiet_refreshP cfg s.P s.candidate
  have hc : s'.candidate = s.candidate := by rw [F.eq]
  have hI : Inv s' := B.inv.prel hq (by rw [F.eq]) (by rw [F.eq])
    (fun c h => B.inv.cd c (hc ▸ h)) (by rw [F.eq]; exact B.inv.cur)
  exact ⟨B.trans ⟨hI, hq.ext.drawsOK B.dok, hq.ext, hc⟩, hI.cd v F.mem⟩

end Finished

/-- What a `pull` at time `t` returns: either a cell to evaluate, which becomes `curr` (and
`ended` is untouched), or the recommendation: the run is (or stays) marked ended, and — unless
this happens in the depth-0 block — from a `Stuck` configuration. -/
inductive Out (cfg : SkCfg R S) (s : StroquOOL α R S) (t : Nat) (s' : StroquOOL α R S) (v : Nat) :
    Prop
  | eval : s'.ended = s.ended → s'.curr = v → Out cfg s t s' v
  | fin (s1 : StroquOOL α R S) : s1.ended = s.ended → (s.currDepth ≠ 0 → Stuck cfg s1 t) →
      Finished cfg s1 s' v → Out cfg s t s' v

theorem Out.of_give {cfg : SkCfg R S} {s s0 s' : StroquOOL α R S} {t v : Nat} (G : Give s s' v)
    (he : s.ended = s0.ended) : Out cfg s0 t s' v :=
  .eval (G.ended.trans he) G.curr

/-- `Out` looks at `ended` and `currDepth` of the state the `pull` starts from -/
theorem Out.of_eq {cfg : SkCfg R S} {s s0 s' : StroquOOL α R S} {t v : Nat} (h : Out cfg s t s' v)
    (he : s.ended = s0.ended) (hd : s.currDepth = s0.currDepth) : Out cfg s0 t s' v := by
  cases h with
  | eval a b => exact .eval (a.trans he) b
  | fin s1 a b c => exact .fin s1 (a.trans he) (fun h0 => b (hd ▸ h0)) c

end model

end SK
end PyXAB
