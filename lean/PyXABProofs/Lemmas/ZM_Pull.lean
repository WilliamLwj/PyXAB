/-
  `Zooming.pull`: the fold `argmaxArm` returns the LAST position of maximal index.
-/
import PyXABProofs.Spec.ZoomSpec
import Mathlib.Order.Defs.LinearOrder
import Mathlib.Data.List.Induction

set_option linter.unusedSectionVars false

namespace PyXAB
namespace ZM
open Zooming

variable {α R S : Type} [LinearOrder S]

/-- one step of the fold of `argmaxArm` -/
def amStep (cfg : ZoomCfg R S) (ph : Nat) (acc : Nat × S × Option Nat) (a : Arm α S) :
    Nat × S × Option Nat :=
  if acc.2.1 ≤ idx cfg ph a then (acc.1 + 1, idx cfg ph a, some acc.1)
  else (acc.1 + 1, acc.2.1, acc.2.2)

/-- The fold of `argmaxArm` keeps the position of the LAST maximum seen (ties replace the
incumbent), or `none` while everything seen was below `negInf`.  Induction from the right: the
step for the last element is the only one that matters. -/
theorem fold_spec (cfg : ZoomCfg R S) (ph : Nat) (l : List (Arm α S)) :
    ∃ mx bi, l.foldl (amStep cfg ph) (0, cfg.negInf, none) = (l.length, mx, bi) ∧
      (∀ b ∈ l, idx cfg ph b ≤ mx) ∧
      ((bi = none ∧ mx = cfg.negInf ∧ ∀ b ∈ l, idx cfg ph b < cfg.negInf) ∨
       ∃ k a, l[k]? = some a ∧ bi = some k ∧ mx = idx cfg ph a ∧
          ∀ j b, k < j → l[j]? = some b → idx cfg ph b < mx) := by
  induction l using List.reverseRecOn with
  | nil => exact ⟨_, _, rfl, nofun, .inl ⟨rfl, rfl, nofun⟩⟩
  | append_singleton l x ih =>
    obtain ⟨mx, bi, e, h2, h3⟩ := ih
    rw [List.foldl_concat, e, List.length_append, List.length_singleton]
    by_cases h : mx ≤ idx cfg ph x
    · refine ⟨idx cfg ph x, some l.length, by rw [amStep, if_pos h], fun b hb => ?_,
        .inr ⟨l.length, x, List.getElem?_concat_length, rfl, rfl, fun j b hj hb => ?_⟩⟩
      · rcases List.mem_append.1 hb with hb | hb
        · exact le_trans (h2 b hb) h
        · rw [List.mem_singleton.1 hb]
      · have := (List.getElem?_eq_some_iff.1 hb).1
        rw [List.length_append, List.length_singleton] at this
        exact absurd this (Nat.not_lt.2 hj)
    · have hlt : idx cfg ph x < mx := lt_of_not_ge h
      have hmem : ∀ {p : Arm α S → Prop}, (∀ b ∈ l, p b) → p x → ∀ b ∈ l ++ [x], p b :=
        fun h1 h2 b hb => (List.mem_append.1 hb).elim (h1 b) fun hb => List.mem_singleton.1 hb ▸ h2
      refine ⟨mx, bi, by rw [amStep, if_neg h], hmem h2 (le_of_lt hlt), ?_⟩
      rcases h3 with ⟨e1, e2, e3⟩ | ⟨k, a, e1, e2, e3, e4⟩
      · exact .inl ⟨e1, e2, hmem e3 (e2 ▸ hlt)⟩
      · refine .inr ⟨k, a, ?_, e2, e3, fun j b hj hb => ?_⟩
        · rw [List.getElem?_append_left (List.getElem?_eq_some_iff.1 e1).1]; exact e1
        · by_cases hjl : j < l.length
          · rw [List.getElem?_append_left hjl] at hb; exact e4 j b hj hb
          · have := (List.getElem?_eq_some_iff.1 hb).1
            rw [List.length_append, List.length_singleton] at this
            obtain rfl : j = l.length :=
              Nat.le_antisymm (Nat.le_of_lt_succ this) (Nat.le_of_not_lt hjl)
            rw [List.getElem?_concat_length] at hb
            exact Option.some.inj hb ▸ hlt

/-- `pull` from a state with at least one arm and `negInf` below every index: never raises,
changes only `best`, and returns the last position of maximal index. -/
theorem pull_spec (cfg : ZoomCfg R S) (s : Zooming α S) (hne : s.arms ≠ [])
    (hbot : NegInfLe cfg s) :
    ∃ i a, s.arms[i]? = some a ∧ pull cfg s = .ok ({ s with best := some i }, i, a.pt) ∧
      (∀ b ∈ s.arms, idx cfg s.phase b ≤ idx cfg s.phase a) ∧
      ∀ j b, i < j → s.arms[j]? = some b → idx cfg s.phase b < idx cfg s.phase a := by
  obtain ⟨mx, bi, e, h2, h3⟩ := fold_spec cfg s.phase s.arms
  rcases h3 with ⟨_, _, e3⟩ | ⟨k, a, e1, rfl, rfl, e4⟩
  · obtain ⟨b, hb⟩ := List.exists_mem_of_ne_nil _ hne
    exact absurd (hbot b hb) (not_le_of_gt (e3 b hb))
  · refine ⟨k, a, e1, ?_, h2, e4⟩
    -- `argmaxArm` is the last component of the fold `fold_spec` speaks of
    have : argmaxArm cfg s.phase s.arms = some k := congrArg (·.2.2) e
    simp only [pull, this, e1]

end ZM
end PyXAB
