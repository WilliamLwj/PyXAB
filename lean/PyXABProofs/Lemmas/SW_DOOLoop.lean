/-
  DOO: the passes of one `pull`.  A pass runs down the layers; `PassInv` is what holds when it
  enters layer `h`, in either of its two modes: an unevaluated leaf is still ahead (the pass
  will hand it out), or every leaf is evaluated and the pass carries the running maximum of the
  refreshed `b_value`s (it will expand the maximiser and start again).
-/
import PyXABProofs.Lemmas.SW_DOO

set_option linter.unusedSectionVars false

namespace PyXAB
namespace DOO
open Tree TBA SW

variable {α S : Type} [Add α] [Sub α] [Mul α] [Div α] [OfNat α 2] [NatCast α]
variable [LinearOrder S] [Inhabited S]

/-- some layer at depth `≥ h` holds a leaf not yet evaluated: DOO's sweep, entering depth `h`,
will hand out a cell without expanding anything -/
def HasUnv (P : Part α (SwSt S)) (h : Nat) : Prop :=
  ∃ hq l w, h ≤ hq ∧ P.layers[hq]? = some l ∧ w ∈ l ∧ unvisitedLeaf P w = true

theorem HasUnv.le_depth {P : Part α (SwSt S)} {h : Nat} (hu : HasUnv P h) (W : WF P) :
    h ≤ P.depth := by
  obtain ⟨hq, l, _, q1, q2, _⟩ := hu
  have := lt_length_of_getElem? q2
  rw [W.layers_len] at this; omega

theorem HasUnv.next {P P1 : Part α (SwSt S)} {h : Nat} {l : List Nat} (hu : HasUnv P h)
    (hR : VRRel P P1) (hl : P.layers[h]? = some l) (hall : ∀ w ∈ l, unvisitedLeaf P w = false) :
    HasUnv P1 (h + 1) := by
  obtain ⟨hq, lq, w, q1, q2, q3, q4⟩ := hu
  have hne : hq ≠ h := by
    rintro rfl
    rw [hl] at q2; cases q2
    rw [hall w q3] at q4; cases q4
  exact ⟨hq, lq, w, Nat.lt_of_le_of_ne q1 (Ne.symm hne), by rw [hR.layers]; exact q2, q3,
    by rw [hR.unv]; exact q4⟩

structure PassInv (cfg : DOOCfg α S) (h : Nat) (maxv : S) (maxn : Option Nat)
    (P : Part α (SwSt S)) : Prop where
  low : LowVisited P h
  acc : HasUnv P h ∨
    (amFold (leafScore P (·.b)) (P.layers.take h).flatten (cfg.negInf, none) = (maxv, maxn) ∧
     ∀ h', h' < h → ∃ Ph δ, BOnly Ph P ∧ cfg.delta Ph h' = .ok δ ∧
      ∀ (w : Nat) (nd : Node α (SwSt S)), P.nodes[w]? = some nd → nd.children = none →
        nd.depth = h' → nd.st.b = cfg.bOf nd.st.reward δ)

theorem PassInv.zero (cfg : DOOCfg α S) (P : Part α (SwSt S)) :
    PassInv cfg 0 cfg.negInf none P :=
  ⟨LowVisited.zero P, Or.inr ⟨rfl, fun _ hh => absurd hh (Nat.not_lt_zero _)⟩⟩

theorem mem_take_flatten {L : List (List Nat)} {h w : Nat} (hw : w ∈ (L.take h).flatten) :
    ∃ h' l', h' < h ∧ L[h']? = some l' ∧ w ∈ l' := by
  obtain ⟨l', h1, h2⟩ := List.mem_flatten.1 hw
  obtain ⟨i, hi, e⟩ := List.getElem_of_mem h1
  have hi' : i < h ∧ i < L.length := by
    simp only [List.length_take] at hi; omega
  refine ⟨i, l', hi'.1, ?_, h2⟩
  rw [← e, List.getElem_take, List.getElem?_eq_getElem hi'.2]

theorem PassInv.step {cfg : DOOCfg α S} {h : Nat} {maxv : S} {maxn : Option Nat}
    {P P1 : Part α (SwSt S)} {δ : S} {l : List Nat} {res : Scan S} (W : WF P)
    (hp : PassInv cfg h maxv maxn P) (hd : cfg.delta P h = .ok δ)
    (hl : P.layers[h]? = some l) (hsc : scan cfg δ l P maxv maxn = (P1, res)) :
    VRRel P P1 ∧ (∀ v, res = .found v → firstUnvisited P1 = some v) ∧
      ∀ mv mn, res = .best mv mn →
        PassInv cfg (h + 1) mv mn P1 ∧ (HasUnv P h → HasUnv P1 (h + 1)) := by
  have sp := scan_spec cfg δ l P maxv maxn P1 res hsc
  have hR := sp.rel
  cases hf : l.find? (unvisitedLeaf P) with
  | some v =>
    rw [sp.found v hf]
    refine ⟨hR, fun v' e => ?_, fun _ _ e => nomatch e⟩
    cases e
    exact firstUnvisited_of_layer (hR.low hp.low) (by rw [hR.layers]; exact hl)
      (by rw [hR.unv]; exact hf)
  | none =>
    obtain ⟨hres, href⟩ := sp.best hf
    refine ⟨hR, fun _ e => (by rw [hres] at e; cases e), fun mv mn e => ?_⟩
    rw [hres] at e
    have hall : ∀ w ∈ l, unvisitedLeaf P w = false :=
      fun w hw => by simpa using List.find?_eq_none.1 hf w hw
    refine ⟨⟨hR.low (hp.low.succ hl hall), ?_⟩, fun hu => hu.next hR hl hall⟩
    rcases hp.acc with hu | ⟨hacc, hdel⟩
    · exact Or.inl (hu.next hR hl hall)
    · right
      have href' := href.with_src
      -- cells of other layers are untouched, the leaves of layer `h` carry the new `b`
      have hkeep : ∀ (w : Nat) (a b : Node α (SwSt S)),
          (Refreshed (bRefresh cfg δ) (·.visited) l w a b ∧ P.nodes[w]? = some a) →
          a.depth ≠ h → b.st = a.st := by
        rintro w a b ⟨e, ha⟩ hne
        rw [e, if_neg]
        rintro ⟨hw, _⟩
        obtain ⟨y, b1, b2⟩ := (W.mem_layer_iff hl w).1 hw
        obtain rfl := getElem?_inj ha b1
        exact hne b2
      have hnew : ∀ (w : Nat) (a b : Node α (SwSt S)), w ∈ l →
          (Refreshed (bRefresh cfg δ) (·.visited) l w a b ∧ P.nodes[w]? = some a) →
          a.children = none → b.st.b = cfg.bOf a.st.reward δ := by
        rintro w a b hw ⟨e, ha⟩ hleaf
        rw [e, if_pos ⟨hw, hleaf, unvisitedLeaf_eq_false_iff.1 (hall w hw) a ha hleaf⟩]
        rfl
      refine ⟨?_, fun h' hh' => ?_⟩
      · have htake : P1.layers.take (h + 1) = P.layers.take h ++ [l] := by
          rw [hR.layers, List.take_add_one, hl]; rfl
        rw [htake, List.flatten_append, amFold_append]
        obtain ⟨rfl, rfl⟩ : _ = mv ∧ _ = mn := by simpa using e
        have e1 : amFold (leafScore P1 (·.b)) (P.layers.take h).flatten (cfg.negInf, none) =
            (maxv, maxn) := by
          rw [← hacc]
          refine amFold_congr (fun w hw => ?_) _
          obtain ⟨h', l', q1, q2, q3⟩ := mem_take_flatten hw
          refine leafScore_prel href' (fun a b hab _ => ?_)
          obtain ⟨y, b1, b2⟩ := (W.mem_layer_iff q2 w).1 q3
          obtain rfl := getElem?_inj hab.2 b1
          rw [hkeep w _ b hab (by omega)]
        rw [e1]
        simp only [List.flatten_cons, List.flatten_nil, List.append_nil]
        exact amFold_congr (fun w hw => leafScore_prel href' (fun a b hab hleaf =>
          hnew w a b hw hab hleaf)) _
      · by_cases hlt : h' < h
        · obtain ⟨Ph, δ', a1, a2, a3⟩ := hdel h' hlt
          refine ⟨Ph, δ', a1.trans hR.bonly, a2, fun w nd1 m1 mc md => ?_⟩
          obtain ⟨nd, n1, n2, n3⟩ := href'.bwd m1
          rw [hkeep w nd nd1 n3 (by rw [← n2.depth]; omega)]
          exact a3 w nd n1 (by rw [← n2.children]; exact mc) (by rw [← n2.depth]; exact md)
        · obtain rfl : h' = h := Nat.le_antisymm (Nat.le_of_lt_succ hh') (Nat.le_of_not_lt hlt)
          refine ⟨P, δ, hR.bonly, hd, fun w nd1 m1 mc md => ?_⟩
          obtain ⟨nd, n1, n2, n3⟩ := href'.bwd m1
          have hw : w ∈ l :=
            ((W.layers_mem _ l hl).2.2 w).2 ⟨nd, n1, by rw [← n2.depth]; exact md⟩
          have hv : SameVR nd.st nd1.st := by
            obtain ⟨x, x1, _, x3⟩ := hR.node w nd n1
            obtain rfl := getElem?_inj x1 m1
            exact x3
          rw [hnew w nd nd1 hw n3 (by rw [← n2.children]; exact mc), hv.2]

theorem PassInv.last {cfg : DOOCfg α S} (hbot : ∀ x, cfg.negInf ≤ x) {h : Nat} {mv : S}
    {mn : Option Nat} {P : Part α (SwSt S)} (hI : PInv cfg.reward0 P)
    (hp : PassInv cfg (h + 1) mv mn P) (hlast : h + 1 > P.depth) :
    ∃ m nd, mn = some m ∧ P.nodes[m]? = some nd ∧ nd.children = none ∧
      nd.st.visited = true ∧ EvOK cfg ⟨nd.depth, m, mv, P⟩ := by
  have W := hI.wf
  rcases hp.acc with hu | ⟨hacc, hdel⟩
  · exact absurd (hu.le_depth W) (Nat.not_le_of_gt hlast)
  have hlowAll : LowVisited P (P.depth + 1) := hp.low.mono hlast
  rw [List.take_of_length_le (by rw [W.layers_len]; omega)] at hacc
  have hbest := amFold_bot hbot hacc
  cases mn with
  | none =>
    -- the deepest layer consists of leaves
    obtain ⟨l, hl⟩ := W.layer_exists (Nat.le_refl P.depth)
    exact absurd (lt_depth_of_all_none W (Nat.le_refl _) hl (fun w hw =>
      hbest w (List.mem_flatten.2 ⟨l, List.mem_of_getElem? hl, hw⟩))) (Nat.lt_irrefl _)
  | some m =>
    obtain ⟨nd, hm, hleaf, hb⟩ := leafScore_eq_some_iff.1 hbest.score
    have hvis : nd.st.visited = true := by
      obtain ⟨lm, q1, q2⟩ := W.layer_of_node hm
      exact unvisitedLeaf_eq_false_iff.1
        (hlowAll nd.depth lm m (by have := W.depth_le m nd hm; omega) q1 q2) nd hm hleaf
    exact ⟨m, nd, rfl, hm, hleaf, hvis, hI, hlowAll, hbest,
      fun h' hh' => hdel h' (by have : h' ≤ P.depth := hh'; omega), nd, hm, hleaf, hvis, hb, rfl⟩

/-- What a successful `pull` of DOO guarantees (`Pb` = the tree before the handed-out cell `v`
is marked, `tr` = the expansion events). -/
structure LoopPost (cfg : DOOCfg α S) (P : Part α (SwSt S)) (ds : List (Draw α))
    (P' : Part α (SwSt S)) (ds' : List (Draw α)) (v : Nat) (tr : List (Ev α (SwSt S) S))
    (Pb : Part α (SwSt S)) : Prop where
  ext : Ext SameVR (st0 cfg) P Pb
  pinv : PInv cfg.reward0 Pb
  len : tr.length ≤ ds.length
  le1 : tr.length ≤ 1
  drop : ds' = ds.drop tr.length
  evs : ∀ ev ∈ tr, EvOK cfg ev ∧ Ext SameVR (st0 cfg) P ev.before
  marked : P' = mark Pb v
  first : firstUnvisited Pb = some v
  node : ∃ nd, Pb.nodes[v]? = some nd ∧ nd.children = none ∧ nd.st.visited = false

theorem extVR_trans {s0 : SwSt S} {P P' P'' : Part α (SwSt S)} (h1 : Ext SameVR s0 P P')
    (h2 : Ext SameVR s0 P' P'') : Ext SameVR s0 P P'' :=
  Ext.trans SameVR.trans' h1 h2

theorem LoopPost.of_ext {cfg : DOOCfg α S} {P P1 P' Pb : Part α (SwSt S)}
    {ds ds' : List (Draw α)} {v : Nat} {tr : List (Ev α (SwSt S) S)}
    (hE : Ext SameVR (st0 cfg) P P1) (hp : LoopPost cfg P1 ds P' ds' v tr Pb) :
    LoopPost cfg P ds P' ds' v tr Pb :=
  ⟨extVR_trans hE hp.ext, hp.pinv, hp.len, hp.le1, hp.drop,
    fun ev hev => ⟨(hp.evs ev hev).1, extVR_trans hE (hp.evs ev hev).2⟩,
    hp.marked, hp.first, hp.node⟩

theorem loopT_spec (cfg : DOOCfg α S) (hbot : ∀ x, cfg.negInf ≤ x) (fuel h : Nat) (maxv : S)
    (maxn : Option Nat) (P : Part α (SwSt S)) (ds : List (Draw α)) {P' : Part α (SwSt S)}
    {ds' : List (Draw α)} {v : Nat} {tr : List (Ev α (SwSt S) S)}
    (hI : PInv cfg.reward0 P) (hp : PassInv cfg h maxv maxn P)
    (hds : ∀ d ∈ ds, DrawOKLen P.kind (dimn P) d)
    (hrun : loopT cfg fuel h maxv maxn P ds = .ok (P', ds', v, tr)) :
    (∃ Pb, LoopPost cfg P ds P' ds' v tr Pb) ∧ (HasUnv P h → tr = []) := by
  fun_induction loopT cfg fuel h maxv maxn P ds generalizing P' ds' v tr
  case case1 | case2 | case3 | case5 | case6 | case7 | case11 => cases hrun
  case case4 fuel h maxv maxn P ds hh δ hdl l hl P1 id hsc =>
    cases hrun
    obtain ⟨hR, hfirst, _⟩ := hp.step hI.wf hdl hl hsc
    have hfirst := hfirst _ rfl
    exact ⟨⟨P1, hR.ext _, hR.pinv hI, Nat.zero_le _, Nat.zero_le _, rfl, by simp, rfl, hfirst,
      unvisitedLeaf_eq_true_iff.1 (List.find?_some hfirst)⟩, fun _ => rfl⟩
  case case10 fuel h maxv maxn P ds hh δ hdl l hl P1 mv mn hsc hnot ih =>
    obtain ⟨hR, _, hp1⟩ := hp.step hI.wf hdl hl hsc
    obtain ⟨hp1, hnext⟩ := hp1 _ _ rfl
    obtain ⟨⟨Pb, hq⟩, htr⟩ := ih (hR.pinv hI) hp1 (hR.draws hds) hrun
    exact ⟨⟨Pb, hq.of_ext (hR.ext _)⟩, fun hu => htr (hnext hu)⟩
  case case8 hrec _ => rw [hrec] at hrun; cases hrun
  case case9 fuel h maxv maxn P ds hh δ hdl l hl P1 mv hlast m nd hm P2 ds1 hmk P3 ds2 id tr2 hsc
      hrec ih =>
    rw [hrec] at hrun
    cases hrun
    obtain ⟨hR, _, hp1⟩ := hp.step hI.wf hdl hl hsc
    obtain ⟨hp1, hnext⟩ := hp1 _ _ rfl
    have hI1 := hR.pinv hI
    obtain ⟨m', nd', e, hm', hleaf, hvis, hev⟩ := hp1.last hbot hI1 hlast
    cases e
    obtain rfl := getElem?_inj hm hm'
    obtain ⟨⟨d, rfl⟩, St, W2, hK, hE12, hds2⟩ := expand_ok SameVR.rfl' hI1.wf hm hleaf rfl
      (hR.draws hds) hmk
    -- the second pass meets a new child
    obtain ⟨l2, q1, q2, hun, _⟩ := Step_new_unvisited St hI1.wf hK rfl
    have hu2 : HasUnv P2 0 := ⟨nd.depth + 1, l2, _, Nat.zero_le _, q1, q2, hun⟩
    obtain ⟨⟨Pb, hq⟩, htr⟩ := ih (hI1.step St hm hleaf hvis (fun _ => rfl) hK)
      ⟨LowVisited.zero P2, Or.inl hu2⟩ hds2 hrec
    cases htr hu2
    have hE1 := hR.ext (st0 cfg)
    refine ⟨⟨Pb, extVR_trans hE1 (extVR_trans hE12 hq.ext), hq.pinv, by simp, by simp,
      by simpa using hq.drop, ?_, hq.marked, hq.first, hq.node⟩, fun hu => ?_⟩
    · intro ev hmem
      obtain rfl : ev = ⟨nd.depth, m, mv, P1⟩ := by simpa using hmem
      exact ⟨hev, hE1⟩
    · have := (hnext hu).le_depth hI1.wf
      omega

end DOO
end PyXAB
