/-
  The parameter grid `rhomax ^ (2N / (2i+1))` of POO and GPO (pure arithmetic over ℝ).
-/
import Mathlib.Analysis.SpecialFunctions.Pow.Real

namespace PyXAB.MT

/-- the exponent `2N / (2i+1)` -/
noncomputable def gridExp (N i : ℕ) : ℝ := (2 * (N : ℝ)) / (2 * (i : ℝ) + 1)

/-- the grid value `rhomax ^ (2N / (2i+1))` (`Real.rpow`) -/
noncomputable def gridRho (rhomax : ℝ) (N i : ℕ) : ℝ := rhomax ^ gridExp N i

/-- in `2^a · odd = 2^b · odd'` the power of two on the left is at most the one on the right -/
theorem pow2_odd_le : ∀ (a b i j : ℕ), 2 ^ a * (2 * j + 1) = 2 ^ b * (2 * i + 1) → a ≤ b
  | 0, _, _, _, _ => Nat.zero_le _
  | a + 1, 0, i, j, h => by
    rw [Nat.pow_succ, Nat.mul_right_comm] at h
    omega
  | a + 1, b + 1, i, j, h => by
    rw [Nat.pow_succ, Nat.pow_succ, Nat.mul_right_comm, Nat.mul_right_comm _ 2] at h
    exact Nat.succ_le_succ (pow2_odd_le a b i j (Nat.eq_of_mul_eq_mul_right (by decide) h))

/-- odd × power of two is a unique factorisation -/
theorem pow2_odd_unique (a b i j : ℕ) (h : 2 ^ a * (2 * j + 1) = 2 ^ b * (2 * i + 1)) : a = b ∧ i = j := by
  cases Nat.le_antisymm (pow2_odd_le a b i j h) (pow2_odd_le b a j i h.symm)
  have := Nat.eq_of_mul_eq_mul_left (Nat.pow_pos (by decide)) h
  omega
/-- the exponent as a fraction of natural numbers, so that comparisons become comparisons in `ℕ` -/
theorem gridExp_eq_div (N i : ℕ) : gridExp N i = ((2 * N : ℕ) : ℝ) / ((2 * i + 1 : ℕ) : ℝ) := by
  unfold gridExp; push_cast; rfl

theorem cast_odd_pos (i : ℕ) : (0 : ℝ) < ((2 * i + 1 : ℕ) : ℝ) := Nat.cast_pos.mpr (Nat.succ_pos _)

theorem gridExp_eq_iff (N N' i j : ℕ) :
    gridExp N i = gridExp N' j ↔ N * (2 * j + 1) = N' * (2 * i + 1) := by
  rw [gridExp_eq_div, gridExp_eq_div, div_eq_div_iff (cast_odd_pos i).ne' (cast_odd_pos j).ne', ← Nat.cast_mul,
    ← Nat.cast_mul, Nat.cast_inj, Nat.mul_assoc, Nat.mul_assoc]
  exact Nat.mul_left_cancel_iff (by decide)

/-- POO: the exponents are pairwise distinct across all doublings. -/
theorem gridExp_inj_pow2 {a b i j : ℕ} (h : gridExp (2 ^ a) i = gridExp (2 ^ b) j) : a = b ∧ i = j :=
  pow2_odd_unique a b i j ((gridExp_eq_iff ..).mp h)

/-- GPO: for a fixed `N ≥ 1` the exponents are pairwise distinct. -/
theorem gridExp_inj_fixed {N i j : ℕ} (hN : 1 ≤ N) (h : gridExp N i = gridExp N j) : i = j := by
  have := (gridExp_eq_iff ..).mp h
  have := Nat.eq_of_mul_eq_mul_left (by omega : 0 < N) this
  omega

theorem gridExp_pos {N i : ℕ} (hN : 1 ≤ N) : 0 < gridExp N i := by
  unfold gridExp
  have : (0 : ℝ) < N := by exact_mod_cast hN
  positivity

/-- the exponent exceeds `1` iff `2i+1 < 2N`, i.e. iff `i < N` -/
theorem one_lt_gridExp_iff {N i : ℕ} : 1 < gridExp N i ↔ i < N := by
  rw [gridExp_eq_div, one_lt_div (cast_odd_pos i), Nat.cast_lt]
  omega

/-- the exponent is never `1` (odd ≠ even); it is below `1` iff `N ≤ i` -/
theorem gridExp_lt_one_iff {N i : ℕ} : gridExp N i < 1 ↔ N ≤ i := by
  rw [gridExp_eq_div, div_lt_one (cast_odd_pos i), Nat.cast_lt]
  omega

section
variable {rhomax : ℝ}

theorem gridRho_pos (h0 : 0 < rhomax) (N i : ℕ) : 0 < gridRho rhomax N i :=
  Real.rpow_pos_of_pos h0 _

theorem gridRho_eq_iff (h0 : 0 < rhomax) (h1 : rhomax < 1) (N N' i j : ℕ) :
    gridRho rhomax N i = gridRho rhomax N' j ↔ gridExp N i = gridExp N' j := by
  unfold gridRho
  constructor
  · intro h
    rcases lt_trichotomy (gridExp N i) (gridExp N' j) with hlt | heq | hgt
    · exact absurd h (ne_of_gt (Real.rpow_lt_rpow_of_exponent_gt h0 h1 hlt))
    · exact heq
    · exact absurd h (ne_of_lt (Real.rpow_lt_rpow_of_exponent_gt h0 h1 hgt))
  · intro h; rw [h]

theorem gridRho_lt_rhomax_iff (h0 : 0 < rhomax) (h1 : rhomax < 1) (N i : ℕ) :
    gridRho rhomax N i < rhomax ↔ i < N := by
  unfold gridRho
  conv_lhs => rhs; rw [← Real.rpow_one rhomax]
  rw [Real.rpow_lt_rpow_left_iff_of_base_lt_one h0 h1]
  exact one_lt_gridExp_iff

theorem rhomax_lt_gridRho_iff (h0 : 0 < rhomax) (h1 : rhomax < 1) (N i : ℕ) :
    rhomax < gridRho rhomax N i ↔ N ≤ i := by
  unfold gridRho
  conv_lhs => lhs; rw [← Real.rpow_one rhomax]
  rw [Real.rpow_lt_rpow_left_iff_of_base_lt_one h0 h1]
  exact gridExp_lt_one_iff

end
end PyXAB.MT
