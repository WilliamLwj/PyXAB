/-
  `List.Forall₂` read index by index and across `List.set`, and indexing into a `flatMap` of
  pairs: what `Lemmas/Chain` needs about the list of split boxes.  The `foldl`/`foldlM`/`Except`
  facts of the tree proofs are in the namespace of the same name at the head of `PartBasic`.
-/
import Mathlib.Data.List.Forall2

namespace PyXAB.ListAux
open List

variable {β γ : Type}

theorem forall₂_iff_getElem {R : β → γ → Prop} {l₁ : List β} {l₂ : List γ} :
    Forall₂ R l₁ l₂ ↔
      l₁.length = l₂.length ∧ ∀ i (h₁ : i < l₁.length) (h₂ : i < l₂.length), R l₁[i] l₂[i] := by
  rw [forall₂_iff_get]
  rfl

theorem forall₂_set_left {R : β → γ → Prop} {l : List β} {x : List γ} {n : Nat}
    (hn : n < l.length) (a : β) :
    Forall₂ R (l.set n a) x ↔
      (l.length = x.length ∧
        ∀ j (h₁ : j < l.length) (h₂ : j < x.length), j ≠ n → R l[j] x[j]) ∧
      ∃ h : n < x.length, R a x[n] := by
  rw [forall₂_iff_getElem]
  constructor
  · rintro ⟨hl, h⟩
    rw [length_set] at hl
    refine ⟨⟨hl, fun j h₁ h₂ hj => ?_⟩, ⟨hl ▸ hn, ?_⟩⟩
    · have := h j (by rw [length_set]; exact h₁) h₂
      rwa [getElem_set_ne (Ne.symm hj)] at this
    · have := h n (by rw [length_set]; exact hn) (hl ▸ hn)
      rwa [getElem_set_self] at this
  · rintro ⟨⟨hl, h⟩, hx, ha⟩
    refine ⟨by rw [length_set]; exact hl, fun j h₁ h₂ => ?_⟩
    by_cases hj : j = n
    · subst hj
      rw [getElem_set_self]
      exact ha
    · rw [getElem_set_ne (Ne.symm hj)]
      exact h j (by rw [length_set] at h₁; exact h₁) h₂ hj

theorem forall₂_split_at {R : β → γ → Prop} {l : List β} {x : List γ} {n : Nat}
    (hn : n < l.length) :
    Forall₂ R l x ↔
      (l.length = x.length ∧
        ∀ j (h₁ : j < l.length) (h₂ : j < x.length), j ≠ n → R l[j] x[j]) ∧
      ∃ h : n < x.length, R l[n] x[n] := by
  have := forall₂_set_left (R := R) (x := x) hn l[n]
  rwa [set_getElem_self] at this

theorem forall₂_set_self {R : β → β → Prop} {l : List β} {n : Nat} (hn : n < l.length) (a : β)
    (hrefl : ∀ y ∈ l, R y y) (ha : R a l[n]) : Forall₂ R (l.set n a) l := by
  rw [forall₂_set_left hn]
  exact ⟨⟨rfl, fun j h₁ _ _ => hrefl _ (getElem_mem h₁)⟩, hn, ha⟩

theorem getElem?_flatMap_pair {δ : Type} (l : List β) (f g : β → δ) (i : Nat) :
    (l.flatMap (fun r => [f r, g r]))[i]? =
      (l[i / 2]?).map (fun r => if i % 2 = 0 then f r else g r) := by
  induction l generalizing i with
  | nil => rfl
  | cons a t ih =>
    rw [flatMap_cons]
    match i with
    | 0 => rfl
    | 1 => rfl
    | n + 2 =>
      rw [Nat.add_div_right n (Nat.succ_pos 1), Nat.add_mod_right, getElem?_cons_succ, ← ih n]
      rfl

end PyXAB.ListAux
