/-
  Box-level helper lemmas for property group C02 (geometry of the partitions):
  `Box.Mem` / `Box.Subset` / `Tiles` algebra, and what `splitChain`, `splitAll`, `Box.cpoint`
  and `childBoxes` (class by class) compute.
-/
import PyXABProofs.Lemmas.Chain

namespace PyXAB
open List ListAux

section iv
variable {α : Type} [Field α] [LinearOrder α] [IsStrictOrderedRing α]

theorem mid_strict_bounds {a b : α} (h : a < b) : a < mid a b ∧ mid a b < b :=
  ⟨left_lt_add_div_two.2 h, add_div_two_lt_right.2 h⟩

theorem mid_bounds {a b : α} (h : a ≤ b) : a ≤ mid a b ∧ mid a b ≤ b := by
  rcases h.eq_or_lt with rfl | h
  · rw [mid, add_self_div_two]
    exact ⟨le_rfl, le_rfl⟩
  · exact ⟨(mid_strict_bounds h).1.le, (mid_strict_bounds h).2.le⟩

omit [LinearOrder α] [IsStrictOrderedRing α] in
theorem Iv.mid_eq (i : Iv α) : i.mid = (i.lo + i.hi) / 2 := rfl

theorem Iv.lower_width (i : Iv α) : i.lower.hi - i.lower.lo = (i.hi - i.lo) / 2 := by
  show (i.lo + i.hi) / 2 - i.lo = (i.hi - i.lo) / 2
  rw [← add_sub_add_left_eq_sub i.hi i.lo i.lo, sub_div, add_self_div_two]

theorem Iv.upper_width (i : Iv α) : i.upper.hi - i.upper.lo = (i.hi - i.lo) / 2 := by
  show i.hi - (i.lo + i.hi) / 2 = (i.hi - i.lo) / 2
  rw [← add_sub_add_right_eq_sub i.hi i.lo i.hi, sub_div, add_self_div_two]

end iv

theorem Box.valid_nil {α : Type} [LE α] : Box.Valid ([] : Box α) := nofun

theorem Box.valid_cons {α : Type} [LE α] {iv : Iv α} {b : Box α} (h : iv.lo ≤ iv.hi)
    (hb : Box.Valid b) : Box.Valid (iv :: b) := fun x hx => by
  rcases List.mem_cons.1 hx with rfl | hx
  exacts [h, hb x hx]

section boxorder
variable {α : Type} [LinearOrder α]

theorem Box.Mem.length_eq {b : Box α} {x : List α} (h : Box.Mem b x) : x.length = b.length :=
  (Forall₂.length_eq h).symm

theorem Box.Subset.length_eq {c b : Box α} (h : Box.Subset c b) : c.length = b.length :=
  Forall₂.length_eq h

theorem Box.Subset.refl (b : Box α) : Box.Subset b b :=
  forall₂_same.2 fun _ _ => ⟨le_rfl, le_rfl⟩

/-- Two coordinatewise relations out of the same list compose coordinatewise. -/
theorem forall₂_comp_left {β γ δ : Type} {R : β → γ → Prop} {S : β → δ → Prop}
    {T : γ → δ → Prop} (H : ∀ a b c, R a b → S a c → T b c) {l : List β} {m : List γ}
    {n : List δ} (h1 : Forall₂ R l m) (h2 : Forall₂ S l n) : Forall₂ T m n := by
  induction h1 generalizing n with
  | nil => cases h2; exact .nil
  | cons h _ ih => cases h2 with | cons h' t' => exact .cons (H _ _ _ h h') (ih t')

theorem Box.Subset.trans {a b c : Box α} (h1 : Box.Subset a b) (h2 : Box.Subset b c) :
    Box.Subset a c :=
  forall₂_comp_left (R := flip Iv.Subset) (fun _ _ _ hab hbc => ⟨hbc.1.trans hab.1, hab.2.trans hbc.2⟩)
    (Forall₂.flip h1) h2

/-- a point of a sub-cell is a point of the cell -/
theorem Box.mem_of_subset {c b : Box α} {x : List α} (h : Box.Subset c b) (hx : Box.Mem c x) :
    Box.Mem b x :=
  forall₂_comp_left (fun _ _ _ hcb hcx => ⟨hcb.1.trans hcx.1, hcx.2.trans hcb.2⟩) h hx

/-- an interior point of a sub-cell is an interior point of the cell -/
theorem Box.intMem_of_subset {c b : Box α} {x : List α} (h : Box.Subset c b)
    (hx : Box.IntMem c x) : Box.IntMem b x :=
  forall₂_comp_left (fun _ _ _ hcb hcx => ⟨hcb.1.trans_lt hcx.1, hcx.2.trans_le hcb.2⟩) h hx

/-- interior points are points -/
theorem Box.mem_of_intMem {b : Box α} {x : List α} (hx : Box.IntMem b x) : Box.Mem b x :=
  Forall₂.imp (fun _ _ h => ⟨h.1.le, h.2.le⟩) hx

/-- index form of `Box.Mem` -/
theorem Box.mem_iff_getElem {b : Box α} {x : List α} :
    Box.Mem b x ↔ b.length = x.length ∧
      ∀ j (h₁ : j < b.length) (h₂ : j < x.length), b[j].lo ≤ x[j] ∧ x[j] ≤ b[j].hi :=
  forall₂_iff_getElem

/-- index form of `Box.IntMem` -/
theorem Box.intMem_iff_getElem {b : Box α} {x : List α} :
    Box.IntMem b x ↔ b.length = x.length ∧
      ∀ j (h₁ : j < b.length) (h₂ : j < x.length), b[j].lo < x[j] ∧ x[j] < b[j].hi :=
  forall₂_iff_getElem

/-- index form of `Box.Subset` -/
theorem Box.subset_iff_getElem {c b : Box α} :
    Box.Subset c b ↔ c.length = b.length ∧
      ∀ j (h₁ : j < c.length) (h₂ : j < b.length), b[j].lo ≤ c[j].lo ∧ c[j].hi ≤ b[j].hi :=
  forall₂_iff_getElem

/-- the `←` half of the covering clause follows from the sub-cell clause -/
theorem Tiles.of_cover {kids : List (Box α)} {b : Box α}
    (h1 : ∀ c ∈ kids, Box.Subset c b ∧ Box.Valid c)
    (h2 : ∀ x, Box.Mem b x → ∃ c ∈ kids, Box.Mem c x)
    (h3 : kids.Pairwise (fun c c' => ¬ ∃ x, Box.IntMem c x ∧ Box.IntMem c' x)) :
    Tiles kids b :=
  ⟨h1, fun x => ⟨h2 x, fun ⟨c, hc, hx⟩ => Box.mem_of_subset (h1 c hc).1 hx⟩, h3⟩

theorem Tiles.self {b : Box α} (hb : Box.Valid b) : Tiles [b] b := by
  refine Tiles.of_cover ?_ (fun x hx => ⟨b, mem_singleton.2 rfl, hx⟩) (pairwise_singleton _ _)
  intro c hc
  rw [mem_singleton] at hc
  subst hc
  exact ⟨Box.Subset.refl _, hb⟩

/-- `Tiles` does not depend on the order of the cells -/
theorem Tiles.perm {kids kids' : List (Box α)} {b : Box α} (hp : kids.Perm kids')
    (h : Tiles kids b) : Tiles kids' b := by
  obtain ⟨h1, h2, h3⟩ := h
  refine ⟨fun c hc => h1 c (hp.mem_iff.2 hc), fun x => ?_, ?_⟩
  · rw [h2 x]
    constructor
    · rintro ⟨c, hc, hx⟩; exact ⟨c, hp.mem_iff.1 hc, hx⟩
    · rintro ⟨c, hc, hx⟩; exact ⟨c, hp.mem_iff.2 hc, hx⟩
  · refine (hp.pairwise_iff ?_).1 h3
    rintro c c' h ⟨x, hx, hx'⟩
    exact h ⟨x, hx', hx⟩

/-- replacing the head cell of a tiling by a tiling of that cell -/
theorem tiles_refine_cons {c b : Box α} {l kids : List (Box α)} (h : Tiles (c :: l) b)
    (hk : Tiles kids c) : Tiles (kids ++ l) b := by
  obtain ⟨hs, hc, hp⟩ := h
  obtain ⟨ks, kc, kp⟩ := hk
  refine ⟨?_, ?_, ?_⟩
  · intro c' hc'
    rcases mem_append.1 hc' with h | h
    · exact ⟨(ks c' h).1.trans (hs c mem_cons_self).1, (ks c' h).2⟩
    · exact hs c' (mem_cons_of_mem _ h)
  · intro x
    rw [hc x]
    constructor
    · rintro ⟨c', hc', hx⟩
      rcases mem_cons.1 hc' with h | h
      · subst h
        obtain ⟨k, hk, hkx⟩ := (kc x).1 hx
        exact ⟨k, mem_append_left _ hk, hkx⟩
      · exact ⟨c', mem_append_right _ h, hx⟩
    · rintro ⟨c', hc', hx⟩
      rcases mem_append.1 hc' with h | h
      · exact ⟨c, mem_cons_self, (kc x).2 ⟨c', h, hx⟩⟩
      · exact ⟨c', mem_cons_of_mem _ h, hx⟩
  · rw [pairwise_append]
    obtain ⟨hcl, hl⟩ := pairwise_cons.1 hp
    refine ⟨kp, hl, ?_⟩
    rintro k hk c' hc' ⟨x, hkx, hc'x⟩
    exact hcl c' hc' ⟨x, Box.intMem_of_subset (ks k hk).1 hkx, hc'x⟩

/-- Halving the first coordinate at any `m` between its bounds, under a tiling of the remaining
coordinates, tiles the whole cell (the step of `splitAll`, where `m` is the midpoint). -/
theorem Tiles.cons_halves {lo m hi : α} (h1 : lo ≤ m) (h2 : m ≤ hi) {kids : List (Box α)}
    {rest : Box α} (h : Tiles kids rest) :
    Tiles (kids.flatMap fun r => [⟨lo, m⟩ :: r, ⟨m, hi⟩ :: r]) (⟨lo, hi⟩ :: rest) := by
  obtain ⟨hs, hc, hp⟩ := h
  have hmem : ∀ {c}, c ∈ (kids.flatMap fun r => [⟨lo, m⟩ :: r, ⟨m, hi⟩ :: r]) →
      ∃ r ∈ kids, c = ⟨lo, m⟩ :: r ∨ c = ⟨m, hi⟩ :: r := fun hc' => by
    obtain ⟨r, hr, hcr⟩ := mem_flatMap.1 hc'
    exact ⟨r, hr, mem_pair.1 hcr⟩
  refine Tiles.of_cover ?_ ?_ ?_
  · intro c hc'
    obtain ⟨r, hr, hcr⟩ := hmem hc'
    obtain ⟨hrs, hrv⟩ := hs r hr
    rcases hcr with rfl | rfl
    · exact ⟨.cons ⟨le_rfl, h2⟩ hrs, forall_mem_cons.2 ⟨h1, hrv⟩⟩
    · exact ⟨.cons ⟨h1, le_rfl⟩ hrs, forall_mem_cons.2 ⟨h2, hrv⟩⟩
  · intro x hx
    obtain ⟨x0, xs, h0, hxs, rfl⟩ := forall₂_cons_left_iff.1 hx
    obtain ⟨r, hr, hrx⟩ := (hc xs).1 hxs
    rcases le_total x0 m with h | h
    · exact ⟨_, mem_flatMap.2 ⟨r, hr, mem_cons_self⟩, .cons ⟨h0.1, h⟩ hrx⟩
    · exact ⟨_, mem_flatMap.2 ⟨r, hr, mem_cons_of_mem _ mem_cons_self⟩, .cons ⟨h, h0.2⟩ hrx⟩
  · -- cells over the same `r` are separated by `m`; cells over different `r`, `r'` by their tails
    have htail : ∀ {c r x}, (c = ⟨lo, m⟩ :: r ∨ c = ⟨m, hi⟩ :: r) → Box.IntMem c x →
        Box.IntMem r x.tail := by
      rintro c r x (rfl | rfl) hx <;>
      · obtain ⟨_, _, _, h, rfl⟩ := forall₂_cons_left_iff.1 hx
        exact h
    rw [pairwise_flatMap]
    refine ⟨fun r _ => pairwise_pair.2 ?_, hp.imp ?_⟩
    · rintro ⟨x, hx, hx'⟩
      obtain ⟨x0, xs, h0, _, rfl⟩ := forall₂_cons_left_iff.1 hx
      exact lt_irrefl _ (h0.2.trans (forall₂_cons.1 hx').1.1)
    · intro r r' hrr' c hc c' hc' ⟨x, hx, hx'⟩
      exact hrr' ⟨x.tail, htail (mem_pair.1 hc) hx, htail (mem_pair.1 hc') hx'⟩

end boxorder

section splitChain
variable {α : Type}

theorem splitChain_eq (b : Box α) {dim : Nat} (pts : List α) (hd : dim < b.length) :
    splitChain b dim pts =
      (chainIvs (b[dim].lo :: (pts ++ [b[dim].hi]))).map (fun i => b.set dim i) := by
  simp only [splitChain, getElem?_eq_getElem hd]

/-- child `j` is the parent with interval `dim` replaced by boundaries `j`, `j+1` -/
theorem getElem?_splitChain_eq_some (b : Box α) {dim : Nat} (pts : List α) (hd : dim < b.length)
    {j : Nat} {c : Box α} :
    (splitChain b dim pts)[j]? = some c ↔ ∃ iv : Iv α,
      ((b[dim].lo :: (pts ++ [b[dim].hi]))[j]? = some iv.lo ∧
        (b[dim].lo :: (pts ++ [b[dim].hi]))[j + 1]? = some iv.hi) ∧ b.set dim iv = c := by
  simp only [splitChain_eq b pts hd, getElem?_map, Option.map_eq_some_iff,
    getElem?_chainIvs_eq_some]

theorem splitChain_length (b : Box α) {dim : Nat} (pts : List α) (hd : dim < b.length) :
    (splitChain b dim pts).length = pts.length + 1 := by
  rw [splitChain_eq b pts hd, length_map, Tree.length_chainIvs, length_cons, length_append]
  rfl

theorem mem_splitChain (b : Box α) {dim : Nat} (pts : List α) (hd : dim < b.length) {c : Box α} :
    c ∈ splitChain b dim pts ↔
      ∃ iv ∈ chainIvs (b[dim].lo :: (pts ++ [b[dim].hi])), b.set dim iv = c := by
  rw [splitChain_eq b pts hd, mem_map]

end splitChain

theorem set_subset_valid {α : Type} [LinearOrder α] {b : Box α} (hb : Box.Valid b) {dim : Nat}
    (hd : dim < b.length) {i : Iv α} (h1 : b[dim].lo ≤ i.lo) (h2 : i.lo ≤ i.hi)
    (h3 : i.hi ≤ b[dim].hi) : Box.Subset (b.set dim i) b ∧ Box.Valid (b.set dim i) := by
  refine ⟨forall₂_set_self hd i (fun _ _ => ⟨le_rfl, le_rfl⟩) ⟨h1, h3⟩, fun y hy => ?_⟩
  rcases List.mem_or_eq_of_mem_set hy with hy | rfl
  · exact hb y hy
  · exact h2

section field
variable {α : Type} [Field α]

theorem splitAll_cons (iv : Iv α) (rest : Box α) :
    splitAll (iv :: rest) = (splitAll rest).flatMap (fun r => [iv.lower :: r, iv.upper :: r]) :=
  rfl

/-- child `i` of `DimensionBinaryPartition`: upper half in dimension `j` iff bit `j` of `i` -/
theorem splitAll_getElem? (b : Box α) (i : Nat) (hi : i < 2 ^ b.length) :
    (splitAll b)[i]? =
      some (b.mapIdx (fun j iv => if Nat.testBit i j then iv.upper else iv.lower)) := by
  induction b generalizing i with
  | nil =>
    obtain rfl : i = 0 := Nat.lt_one_iff.1 hi
    rfl
  | cons iv rest ih =>
    have hi2 : i / 2 < 2 ^ rest.length :=
      Nat.div_lt_of_lt_mul (by rwa [length_cons, Nat.pow_succ'] at hi)
    rw [splitAll_cons, getElem?_flatMap_pair, ih (i / 2) hi2, Option.map_some, mapIdx_cons]
    simp only [Nat.testBit_succ, Nat.testBit_zero]
    rcases Nat.mod_two_eq_zero_or_one i with h | h <;>
      simp only [h, reduceIte, Nat.reduceEqDiff, decide_false, decide_true, Bool.false_eq_true]

theorem cpoint_length (b : Box α) : (Box.cpoint b).length = b.length :=
  length_map _

theorem childBoxes_binary (b : Box α) (d : Draw α) (hd : d.dim < b.length) :
    childBoxes .binary b d = splitChain b d.dim [b[d.dim].mid] := by
  simp only [childBoxes, getElem?_eq_getElem hd]

theorem childBoxes_binary_explicit (b : Box α) (d : Draw α) (hd : d.dim < b.length) :
    childBoxes .binary b d = [b.set d.dim b[d.dim].lower, b.set d.dim b[d.dim].upper] := by
  rw [childBoxes_binary b d hd, splitChain_eq b _ hd]
  rfl

theorem childBoxes_kary (K : Nat) (b : Box α) (d : Draw α) (hd : d.dim < b.length) :
    childBoxes (.kary K) b d =
      splitChain b d.dim (linspacePts b[d.dim].lo b[d.dim].hi K) := by
  simp only [childBoxes, getElem?_eq_getElem hd]

theorem childBoxes_randBinary (b : Box α) (d : Draw α) {s : α} (hs : d.pts.head? = some s) :
    childBoxes .randBinary b d = splitChain b d.dim [s] := by
  obtain ⟨rest, hrest⟩ := head?_eq_some_iff.1 hs
  simp only [childBoxes, hrest, take_succ_cons, take_zero]

theorem childBoxes_randKary (K : Nat) (b : Box α) (d : Draw α) (hl : d.pts.length = K - 1) :
    childBoxes (.randKary K) b d = splitChain b d.dim d.pts := by
  simp only [childBoxes, take_of_length_le (le_of_eq hl)]

end field
end PyXAB
