/-
  Tree bandits, shared part + T-HOO:
  * C16.3: `pull` / `receive` / `init` commute with mapping the boxes of the tree;
  * C15.2: `pull` reads the tree only and writes `path` only (`hoo_pull_eq`);
  * C14:   whatever the partition operations keep of the tree, `receive` keeps.
-/
import PyXABProofs.Lemmas.RL_Tree
import PyXABProofs.Lemmas.RL_Machine
import PyXABProofs.Lemmas.TB_Step

namespace PyXAB
namespace RL
open Rel ListAux
set_option linter.unusedSectionVars false

section common
variable {α R S : Type}

theorem descend_map [LE S] [DecidableLE S] [Inhabited S] [Inhabited R] (g : Box α → Box α)
    (P : Part α (TBSt R S)) (cont cont' : Node α (TBSt R S) → Except Err Bool)
    (hc : ∀ nd, cont' (nodeMapBox g nd) = cont nd) (fuel cur : Nat) (acc : List Nat) :
    descend (partMapBox g P) cont' fuel cur acc = descend P cont fuel cur acc := by
  induction fuel generalizing cur acc with
  | zero => rfl
  | succ fuel ih =>
    simp only [descend, partMapBox_getElem?]
    cases P.nodes[cur]? with
    | none => rfl
    | some nd => simp only [Option.map_some, hc, nodeMapBox_children, partMapBox_stOf, ih]

theorem backwardLayer_map [Max S] [Min S] [Inhabited S] [Inhabited R] (g : Box α → Box α) (negInf : S)
    (P : Part α (TBSt R S)) (layer : List Nat) :
    backwardLayer negInf (partMapBox g P) layer = partMapBox g (backwardLayer negInf P layer) := by
  unfold backwardLayer
  apply foldl_comm (partMapBox g)
  intro Q id
  simp only [partMapBox_getElem?]
  cases Q.nodes[id]? with
  | none => rfl
  | some nd =>
    simp only [Option.map_some, nodeMapBox_children]
    cases nd.children with
    | none => exact partMapBox_modifySt g Q id _
    | some cs => simp only [partMapBox_stOf, partMapBox_modifySt]

theorem backward_map [Max S] [Min S] [Inhabited S] [Inhabited R] (g : Box α → Box α) (negInf : S)
    (P : Part α (TBSt R S)) :
    backward negInf (partMapBox g P) = mapRes1 (partMapBox g) (backward negInf P) := by
  unfold backward
  rw [partMapBox_depth]
  apply foldlM_comm (partMapBox g)
  intro Q i
  simp only [partMapBox_layers]
  by_cases hc : i + 1 ≤ Q.layers.length
  · simp only [hc, if_true]
    cases Q.layers[Q.layers.length - (i + 1)]? with
    | none => rfl
    | some layer => simp only [backwardLayer_map]; rfl
  · simp only [hc, if_false]; rfl

theorem forListed_map {σ : Type} (g : Box α → Box α) (P : Part α σ) (f f' : Node α σ → σ)
    (hf : ∀ nd, f' (nodeMapBox g nd) = f nd) :
    forListed (partMapBox g P) f' = partMapBox g (forListed P f) :=
  foldl_comm (partMapBox g) _ _ (fun Q id => by
    rw [partMapBox_getElem?]
    cases Q.nodes[id]? with
    | none => rfl
    | some nd => simp only [Option.map_some, hf, partMapBox_modifySt]) _ P

/-- the descent of all three `pull`s, with the last cell of the path -/
def greedyPath [LE S] [DecidableLE S] [Inhabited S] [Inhabited R] (P : Part α (TBSt R S))
    (cont : Node α (TBSt R S) → Except Err Bool) : Except Err (List Nat × Nat) :=
  descend P cont (P.nodes.length + 1) 0 [0] >>= fun path =>
    match path.getLast? with
    | none => .error .badId
    | some v => .ok (path, v)

/-- `pull` continues after the descent with the path and its last cell -/
theorem greedyPath_bind [LE S] [DecidableLE S] [Inhabited S] [Inhabited R] {σ : Type}
    (P : Part α (TBSt R S)) (cont : Node α (TBSt R S) → Except Err Bool) (f : List Nat → σ) :
    (descend P cont (P.nodes.length + 1) 0 [0] >>= fun path =>
      match path.getLast? with
      | none => Except.error Err.badId
      | some v => pure (f path, v)) = mapRes f id (greedyPath P cont) := by
  unfold greedyPath
  cases descend P cont (P.nodes.length + 1) 0 [0] with
  | error e => rfl
  | ok path =>
    show (match path.getLast? with
      | none => Except.error Err.badId
      | some v => pure (f path, v)) = mapRes f id (match path.getLast? with
      | none => Except.error Err.badId
      | some v => .ok (path, v))
    cases path.getLast? <;> rfl

theorem greedyPath_map [LE S] [DecidableLE S] [Inhabited S] [Inhabited R] (g : Box α → Box α)
    (P : Part α (TBSt R S)) (cont cont' : Node α (TBSt R S) → Except Err Bool)
    (hc : ∀ nd, cont' (nodeMapBox g nd) = cont nd) :
    greedyPath (partMapBox g P) cont' = greedyPath P cont := by
  unfold greedyPath
  rw [partMapBox_length, descend_map g P cont cont' hc]

theorem KeptByOps.forListed {σ : Type} [Add α] [Sub α] [Mul α] [Div α] [OfNat α 2] [NatCast α]
    {K : Part α σ → Part α σ → Prop} (hK : KeptByOps K) (P : Part α σ) (f : Node α σ → σ) :
    K P (forListed P f) :=
  hK.foldl (fun Q id => by
    split
    · exact hK.refl Q
    · exact hK.modifySt Q id _) _ P

theorem KeptByOps.backward [Add α] [Sub α] [Mul α] [Div α] [OfNat α 2] [NatCast α]
    [Max S] [Min S] [Inhabited S] [Inhabited R] {K : Part α (TBSt R S) → Part α (TBSt R S) → Prop}
    (hK : KeptByOps K) {negInf : S} {P P' : Part α (TBSt R S)} (h : backward negInf P = .ok P') :
    K P P' := by
  refine foldlM_ok_inv (K P) _ _ P P' (hK.refl P) (fun Q i Q' _ hQ hq => ?_) h
  split at hq
  · split at hq
    · cases hq
      exact hK.trans _ _ _ hQ (hK.foldl (fun Q id => by
        split
        · exact hK.refl Q
        · split <;> exact hK.modifySt Q id _) _ Q)
    · cases hq
  · cases hq

end common

section hoo
variable {α R S : Type} [Add α] [Sub α] [Mul α] [Div α] [OfNat α 2] [NatCast α]
variable [LE S] [DecidableLE S] [Max S] [Min S] [Inhabited S] [Inhabited R]

theorem hoo_pull_eq (s : HOO α R S) :
    HOO.pull s = mapRes (fun path => { s with path := some path }) id
      (greedyPath s.P (fun _ => .ok true)) :=
  greedyPath_bind s.P _ _

/-- the result of `pull` depends on the tree only -/
theorem hoo_pull_congr (s s' : HOO α R S) (hP : s'.P = s.P) :
    HOO.pull s' = mapRes (fun t => { t with iteration := s'.iteration }) id
      (HOO.pull { s with iteration := s.iteration }) := by
  rw [hoo_pull_eq, hoo_pull_eq, hP]
  rcases greedyPath s.P (fun _ => .ok true) with _ | ⟨path, v⟩ <;> rfl

theorem hoo_pull_map (g : Box α → Box α) (s : HOO α R S) :
    HOO.pull (hooMapBox g s) = mapRes (hooMapBox g) id (HOO.pull s) := by
  rw [hoo_pull_eq, hoo_pull_eq]
  show mapRes _ id (greedyPath (partMapBox g s.P) _) = _
  rw [greedyPath_map g s.P _ _ (fun _ => rfl)]
  rcases greedyPath s.P (fun _ => .ok true) with _ | ⟨path, v⟩ <;> rfl

variable {g : Box α → Box α} {gd : Draw α → Draw α}

theorem hoo_receive_map (hg : BoxEquivariant g gd) (cfg : HOOCfg R S) (s : HOO α R S) (r : R)
    (ds : List (Draw α)) :
    HOO.receive cfg (hooMapBox g s) r (ds.map gd) =
      mapRes (hooMapBox g) (List.map gd) (HOO.receive cfg s r ds) := by
  unfold HOO.receive
  simp only [hooMapBox]
  cases s.path with
  | none => rfl
  | some path =>
    simp only []
    rw [foldl_comm (partMapBox g) (fun P id => HOO.updateReward cfg P id r) _
        (fun Q id => partMapBox_modifySt g Q id _) path s.P,
      forListed_map g _ (HOO.computeU cfg) (HOO.computeU cfg) (fun _ => rfl)]
    cases path.getLast? with
    | none => rfl
    | some last =>
      simp only [partMapBox_getElem?]
      cases (forListed (path.foldl (fun P id => HOO.updateReward cfg P id r) s.P)
          (HOO.computeU cfg)).nodes[last]? with
      | none => rfl
      | some nd =>
        simp only [Option.map_some, nodeMapBox_depth']
        refine mapRes_bind ?_ fun P3 _ => mapRes1_bind (backward_map g cfg.negInf P3) fun _ => rfl
        split
        · exact expand_map hg _ _ last ds
        · rfl

theorem hoo_init_map (hg : BoxEquivariant g gd) (cfg : HOOCfg R S) (k : Kind) (domain : Box α)
    (ds : List (Draw α)) :
    HOO.init cfg k (g domain) (ds.map gd) =
      mapRes (hooMapBox g) (List.map gd) (HOO.init cfg k domain ds) :=
  mapRes_bind (expand_map hg (Part.init k domain (HOO.st0 cfg)) _ 0 ds) fun _ _ => rfl

theorem hoo_pull_P {s s1 : HOO α R S} {v : Nat} (h : HOO.pull s = .ok (s1, v)) : s1.P = s.P := by
  obtain ⟨_, _, _, rfl⟩ := HOO.pull_eq_ok.1 h
  rfl

theorem KeptByOps.hoo_receive {K : Part α (TBSt R S) → Part α (TBSt R S) → Prop}
    (hK : KeptByOps K) (cfg : HOOCfg R S) {s s1 : HOO α R S} {r : R} {ds ds' : List (Draw α)}
    (h : HOO.receive cfg s r ds = .ok (s1, ds')) : K s.P s1.P := by
  obtain ⟨path, last, nd, P3, P4, _, _, _, he, hb, rfl⟩ := HOO.receive_eq_ok.1 h
  refine hK.trans _ _ _ (hK.trans _ _ _ ?_ (Part.lift_expand_if (hK.makeChildren _) hK.refl he))
    (hK.backward hb)
  exact hK.trans _ _ _ (hK.foldl (fun Q id => hK.modifySt Q id _) path s.P) (hK.forListed _ _)

end hoo

end RL
end PyXAB
