/-
  Length facts about the child-box computations (number of children, dimension of each child)
  and the closed form of every class's `childIndex`.
-/
import PyXABProofs.Lemmas.PartBasic

namespace PyXAB
namespace Tree

section
variable {α : Type}

theorem length_chainIvs : ∀ l : List α, (chainIvs l).length = l.length - 1
  | [] => rfl
  | [_] => rfl
  | a :: b :: rest => by
    rw [chainIvs, List.length_cons, length_chainIvs (b :: rest)]
    rfl

theorem arity_pos_of_drawOK {k : Kind} {n : Nat} {d : Draw α} (h : DrawOKLen k n d) :
    1 ≤ k.arity n := by
  cases k with
  | binary | randBinary => exact Nat.le_succ 1
  | dimBinary => exact Nat.pow_pos (Nat.succ_pos 1)
  | kary K => exact h.2
  | randKary K => exact h.2.1

theorem length_splitChain (b : Box α) (dim : Nat) (pts : List α) (h : dim < b.length) :
    (splitChain b dim pts).length = pts.length + 1 := by
  unfold splitChain
  rw [List.getElem?_eq_getElem h]
  simp [length_chainIvs]

theorem length_of_mem_splitChain (b : Box α) (dim : Nat) (pts : List α) (c : Box α)
    (hc : c ∈ splitChain b dim pts) : c.length = b.length := by
  unfold splitChain at hc
  split at hc
  · simp at hc
  · simp only [List.mem_map] at hc
    obtain ⟨i, _, rfl⟩ := hc
    simp

theorem length_linspacePts [Add α] [Sub α] [Mul α] [Div α] [NatCast α] (lo hi : α) (K : Nat) :
    (linspacePts lo hi K).length = K - 1 := by
  simp [linspacePts]

variable [Add α] [Div α] [OfNat α 2]

theorem length_splitAll : ∀ b : Box α, (splitAll b).length = 2 ^ b.length
  | [] => rfl
  | iv :: rest => by
    rw [splitAll, ListAux.length_flatMap_const _ 2 _ (fun _ _ => rfl), length_splitAll rest,
      List.length_cons, Nat.pow_succ, Nat.mul_comm]

theorem length_of_mem_splitAll : ∀ (b c : Box α), c ∈ splitAll b → c.length = b.length
  | [], c, h => by simp [splitAll] at h; simp [h]
  | iv :: rest, c, h => by
    simp only [splitAll, List.mem_flatMap, List.mem_cons, List.not_mem_nil, or_false] at h
    obtain ⟨r, hr, hc⟩ := h
    have := length_of_mem_splitAll rest r hr
    rcases hc with rfl | rfl <;> simp [this]

variable [Sub α] [Mul α] [NatCast α]

theorem length_childBoxes (k : Kind) (b : Box α) (d : Draw α) (h : DrawOKLen k b.length d) :
    (childBoxes k b d).length = k.arity b.length := by
  cases k with
  | binary =>
    have h : d.dim < b.length := h
    simp only [childBoxes, List.getElem?_eq_getElem h]
    exact length_splitChain _ _ _ h
  | randBinary =>
    have h : d.dim < b.length ∧ 1 ≤ d.pts.length := h
    rw [childBoxes, length_splitChain _ _ _ h.1, List.length_take, Nat.min_eq_left h.2]
    rfl
  | dimBinary => exact length_splitAll b
  | kary K =>
    have h : d.dim < b.length ∧ 1 ≤ K := h
    simp only [childBoxes, List.getElem?_eq_getElem h.1]
    rw [length_splitChain _ _ _ h.1, length_linspacePts]
    exact Nat.sub_add_cancel h.2
  | randKary K =>
    have h : d.dim < b.length ∧ 1 ≤ K ∧ K - 1 ≤ d.pts.length := h
    rw [childBoxes, length_splitChain _ _ _ h.1, List.length_take, Nat.min_eq_left h.2.2]
    exact Nat.sub_add_cancel h.2.1

theorem length_of_mem_childBoxes (k : Kind) (b : Box α) (d : Draw α) (c : Box α)
    (hc : c ∈ childBoxes k b d) : c.length = b.length := by
  cases k with
  | binary =>
    simp only [childBoxes] at hc
    split at hc
    · simp at hc
    · exact length_of_mem_splitChain _ _ _ _ hc
  | randBinary => exact length_of_mem_splitChain _ _ _ _ hc
  | dimBinary => exact length_of_mem_splitAll _ _ hc
  | kary K =>
    simp only [childBoxes] at hc
    split at hc
    · simp at hc
    · exact length_of_mem_splitChain _ _ _ _ hc
  | randKary K => exact length_of_mem_splitChain _ _ _ _ hc

end

/-- Each class's own index formula is `K(i-1) + j + 1` for the `j`-th child (0-based) of a
cell with 1-based index `i`. -/
theorem childIndex_eq (k : Kind) (dimn i j : Nat) (hi : 1 ≤ i) (hj : j < k.arity dimn) :
    childIndex k dimn i j = k.arity dimn * (i - 1) + j + 1 := by
  obtain ⟨i, rfl⟩ : ∃ i', i = i' + 1 := ⟨i - 1, (Nat.sub_add_cancel hi).symm⟩
  have two : ∀ j, j < 2 → (if j = 0 then 2 * (i + 1) - 1 else 2 * (i + 1)) = 2 * i + j + 1
    | 0, _ => rfl
    | 1, _ => rfl
  -- `K (i+1) − (K − j − 1) = K i + (K − (K − (j+1))) = K i + (j+1)`
  have gen : ∀ K, j < K → K * (i + 1) - (K - j - 1) = K * i + j + 1 := fun K hK => by
    rw [Nat.mul_succ, Nat.sub_sub, Nat.add_sub_assoc (Nat.sub_le ..),
      Nat.sub_sub_self (Nat.succ_le_of_lt hK)]
    rfl
  cases k with
  | binary => exact two j hj
  | randBinary => exact two j hj
  | dimBinary => rfl
  | kary K => exact gen K hj
  | randKary K => exact gen K hj

end Tree
end PyXAB
