/-
  The closing step of the obligations printed by harness/translate_formulas.py
  (`Generated/Formulas*.lean`): what a real method computes, traced symbolically, equals the
  published formula.
-/
import PyXABProofs.Spec.Formulas
namespace PyXAB

/-- Closes `traced = published` once the published formula is unfolded.  Both sides are the same
field expression up to re-association (`ring`, `ring_nf`), possibly under one or two layers of an
uninterpreted function such as `sqrt`, `log`, `ceil` (`congr`).  The comparison is semantic on
purpose: a harmless rewrite of the Python expression still closes, a change of meaning does not. -/
macro "formula_eq" : tactic => `(tactic|
  first | rfl | ring | (ring_nf; done) | (congr 1 <;> ring_nf; done) | (congr 2 <;> ring_nf; done))

end PyXAB
