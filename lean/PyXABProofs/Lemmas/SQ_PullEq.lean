/-
  `SequOOL.pull` in three stages: `target` selects the cell to open (the only stage which reads
  the layers and calls `scan`), `openCell` expands it if it is still a leaf (the only stage which
  calls `makeChildrenD`), `handOut` hands out its next child and moves the counters (the only
  stage which builds a state).  `pull_eq` is the decomposition; the other lemmas evaluate one
  stage along one branch.
-/
import PyXABModel.Model.SequOOL

namespace PyXAB
namespace SQ
open SequOOL

variable {α S : Type}

section defs
variable [Add α] [Sub α] [Mul α] [Div α] [OfNat α 2] [NatCast α] [LE S] [DecidableLE S]

/-- the cell which `pull` opens, and the number of unopened cells the scan has seen -/
def target (negInf : S) (s : SequOOL α S) : Except Err (Nat × Nat) :=
  if s.currDepth = 0 then
    match s.P.layers[0]? with
    | some (r :: _) => .ok (r, 0)
    | _ => .error .indexError
  else
    match s.P.layers[s.currDepth]? with
    | none => .error .indexError
    | some layer => do
      let (num, maxn) ← scan s.P layer 0 negInf none
      match maxn with
      | none => .error .noneDeref
      | some m => .ok (m, num)

/-- `make_children` on the cell `tgt` unless it has children already; returns its child list -/
def openCell (P : Part α (SqSt S)) (cd tgt : Nat) (ds : List (Draw α)) :
    Except Err (Part α (SqSt S) × List (Draw α) × List Nat) :=
  match P.nodes[tgt]? with
  | none => .error .badId
  | some nd => do
    let (P1, ds1) ← (if nd.children.isNone
      then P.makeChildrenD st0 tgt (decide (cd ≥ P.depth)) ds else .ok (P, ds))
    match P1.nodes[tgt]? with
    | none => .error .badId
    | some nd1 =>
      match nd1.children with
      | none => .error .noneDeref
      | some cs => .ok (P1, ds1, cs)

/-- the child number `loc` of the cell `tgt` (whose child list is `cs`) is handed out; with the
last child the opening of `tgt` is complete.  The remaining draws `ds` are passed through. -/
def handOut (s : SequOOL α S) (tgt num : Nat) (cs : List Nat) (ds : List (Draw α)) :
    Except Err (SequOOL α S × List (Draw α) × Nat) :=
  if s.loc < cs.length then
    if s.loc = cs.length - 1 then
      match cs.getLast? with
      | none => .error .indexError
      | some c =>
        if s.currDepth = 0 then
          .ok ({ s with loc := 0, currDepth := 1, budget := some (s.hmax / 1),
                        chosen := s.chosen ++ [c], curr := some c }, ds, c)
        else
          match s.budget with
          | none => .error .noneDeref
          | some b =>
            let s' := { s with P := s.P.modifySt tgt (fun st => { st with opened := true }),
                               loc := 0, chosen := s.chosen ++ [c], curr := some c }
            if b - 1 = 0 || num = 1 then
              .ok ({ s' with currDepth := s.currDepth + 1,
                             budget := some (s.hmax / (s.currDepth + 1)) }, ds, c)
            else .ok ({ s' with budget := some (b - 1) }, ds, c)
    else
      match cs[s.loc]? with
      | none => .error .indexError
      | some c =>
        .ok ({ s with loc := s.loc + 1, chosen := s.chosen ++ [c], curr := some c }, ds, c)
  else .error .returnedNone

theorem pull_eq (negInf : S) (s : SequOOL α S) (t : Nat) (ds : List (Draw α)) :
    pull negInf s t ds =
      if s.currDepth ≤ s.hmax then do
        let (tgt, num) ← target negInf s
        let (P1, ds1, cs) ← openCell s.P s.currDepth tgt ds
        handOut { s with iteration := t, P := P1 } tgt num cs ds1
      else
        match s.P.layers[0]? with
        | some (r :: _) => .ok ({ s with iteration := t, curr := some r }, ds, r)
        | _ => .error .indexError := by
  unfold pull
  dsimp only
  by_cases h : s.currDepth ≤ s.hmax
  · rw [if_pos h, if_pos h]
    change target negInf s >>= _ = _
    cases target negInf s with
    | error e => rfl
    | ok p =>
      obtain ⟨tgt, num⟩ := p
      change _ = openCell s.P s.currDepth tgt ds >>= _
      unfold openCell
      dsimp only [bind, Except.bind]
      cases s.P.nodes[tgt]? with
      | none => rfl
      | some nd =>
        dsimp only
        cases (if nd.children.isNone then
          s.P.makeChildrenD st0 tgt (decide (s.currDepth ≥ s.P.depth)) ds else .ok (s.P, ds)) with
        | error e => rfl
        | ok q =>
          obtain ⟨P1, ds1⟩ := q
          dsimp only
          cases P1.nodes[tgt]? with
          | none => rfl
          | some nd1 =>
            dsimp only
            cases nd1.children <;> rfl
  · rw [if_neg h, if_neg h]
    rfl

theorem pull_stages {negInf : S} {s : SequOOL α S} {t tgt num : Nat} {ds ds1 : List (Draw α)}
    {P1 : Part α (SqSt S)} {cs : List Nat} (h : s.currDepth ≤ s.hmax)
    (h1 : target negInf s = .ok (tgt, num))
    (h2 : openCell s.P s.currDepth tgt ds = .ok (P1, ds1, cs)) :
    pull negInf s t ds = handOut { s with iteration := t, P := P1 } tgt num cs ds1 := by
  simp only [pull_eq, if_pos h, h1, h2, bind, Except.bind]

/-- beyond depth `hmax` the root is handed out -/
theorem pull_root {negInf : S} {s : SequOOL α S} {r : Nat} {rest : List Nat}
    (h : s.hmax < s.currDepth) (hl : s.P.layers[0]? = some (r :: rest)) (t : Nat)
    (ds : List (Draw α)) :
    pull negInf s t ds = .ok ({ s with iteration := t, curr := some r }, ds, r) := by
  rw [pull_eq, if_neg (Nat.not_le.2 h), hl]

end defs

section target
variable [LE S] [DecidableLE S]

theorem target_root {negInf : S} {s : SequOOL α S} {r : Nat} {rest : List Nat}
    (h0 : s.currDepth = 0) (hl : s.P.layers[0]? = some (r :: rest)) :
    target negInf s = .ok (r, 0) := by
  simp only [target, h0, if_true, hl]

theorem target_scan {negInf : S} {s : SequOOL α S} {layer : List Nat} {num m : Nat}
    (h0 : s.currDepth ≠ 0) (hl : s.P.layers[s.currDepth]? = some layer)
    (hsc : scan s.P layer 0 negInf none = .ok (num, some m)) : target negInf s = .ok (m, num) := by
  simp only [target, h0, if_false, hl, hsc, bind, Except.bind]

end target

section openCell
variable [Add α] [Sub α] [Mul α] [Div α] [OfNat α 2] [NatCast α]

theorem openCell_leaf {P P1 : Part α (SqSt S)} {cd tgt : Nat} {ds ds1 : List (Draw α)}
    {nd nd1 : Node α (SqSt S)} {cs : List Nat} (hnd : P.nodes[tgt]? = some nd)
    (hleaf : nd.children = none)
    (hmk : P.makeChildrenD st0 tgt (decide (cd ≥ P.depth)) ds = .ok (P1, ds1))
    (hnd1 : P1.nodes[tgt]? = some nd1) (hcs : nd1.children = some cs) :
    openCell P cd tgt ds = .ok (P1, ds1, cs) := by
  simp only [openCell, hnd, hleaf, Option.isNone_none, if_true, hmk, bind, Except.bind, hnd1, hcs]

theorem openCell_inner {P : Part α (SqSt S)} {cd tgt : Nat} {ds : List (Draw α)}
    {nd : Node α (SqSt S)} {cs : List Nat} (hnd : P.nodes[tgt]? = some nd)
    (hcs : nd.children = some cs) : openCell P cd tgt ds = .ok (P, ds, cs) := by
  simp only [openCell, hnd, hcs, Option.isNone_some, Bool.false_eq_true, if_false, bind,
    Except.bind]

end openCell

section handOut
variable {s : SequOOL α S} {tgt num c : Nat} {cs : List Nat} {ds : List (Draw α)}

theorem handOut_next (h : s.loc + 1 < cs.length) (hc : cs[s.loc]? = some c) :
    handOut s tgt num cs ds =
      .ok ({ s with loc := s.loc + 1, chosen := s.chosen ++ [c], curr := some c }, ds, c) := by
  rw [handOut, if_pos (Nat.lt_of_succ_lt h), if_neg (Nat.ne_of_lt (Nat.lt_sub_of_add_lt h)), hc]

theorem getLast?_of_last {β : Type} {l : List β} {i : Nat} {x : β} (h : i + 1 = l.length)
    (hx : l[i]? = some x) : l.getLast? = some x := by
  rw [List.getLast?_eq_getElem?, ← h]; exact hx

theorem handOut_last0 (h : s.loc + 1 = cs.length) (hc : cs[s.loc]? = some c)
    (h0 : s.currDepth = 0) :
    handOut s tgt num cs ds =
      .ok ({ s with loc := 0, currDepth := 1, budget := some (s.hmax / 1),
                    chosen := s.chosen ++ [c], curr := some c }, ds, c) := by
  rw [handOut, if_pos (h ▸ Nat.lt_succ_self _), if_pos (h ▸ rfl), getLast?_of_last h hc]
  exact if_pos h0

/-- The last child of a search cell: the cell is flagged, the budget of the depth decremented;
the depth advances when the budget is spent or the cell was the only unopened one. -/
theorem handOut_last {b : Nat} (h : s.loc + 1 = cs.length) (hc : cs[s.loc]? = some c)
    (h0 : s.currDepth ≠ 0) (hb : s.budget = some b) :
    handOut s tgt num cs ds =
      .ok ({ s with P := s.P.modifySt tgt (fun st => { st with opened := true }), loc := 0,
                    chosen := s.chosen ++ [c], curr := some c,
                    currDepth := if b - 1 = 0 ∨ num = 1 then s.currDepth + 1 else s.currDepth,
                    budget := some (if b - 1 = 0 ∨ num = 1 then s.hmax / (s.currDepth + 1)
                      else b - 1) }, ds, c) := by
  rw [handOut, if_pos (h ▸ Nat.lt_succ_self _), if_pos (h ▸ rfl), getLast?_of_last h hc]
  dsimp only
  rw [if_neg h0, hb]
  simp only [Bool.or_eq_true, decide_eq_true_eq]
  split <;> rfl

end handOut

end SQ
end PyXAB
