/-
  Tree-level geometry: the effect of one `make_children` on the list of leaf boxes.
-/
import PyXABProofs.Spec.ZoomSpec
import PyXABProofs.Props.C02

set_option linter.unusedSectionVars false

namespace PyXAB
namespace ZM
open _root_.PyXAB.Tree

section nodes
variable {α σ : Type} [Add α] [Sub α] [Mul α] [Div α] [OfNat α 2] [NatCast α]

/-- One expansion of a leaf replaces its box by the boxes of its children in the list of
leaf boxes (new boxes at the end). -/
theorem leafBoxes_step {P P' : Part α σ} {s0 : σ} {p : Nat} {nd : Node α σ} {nl : Bool}
    {d : Draw α} (hp : P.nodes[p]? = some nd) (hleaf : nd.children = none)
    (h : P.makeChildren s0 p nl d = .ok P') :
    ∃ l₁ l₂, leafBoxes P = l₁ ++ nd.box :: l₂ ∧
      leafBoxes P' = l₁ ++ l₂ ++ childBoxes P.kind nd.box d := by
  obtain ⟨t, r, e1, e2⟩ := ListAux.split_at hp
  have hkids : (Part.newKids P.kind p nd s0 d).filter isLeafNode = Part.newKids P.kind p nd s0 d :=
    List.filter_eq_self.2 fun x hx => by rw [isLeafNode, (Part.of_mem_newKids hx).2.2.1]; rfl
  refine ⟨(t.filter isLeafNode).map (·.box), (r.filter isLeafNode).map (·.box), ?_, ?_⟩
  · have hl : isLeafNode nd = true := by rw [isLeafNode, hleaf]; rfl
    rw [leafBoxes, e1, List.filter_append, List.filter_cons_of_pos hl, List.map_append, List.map_cons]
  · rw [leafBoxes, (Part.makeChildren_ok hp h).2.1, e2, List.filter_append, List.filter_append,
      List.filter_cons_of_neg (by simp [isLeafNode]), hkids, List.map_append, List.map_append,
      Part.newKids_map_box]

end nodes

section tiles
variable {α σ : Type} [Field α] [LinearOrder α] [IsStrictOrderedRing α]

/-- One legal geometric expansion keeps "the leaf boxes tile the root", and the children tile
the cell that was split. -/
theorem tiles_step {root : Box α} {P P' : Part α σ} {s0 : σ} {p : Nat} {nd : Node α σ}
    {nl : Bool} {d : Draw α} (hT : Tiles (leafBoxes P) root)
    (hp : P.nodes[p]? = some nd) (hleaf : nd.children = none)
    (hd : DrawOK P.kind nd.box d) (h : P.makeChildren s0 p nl d = .ok P') :
    Tiles (leafBoxes P') root ∧ Tiles (childBoxes P.kind nd.box d) nd.box := by
  obtain ⟨l₁, l₂, e1, e2⟩ := leafBoxes_step hp hleaf h
  rw [e1] at hT
  have hk := (C02.childBoxes_tiles P.kind nd.box d (hT.1 nd.box (by simp)).2 hd).1
  rw [e2]
  exact ⟨C02.tiles_refine l₁ l₂ _ nd.box root hT hk, hk⟩

end tiles

theorem leafBoxes_init {α σ : Type} [LinearOrder α] (k : Kind) (root : Box α) (s0 : σ) :
    leafBoxes (Part.init k root s0) = [root] := rfl

end ZM
end PyXAB
