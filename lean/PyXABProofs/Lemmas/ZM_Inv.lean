/-
  Inversion of `init`, `pull`, `receive` (no invariant assumed): what any successful call did to
  the state.
-/
import PyXABProofs.Lemmas.ZM_Recv

set_option linter.unusedSectionVars false

namespace PyXAB
namespace ZM
open Zooming

variable {α R S : Type} [Add α] [Sub α] [Mul α] [Div α] [OfNat α 2] [NatCast α]
variable [LE α] [DecidableLE α]

/-- What `init` establishes: the base case of the inductions over a run for the statistics and
the phase schedule. -/
def InitRel (cfg : ZoomCfg R S) (s : Zooming α S) : Prop :=
  s.phase = 1 ∧ s.nextEnd = 2 ∧ s.time = 0 ∧ s.best = none ∧
    ∀ a ∈ s.arms, a.pulls = 0 ∧ a.avg = cfg.zero

/-- The effect of one round (`pull` returning position `i`, then `receive r`): the new state is
`refined …` (the pulled arm `a` credited with `r`, arena `P2`, the arm now in cell `c`) with
fresh arms appended; `refined` with the arena and the cell kept and no fresh arm is `credited`. -/
def RoundRel (cfg : ZoomCfg R S) (s : Zooming α S) (i : Nat) (r : R) (s' : Zooming α S) : Prop :=
  ∃ a P2 c fresh, s.arms[i]? = some a ∧
    s' = refined cfg { s with best := some i } i a r P2 c fresh ∧
    ∀ f ∈ fresh, f.pulls = 0 ∧ f.avg = cfg.zero

theorem init_inv {cfg : ZoomCfg R S} {k : Kind} {domain : Box α} {ds ds' : List (Draw α)}
    {s : Zooming α S} (h : Zooming.init cfg k domain ds = .ok (s, ds')) : InitRel cfg s := by
  obtain ⟨⟨P1, ds1⟩, _, h⟩ := ListAux.bind_eq_ok.1 h
  dsimp only at h
  split at h
  · cases h
  · cases h
    refine ⟨rfl, rfl, rfl, rfl, fun a ha => ?_⟩
    obtain ⟨c, _, rfl⟩ := List.mem_map.1 ha
    exact ⟨rfl, rfl⟩

theorem pull_inv [LE S] [DecidableLE S] {cfg : ZoomCfg R S} {s s1 : Zooming α S} {i : Nat}
    {pt : List α} (h : pull cfg s = .ok (s1, i, pt)) :
    s1 = { s with best := some i } ∧ ∃ a, s.arms[i]? = some a ∧ pt = a.pt := by
  unfold pull at h
  split at h
  · cases h
  · split at h
    · cases h
    · rename_i j _ a ha
      simp only [Except.ok.injEq, Prod.mk.injEq] at h
      obtain ⟨rfl, rfl, rfl⟩ := h
      exact ⟨rfl, a, ha, rfl⟩

/-- The walk through `receive` shows that every lookup succeeded; the result is then the one of
`receive_noref` or `receive_ref`. -/
theorem receive_inv {cfg : ZoomCfg R S} {s s' : Zooming α S} {r : R} {ds ds' : List (Draw α)}
    (h : receive cfg s r ds = .ok (s', ds')) :
    ∃ i a P2 c fresh, s.best = some i ∧ s.arms[i]? = some a ∧
      s' = refined cfg s i a r P2 c fresh ∧ ∀ f ∈ fresh, f.pulls = 0 ∧ f.avg = cfg.zero := by
  have h0 := h
  unfold receive at h
  cases hb : s.best with
  | none => simp only [hb] at h; cases h
  | some i =>
    cases ha : s.arms[i]? with
    | none => simp only [hb, ha] at h; cases h
    | some a =>
      simp only [hb, ha, phase_pair] at h
      cases hn : s.P.nodes[a.cell]? with
      | none => simp only [hn] at h; cases h
      | some nd =>
        cases hc : refineCond cfg s a nd with
        | false =>
          rw [receive_noref cfg r ds hb ha hn hc] at h0
          cases h0
          exact ⟨i, a, _, _, _, rfl, ha, credited_eq_refined cfg s i a r, nofun⟩
        | true =>
          simp only [hn, show cfg.refine (phaseAfter s) (a.pulls + 1) nd.depth = true from hc,
            if_true] at h
          obtain ⟨⟨P2, ds2⟩, hm, h⟩ := ListAux.bind_eq_ok.1 h
          cases hn2 : P2.nodes[a.cell]? with
          | none => simp only [hn2] at h; cases h
          | some nd2 =>
            cases hcs : nd2.children with
            | none => simp only [hn2, hcs] at h; cases h
            | some cs =>
              rw [receive_ref cfg r hb ha hn hc hm hn2 hcs] at h0
              cases h0
              exact ⟨i, a, _, _, _, rfl, ha, rfl, assign_fresh cfg P2 a.pt cs false none [] nofun⟩

theorem round_inv [LE S] [DecidableLE S] {cfg : ZoomCfg R S} {s s1 s2 : Zooming α S} {i : Nat}
    {pt : List α} {r : R} {ds ds' : List (Draw α)} (hp : pull cfg s = .ok (s1, i, pt))
    (hr : receive cfg s1 r ds = .ok (s2, ds')) : RoundRel cfg s i r s2 := by
  obtain ⟨rfl, _⟩ := pull_inv hp
  obtain ⟨i', a, P2, c, fresh, hb, ha, e, hf⟩ := receive_inv hr
  obtain rfl : i = i' := Option.some.inj hb
  exact ⟨a, P2, c, fresh, ha, e, hf⟩

end ZM
end PyXAB
