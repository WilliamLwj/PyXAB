/-
  C01 for the wrappers POO and GPO (PCT / VPCT), generic in the base learner: if every point
  proposed by the base learner satisfies `InDom` (under the learner's own invariant `LI`), so does
  every point returned by `pull` / `get_last_point` of the wrapper.  `pull` and `receive` are
  followed branch by branch through the equations of `Lemmas/MT_POOStep.lean`, `MT_GPOStep.lean`.
-/
import PyXABProofs.Spec.TotalSpec
import PyXABProofs.Lemmas.MT_POORun
import PyXABProofs.Lemmas.MT_GPORun

set_option linter.unusedSectionVars false
set_option linter.unusedVariables false

namespace PyXAB
namespace TT
open MT
variable {L α R S Pt ρ : Type}

theorem POOInv.set {LI : L → Prop} {s : POO L S} (hI : POOInv LI s) {i : Nat} {l' : L}
    (hl : LI l') {s' : POO L S} (e : s'.learners = s.learners.set i l') : POOInv LI s' := by
  intro l hl'
  rw [e] at hl'
  rcases List.mem_or_eq_of_mem_set hl' with h | h
  · exact hI l h
  · exact h ▸ hl

/-- One learner of the list proposes: its new state replaces it, the proposal is in the
domain. -/
theorem POOInv.pulled {ops : LearnerOps L α R Pt ρ} {LI : L → Prop} {InDom : Pt → Prop}
    (hops : OpsInDom ops LI InDom) {s s' : POO L S} (hI : POOInv LI s) {l l' : L} {t i : Nat}
    {pt : Pt} (hl : l ∈ s.learners) (hp : ops.pull l t = .ok (l', pt))
    (e : s'.learners = s.learners.set i l') : POOInv LI s' ∧ InDom pt := by
  obtain ⟨h1, h2⟩ := hops.pull _ _ _ _ (hI l hl) hp
  exact ⟨hI.set h1 e, h2⟩

namespace POO
open PyXAB.POO
variable {ops : LearnerOps L α R Pt ρ} {LI : L → Prop} {InDom : Pt → Prop}

theorem init_inv (LI : L → Prop) : POOInv LI (PyXAB.POO.init : POO L S) := nofun

theorem pull_inDom (hops : OpsInDom ops LI InDom) (cfg : POOCfg R S ρ) {s s1 : POO L S}
    {time i : Nat} {ds ds1 : List (Draw α)} {pt : Pt} (hI : POOInv LI s)
    (h : pull ops cfg s time ds = .ok (s1, ds1, i, pt)) : POOInv LI s1 ∧ InDom pt := by
  cases hc : cfg.cond s.N s.n with
  | true =>
    by_cases h0 : s.counter = 0
    · -- a learner is constructed, appended, and proposes
      rw [pull_create hc h0] at h
      obtain ⟨⟨l, ds'⟩, hcr, h⟩ := ListAux.bind_eq_ok.1 h
      obtain ⟨⟨l', pt'⟩, hp, h⟩ := ListAux.bind_eq_ok.1 h
      cases h
      obtain ⟨h1, h2⟩ := hops.pull _ _ _ _ (hops.create _ _ _ _ hcr) hp
      refine ⟨fun x hx => ?_, h2⟩
      rcases List.mem_append.1 hx with hx | hx
      · exact hI x hx
      · cases List.mem_singleton.1 hx
        exact h1
    · rw [pull_fill hc h0] at h
      obtain ⟨l, hl, h⟩ := ListAux.bind_eq_ok.1 h
      obtain ⟨⟨l', pt'⟩, hp, h⟩ := ListAux.bind_eq_ok.1 h
      cases h
      exact hI.pulled hops (List.mem_of_getLast? (orErr_eq_ok_iff.1 hl)) hp rfl
  | false =>
    rw [pull_rr hc] at h
    obtain ⟨ac, -, h⟩ := ListAux.bind_eq_ok.1 h
    obtain ⟨l, hl, h⟩ := ListAux.bind_eq_ok.1 h
    obtain ⟨⟨l', pt'⟩, hp, h⟩ := ListAux.bind_eq_ok.1 h
    cases h
    exact hI.pulled hops (List.mem_of_getElem? (orErr_eq_ok_iff.1 hl)) hp rfl

theorem receive_inv (hops : OpsInDom ops LI InDom) (cfg : POOCfg R S ρ) {s s2 : POO L S}
    {time : Nat} {r : R} {ds ds2 : List (Draw α)} (hI : POOInv LI s)
    (h : receive ops cfg s time r ds = .ok (s2, ds2)) : POOInv LI s2 := by
  rcases receive_ok h with ⟨-, l, v, t, l', hl, -, -, hr, rfl⟩ |
    ⟨-, ac, l, v, t, l', -, hl, -, -, hr, rfl⟩
  · exact hI.set (hops.receive _ _ _ _ _ _ (hI l (List.mem_of_getLast? hl)) hr)
      (recvCreate_lists cfg s l' v t r).1
  · exact hI.set (hops.receive _ _ _ _ _ _ (hI l (List.mem_of_getElem? hl)) hr)
      (recvRR_lists cfg s ac l' v t r).1

theorem lastPoint_inDom [LT S] [DecidableLT S] (hops : OpsInDom ops LI InDom) {s s' : POO L S}
    {i : Nat} {pt : Pt} (hI : POOInv LI s) (h : lastPoint ops s = .ok (s', i, pt)) :
    POOInv LI s' ∧ InDom pt := by
  unfold lastPoint at h
  split at h
  · cases h
  · split at h
    · cases h
    · rename_i hl
      obtain ⟨⟨l', pt'⟩, hp, h⟩ := ListAux.bind_eq_ok.1 h
      cases h
      exact hI.pulled hops (List.mem_of_getElem? hl) hp rfl

theorem round_inDom (hops : OpsInDom ops LI InDom) (cfg : POOCfg R S ρ) {s s2 : POO L S}
    {x : RoundIn α R} {e : Entry R} {pt : Pt} (hI : POOInv LI s)
    (h : round ops cfg s x = .ok (s2, e, pt)) : POOInv LI s2 ∧ InDom pt := by
  obtain ⟨s1, ds1, ds2, hp, hr, -⟩ := round_ok h
  obtain ⟨h1, h2⟩ := pull_inDom hops cfg hI hp
  exact ⟨receive_inv hops cfg h1 hr, h2⟩

theorem run_inv (hops : OpsInDom ops LI InDom) (cfg : POOCfg R S ρ) {xs : List (RoundIn α R)}
    {s s' : POO L S} {log : List (Entry R)} (hI : POOInv LI s)
    (h : run ops cfg s xs = .ok (s', log)) : POOInv LI s' :=
  runM_induction (J := fun s _ => POOInv LI s) (log0 := [])
    (fun _ _ _ _ _ hJ hr =>
      let ⟨_, hr⟩ := roundE_ok_iff.mp hr
      (round_inDom hops cfg hJ hr).1)
    hI (run_eq_runM s xs ▸ h)

end POO

namespace GPO
open PyXAB.GPO MT.GPO
variable {ops : LearnerOps L α R Pt ρ} {LI : L → Prop} {InDom : Pt → Prop}

theorem init_inv (LI : L → Prop) (InDom : Pt → Prop) :
    GPOInv LI InDom (PyXAB.GPO.init : GPO L S Pt) :=
  ⟨nofun, nofun, nofun⟩

/-- `pull` in a running phase: the learner proposes (exploring), or the remembered proposal is
returned again (validating). -/
theorem serve_inDom (hops : OpsInDom ops LI InDom) {cfg : GPOCfg R S ρ} {s s1 : GPO L S Pt}
    {time : Nat} {ds ds1 : List (Draw α)} {pt : Pt}
    (h : serve ops cfg s time ds = .ok (s1, ds1, pt)) (hI : GPOInv LI InDom s) :
    GPOInv LI InDom s1 ∧ InDom pt := by
  by_cases hlt : s.counter < cfg.half
  · rw [serve_explore hlt] at h
    obtain ⟨l, hl, h⟩ := ListAux.bind_eq_ok.1 h
    obtain ⟨⟨l', pt'⟩, hp, h⟩ := ListAux.bind_eq_ok.1 h
    cases h
    obtain ⟨h1, h2⟩ := hops.pull _ _ _ _ (hI.curr l (orErr_eq_ok_iff.1 hl)) hp
    exact ⟨⟨fun _ e => by cases e; exact h1, fun _ e => by cases e; exact h2, hI.vx⟩, h2⟩
  · rw [serve_validate (Nat.le_of_not_lt hlt)] at h
    obtain ⟨p, hp, h⟩ := ListAux.bind_eq_ok.1 h
    have hpd := hI.goodx p (orErr_eq_ok_iff.1 hp)
    cases h
    refine ⟨?_, hpd⟩
    split
    · refine ⟨hI.curr, hI.goodx, fun q hq => ?_⟩
      rcases List.mem_append.1 hq with hq | hq
      · exact hI.vx q hq
      · cases List.mem_singleton.1 hq
        exact hpd
    · exact hI

theorem pull_inDom (hops : OpsInDom ops LI InDom) (cfg : GPOCfg R S ρ) {s s1 : GPO L S Pt}
    {time : Nat} {ds ds1 : List (Draw α)} {pt : Pt} (hI : GPOInv LI InDom s)
    (h : pull ops cfg s time ds = .ok (s1, ds1, pt)) : GPOInv LI InDom s1 ∧ InDom pt := by
  by_cases hd : cfg.N < s.phase
  · rw [pull_done hd] at h
    obtain ⟨p, hp, h⟩ := ListAux.bind_eq_ok.1 h
    have hpd := hI.goodx p (orErr_eq_ok_iff.1 hp)
    cases h
    exact ⟨hI, hpd⟩
  · by_cases h0 : s.counter = 0
    · rw [pull_first (Nat.le_of_not_lt hd) h0] at h
      obtain ⟨⟨l, ds'⟩, hc, h⟩ := ListAux.bind_eq_ok.1 h
      exact serve_inDom hops h
        ⟨fun _ e => by cases e; exact hops.create _ _ _ _ hc, hI.goodx, hI.vx⟩
    · rw [pull_next (Nat.le_of_not_lt hd) h0] at h
      exact serve_inDom hops h hI

section
variable [LT S] [DecidableLT S]

/-- The tail of `receive`: after the last phase `goodx` becomes one of the validated points. -/
theorem finish_inv {cfg : GPOCfg R S ρ} {s s2 : GPO L S Pt} {ds ds2 : List (Draw α)}
    (h : finish cfg s ds = .ok (s2, ds2)) (hI : GPOInv LI InDom s) : GPOInv LI InDom s2 := by
  by_cases h1 : s.counter + 1 < 2 * cfg.half
  · rw [finish_stay h1] at h
    cases h
    exact ⟨hI.curr, hI.goodx, hI.vx⟩
  · by_cases h2 : s.phase + 1 ≤ cfg.N
    · rw [finish_next (Nat.le_of_not_lt h1) h2] at h
      cases h
      exact ⟨hI.curr, hI.goodx, hI.vx⟩
    · rw [finish_last (Nat.le_of_not_lt h1) (Nat.lt_of_not_le h2)] at h
      obtain ⟨i, -, h⟩ := ListAux.bind_eq_ok.1 h
      obtain ⟨p, hp, h⟩ := ListAux.bind_eq_ok.1 h
      cases h
      exact ⟨hI.curr, fun _ e => by
        cases e; exact hI.vx p (List.mem_of_getElem? (orErr_eq_ok_iff.1 hp)), hI.vx⟩

theorem receive_inv (hops : OpsInDom ops LI InDom) (cfg : GPOCfg R S ρ) {s s2 : GPO L S Pt}
    {time : Nat} {r : R} {ds ds2 : List (Draw α)} (hI : GPOInv LI InDom s)
    (h : receive ops cfg s time r ds = .ok (s2, ds2)) : GPOInv LI InDom s2 := by
  by_cases hd : cfg.N < s.phase
  · rw [receive_done hd] at h
    cases h
    exact hI
  · by_cases hlt : s.counter < cfg.half
    · rw [receive_explore (Nat.le_of_not_lt hd) hlt] at h
      obtain ⟨l, hl, h⟩ := ListAux.bind_eq_ok.1 h
      obtain ⟨⟨l', ds'⟩, hr, h⟩ := ListAux.bind_eq_ok.1 h
      cases h
      exact ⟨fun _ e => by
        cases e; exact hops.receive _ _ _ _ _ _ (hI.curr l (orErr_eq_ok_iff.1 hl)) hr,
        hI.goodx, hI.vx⟩
    · rw [receive_validate (Nat.le_of_not_lt hd) (Nat.le_of_not_lt hlt)] at h
      obtain ⟨v, -, h⟩ := ListAux.bind_eq_ok.1 h
      exact finish_inv h ⟨hI.curr, hI.goodx, hI.vx⟩

theorem lastPoint_inDom {s : GPO L S Pt} {p : Pt} (hI : GPOInv LI InDom s)
    (h : lastPoint s = .ok p) : InDom p := by
  unfold lastPoint at h
  split at h
  · cases h
  · split at h
    · cases h
    · rename_i hp
      cases h
      exact hI.vx _ (List.mem_of_getElem? hp)

theorem round_inDom (hops : OpsInDom ops LI InDom) (cfg : GPOCfg R S ρ) {s s2 : GPO L S Pt}
    {x : RoundIn α R} {e : Entry R Pt} (hI : GPOInv LI InDom s)
    (h : round ops cfg s x = .ok (s2, e)) : GPOInv LI InDom s2 ∧ InDom e.pt := by
  obtain ⟨s1, ds1, ds2, hp, hr, -⟩ := round_ok h
  obtain ⟨h1, h2⟩ := pull_inDom hops cfg hI hp
  exact ⟨receive_inv hops cfg h1 hr, h2⟩

theorem run_inDom (hops : OpsInDom ops LI InDom) (cfg : GPOCfg R S ρ)
    {xs : List (RoundIn α R)} {s s' : GPO L S Pt} {log : List (Entry R Pt)}
    (hI : GPOInv LI InDom s) (h : run ops cfg s xs = .ok (s', log)) :
    GPOInv LI InDom s' ∧ ∀ e ∈ log, InDom e.pt := by
  refine runM_induction (J := fun s log => GPOInv LI InDom s ∧ ∀ e ∈ log, InDom e.pt)
    (log0 := []) (fun s log x s1 e hJ hr => ?_) ⟨hI, nofun⟩ (run_eq_runM s xs ▸ h)
  obtain ⟨h1, h2⟩ := round_inDom hops cfg hJ.1 hr
  refine ⟨h1, fun e' he' => ?_⟩
  rcases List.mem_append.1 he' with he' | he'
  · exact hJ.2 e' he'
  · cases List.mem_singleton.1 he'
    exact h2

end
end GPO
end TT
end PyXAB
