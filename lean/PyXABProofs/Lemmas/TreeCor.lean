/-
  Consequences of the invariant `WF`: what the per-depth lists and the child lists contain.
-/
import PyXABProofs.Lemmas.PartBasic

namespace PyXAB
namespace Tree

variable {α σ : Type} {P : Part α σ}

theorem pairwise_lt_getElem? {l : List Nat} (hl : l.Pairwise (· < ·)) {i j a b : Nat}
    (ha : l[i]? = some a) (hb : l[j]? = some b) (hij : i < j) : a < b := by
  obtain ⟨hi, rfl⟩ := List.getElem?_eq_some_iff.1 ha
  obtain ⟨hj, rfl⟩ := List.getElem?_eq_some_iff.1 hb
  exact List.pairwise_iff_getElem.1 hl i j hi hj hij

theorem eq_of_pairwise_lt_of_mem_iff : ∀ (l1 l2 : List Nat), l1.Pairwise (· < ·) →
    l2.Pairwise (· < ·) → (∀ i, i ∈ l1 ↔ i ∈ l2) → l1 = l2
  | [], [], _, _, _ => rfl
  | [], b :: l2, _, _, h => nomatch (h b).2 (List.mem_cons_self ..)
  | a :: l1, [], _, _, h => nomatch (h a).1 (List.mem_cons_self ..)
  | a :: l1, b :: l2, h1, h2, h => by
    rw [List.pairwise_cons] at h1 h2
    have hab : a = b := by
      rcases List.mem_cons.1 ((h a).1 (List.mem_cons_self ..)) with e | ha
      · exact e
      · rcases List.mem_cons.1 ((h b).2 (List.mem_cons_self ..)) with e | hb
        · exact e.symm
        · exact absurd (h1.1 b hb) (Nat.lt_asymm (h2.1 a ha))
    subst hab
    congr 1
    refine eq_of_pairwise_lt_of_mem_iff l1 l2 h1.2 h2.2 (fun i => ⟨fun hi => ?_, fun hi => ?_⟩)
    · exact (List.mem_cons.1 ((h i).1 (List.mem_cons_of_mem _ hi))).resolve_left
        (Nat.ne_of_gt (h1.1 i hi))
    · exact (List.mem_cons.1 ((h i).2 (List.mem_cons_of_mem _ hi))).resolve_left
        (Nat.ne_of_gt (h2.1 i hi))

namespace WF

theorem length_pos (W : WF P) : 0 < P.nodes.length := by
  obtain ⟨r, hr, _⟩ := W.root
  exact lt_length_of_getElem? hr

theorem depth_pos_of_pos (W : WF P) {c : Nat} {cn : Node α σ} (hc0 : 0 < c)
    (hc : P.nodes[c]? = some cn) : 0 < cn.depth := by
  obtain ⟨_, _, _, _, _, _, _, _, h⟩ := W.parent c cn hc0 hc
  omega

theorem layer_exists (W : WF P) {h : Nat} (hh : h ≤ P.depth) : ∃ l, P.layers[h]? = some l :=
  ⟨_, List.getElem?_eq_getElem (by rw [W.layers_len]; omega)⟩

theorem mem_layer_iff (W : WF P) {h : Nat} {l : List Nat} (hl : P.layers[h]? = some l) (i : Nat) :
    i ∈ l ↔ ∃ nd, P.nodes[i]? = some nd ∧ nd.depth = h :=
  (W.layers_mem h l hl).2.2 i

theorem layer_sorted (W : WF P) {h : Nat} {l : List Nat} (hl : P.layers[h]? = some l) :
    l.Pairwise (· < ·) :=
  (W.layers_mem h l hl).1

theorem layer_ne_nil (W : WF P) {h : Nat} {l : List Nat} (hl : P.layers[h]? = some l) : l ≠ [] :=
  (W.layers_mem h l hl).2.1

theorem layer_nodup (W : WF P) {h : Nat} {l : List Nat} (hl : P.layers[h]? = some l) : l.Nodup :=
  (W.layer_sorted hl).imp Nat.ne_of_lt

theorem layer_of_node (W : WF P) {i : Nat} {nd : Node α σ} (hi : P.nodes[i]? = some nd) :
    ∃ l, P.layers[nd.depth]? = some l ∧ i ∈ l := by
  obtain ⟨l, hl⟩ := W.layer_exists (W.depth_le i nd hi)
  exact ⟨l, hl, (W.mem_layer_iff hl i).2 ⟨nd, hi, rfl⟩⟩

/-- `node_list[h]`, read as empty beyond the deepest level, lists the cells of depth `h`. -/
theorem mem_getD_layer (W : WF P) (h i : Nat) :
    i ∈ (P.layers[h]?).getD [] ↔ ∃ nd, P.nodes[i]? = some nd ∧ nd.depth = h := by
  cases hl : P.layers[h]? with
  | some l => exact W.mem_layer_iff hl i
  | none =>
    have hh : P.depth + 1 ≤ h := by rw [← W.layers_len]; exact List.getElem?_eq_none_iff.1 hl
    exact ⟨nofun, fun ⟨nd, h1, h2⟩ =>
      absurd (Nat.le_trans hh (h2 ▸ W.depth_le i nd h1)) (Nat.not_succ_le_self _)⟩

theorem getD_layer_sorted (W : WF P) (h : Nat) : ((P.layers[h]?).getD []).Pairwise (· < ·) := by
  cases hl : P.layers[h]? with
  | some l => exact W.layer_sorted hl
  | none => exact List.Pairwise.nil

theorem mem_flatten_iff_valid (W : WF P) (i : Nat) :
    i ∈ P.layers.flatten ↔ i < P.nodes.length := by
  rw [List.mem_flatten]
  constructor
  · rintro ⟨l, hl, hi⟩
    obtain ⟨h, hh⟩ := List.mem_iff_getElem?.1 hl
    obtain ⟨nd, h1, _⟩ := (W.mem_layer_iff hh i).1 hi
    exact lt_length_of_getElem? h1
  · intro hi
    obtain ⟨l, hl, hm⟩ := W.layer_of_node (List.getElem?_eq_getElem hi)
    exact ⟨l, List.mem_of_getElem? hl, hm⟩

theorem eq_zero_of_depth_zero (W : WF P) {i : Nat} {nd : Node α σ} (hi : P.nodes[i]? = some nd)
    (hd : nd.depth = 0) : i = 0 := by
  apply Classical.byContradiction
  intro h
  have := W.depth_pos_of_pos (Nat.pos_of_ne_zero h) hi
  omega

theorem layer_zero (W : WF P) : P.layers[0]? = some [0] := by
  obtain ⟨l, hl⟩ := W.layer_exists (Nat.zero_le _)
  rw [hl]
  congr 1
  refine eq_of_pairwise_lt_of_mem_iff l [0] (W.layer_sorted hl) (List.pairwise_singleton ..)
    (fun i => ?_)
  rw [W.mem_layer_iff hl, List.mem_singleton]
  constructor
  · rintro ⟨nd, h1, h2⟩
    exact W.eq_zero_of_depth_zero h1 h2
  · rintro rfl
    obtain ⟨r, hr, hd, _⟩ := W.root
    exact ⟨r, hr, hd⟩

theorem children_ne_nil (W : WF P) {p : Nat} {pn : Node α σ} {cs : List Nat}
    (hp : P.nodes[p]? = some pn) (hcs : pn.children = some cs) : cs ≠ [] := by
  obtain ⟨hK, a, _, rfl, _⟩ := W.children p pn cs hp hcs
  intro e
  have := congrArg List.length e
  rw [List.length_range', List.length_nil] at this
  omega

/-- All that `WF` says of a member `c` of the child list of `p`: its place `j` in the list, that
its id is larger than `p`, and its parent pointer, index and depth. -/
theorem child_facts (W : WF P) {p : Nat} {pn : Node α σ} {cs : List Nat}
    (hp : P.nodes[p]? = some pn) (hcs : pn.children = some cs) {c : Nat} (hc : c ∈ cs) :
    ∃ j cn, cs[j]? = some c ∧ j < K P ∧ cs.length = K P ∧ p < c ∧ P.nodes[c]? = some cn ∧
      cn.parent = some p ∧ cn.index = K P * (pn.index - 1) + j + 1 ∧
      cn.depth = pn.depth + 1 := by
  obtain ⟨_, a, a1, rfl, a3, a4⟩ := W.children p pn cs hp hcs
  obtain ⟨hac, hca⟩ := List.mem_range'_1.1 hc
  have hj : c - a < K P := Nat.sub_lt_left_of_lt_add hac hca
  have e : a + (c - a) = c := Nat.add_sub_cancel' hac
  obtain ⟨cn, c1, c2, c3⟩ := a4 (c - a) hj
  rw [e] at c1
  have hpc : p < c := Nat.lt_of_lt_of_le a1 hac
  obtain ⟨q, qn, cs', q1, _, q3, _, _, q6⟩ := W.parent c cn (Nat.zero_lt_of_lt hpc) c1
  obtain rfl : q = p := Option.some.inj (q1.symm.trans c2)
  obtain rfl := getElem?_inj q3 hp
  exact ⟨c - a, cn, by rw [List.getElem?_range' hj, Nat.one_mul, e], hj, List.length_range', hpc,
    c1, c2, c3, q6⟩

/-- `Clauses.once`: each cell is listed once over all the per-depth lists. -/
theorem layers_nodup (W : WF P) : P.layers.flatten.Nodup := by
  unfold List.Nodup
  rw [List.pairwise_flatten]
  constructor
  · intro l hl
    obtain ⟨h, hh⟩ := List.mem_iff_getElem?.1 hl
    exact W.layer_nodup hh
  · rw [List.pairwise_iff_getElem]
    intro i j hi hj hij x hx y hy hxy
    subst hxy
    obtain ⟨n1, a1, a2⟩ := ((W.layers_mem i _ (List.getElem?_eq_getElem hi)).2.2 x).1 hx
    obtain ⟨n2, b1, b2⟩ := ((W.layers_mem j _ (List.getElem?_eq_getElem hj)).2.2 x).1 hy
    obtain rfl := getElem?_inj a1 b1
    omega

/-- `Clauses.disjoint`: no cell's child list contains a cell created by splitting another cell. -/
theorem children_disjoint (W : WF P) {p q : Nat} {pn qn : Node α σ} {cs cs' : List Nat}
    (hp : P.nodes[p]? = some pn) (hq : P.nodes[q]? = some qn)
    (hcs : pn.children = some cs) (hcs' : qn.children = some cs') (hpq : p ≠ q) :
    ∀ c, c ∈ cs → c ∉ cs' := by
  intro c h1 h2
  obtain ⟨_, cn, _, _, _, _, g1, g2, _⟩ := W.child_facts hp hcs h1
  obtain ⟨_, cn', _, _, _, _, g1', g2', _⟩ := W.child_facts hq hcs' h2
  obtain rfl := getElem?_inj g1 g1'
  rw [g2] at g2'
  exact hpq (Option.some.inj g2')

/-- `Clauses.child_idx`: the children of the cell with index `i` carry `K(i-1)+1 .. Ki` in child-list
order, `K = cs.length` (and `K` is the documented arity). -/
theorem children_indices (W : WF P) {p : Nat} {pn : Node α σ} {cs : List Nat}
    (hp : P.nodes[p]? = some pn) (hcs : pn.children = some cs) :
    cs.length = K P ∧ 1 ≤ cs.length ∧ 1 ≤ pn.index ∧
    ∀ j c, cs[j]? = some c → ∃ cn, P.nodes[c]? = some cn ∧
      cn.index = cs.length * (pn.index - 1) + j + 1 := by
  obtain ⟨hK, a, a1, rfl, a3, a4⟩ := W.children p pn _ hp hcs
  rw [List.length_range']
  refine ⟨rfl, hK, W.index_pos p pn hp, fun j c hj => ?_⟩
  have hjK : j < K P := (List.length_range' (s := a) (step := 1) (n := K P)) ▸ lt_length_of_getElem? hj
  rw [List.getElem?_range' hjK, Nat.one_mul] at hj
  obtain ⟨cn, c1, _, c3⟩ := a4 j hjK
  cases hj
  exact ⟨cn, c1, c3⟩

theorem leaf_of_deepest (W : WF P) {i : Nat} {nd : Node α σ} (hi : P.nodes[i]? = some nd)
    (hd : nd.depth = P.depth) : nd.children = none := by
  cases hc : nd.children with
  | none => rfl
  | some cs =>
    obtain ⟨c, hm⟩ := List.exists_mem_of_ne_nil cs (W.children_ne_nil hi hc)
    obtain ⟨_, cn, _, _, _, _, g1, _, _, g4⟩ := W.child_facts hi hc hm
    have := W.depth_le c cn g1
    rw [g4, hd] at this
    exact absurd this (Nat.not_succ_le_self _)

theorem lastLayer_spec (W : WF P) : P.layers[P.depth]? = some (lastLayer P) := by
  have : P.depth < P.layers.length := by rw [W.layers_len]; omega
  simp [lastLayer, List.getElem?_eq_getElem this]

/-- W4 in closed form: layer `h` is the list of ids of depth `h` in creation order. -/
theorem layers_eq_filter (W : WF P) {h : Nat} {l : List Nat} (hl : P.layers[h]? = some l) :
    l = (List.range P.nodes.length).filter
      (fun i => (P.nodes[i]?.map (·.depth)) == some h) := by
  obtain ⟨w1, _, w3⟩ := W.layers_mem h l hl
  refine eq_of_pairwise_lt_of_mem_iff _ _ w1 (List.pairwise_lt_range.filter _) (fun i => ?_)
  rw [w3, List.mem_filter, List.mem_range]
  constructor
  · rintro ⟨nd, h1, h2⟩
    exact ⟨lt_length_of_getElem? h1, by simp [h1, h2]⟩
  · rintro ⟨h1, h2⟩
    refine ⟨_, List.getElem?_eq_getElem h1, ?_⟩
    simpa [List.getElem?_eq_getElem h1] using h2

end WF

end Tree
end PyXAB
