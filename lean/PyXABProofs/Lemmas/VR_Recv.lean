/-
  `cumProb` returns `cumVal` (the accumulated weight of the layers `1..depth`, or `pone` from
  `search_depth` on), and `receive` written as a fold of its loop body `recvStep`.
-/
import PyXABProofs.Lemmas.VR_Prob

set_option linter.unusedSectionVars false

namespace PyXAB
namespace VR
open _root_.PyXAB.Tree TBA VROOM

section cum
variable {R S : Type}

/-- the inner `for l in range(2**h)` loop -/
theorem cumFold_spec (cfg : VrCfg R S) (probs : List S) (f : S × Nat → Nat → Except Err (S × Nat))
    (hf : ∀ acc x, f acc x = match probs[acc.2]? with
      | none => Except.error Err.indexError
      | some q => .ok (cfg.padd acc.1 q, acc.2 + 1)) (l : List Nat) :
    ∀ (p : S) (idx : Nat), idx + l.length ≤ probs.length →
    l.foldlM f (p, idx) =
      .ok (((probs.drop idx).take l.length).foldl cfg.padd p, idx + l.length) := by
  induction l with
  | nil => exact fun p idx _ => rfl
  | cons x l ih =>
    intro p idx h
    rw [List.length_cons] at h
    have hidx : idx < probs.length := Nat.lt_of_lt_of_le (Nat.lt_add_of_pos_right (Nat.succ_pos _)) h
    rw [List.foldlM_cons, hf, List.getElem?_eq_getElem hidx]
    refine (ih _ (idx + 1) (by rw [Nat.add_assoc, Nat.add_comm 1]; exact h)).trans ?_
    rw [List.drop_eq_getElem_cons hidx, List.length_cons, List.take_succ_cons, List.foldl_cons,
      Nat.add_assoc, Nat.add_comm 1]

/-- the outer loop, entered for layer `j + 1` with the weights of the layers `1..j`
accumulated -/
theorem cumGo_spec (cfg : VrCfg R S) (probs : List S) (depth sd : Nat)
    (hlen : probs.length = cumIdx sd) (fuel : Nat) : ∀ j : Nat, j + 1 ≤ sd → fuel + j = depth →
    cumProb.go cfg probs depth fuel (j + 1) (cumIdx j)
      ((probs.take (cumIdx j)).foldl cfg.padd cfg.pzero) = .ok (cumVal cfg probs sd depth) := by
  induction fuel with
  | zero =>
    intro j hj hf
    rw [Nat.zero_add] at hf
    rw [cumProb.go, cumVal, if_pos (hf ▸ hj), hf]
  | succ fuel ih =>
    intro j hj hf
    have hf' : fuel + (j + 1) = depth := by rw [← hf, Nat.add_right_comm, Nat.add_assoc]
    have hle : j + 1 ≤ depth := hf' ▸ Nat.le_add_left (j + 1) fuel
    have hc : cumIdx j + 2 ^ (j + 1) = cumIdx (j + 1) := rfl
    have key := fun f hf => cumFold_spec cfg probs f hf (List.range (2 ^ (j + 1)))
      ((probs.take (cumIdx j)).foldl cfg.padd cfg.pzero) (cumIdx j)
      (by rw [List.length_range, hlen, hc]; exact cumIdx_mono hj)
    rw [cumProb.go, if_pos hle, key]
    case hf => exact fun _ _ => rfl
    rw [List.length_range, ← List.foldl_append, ← List.take_add, hc]
    -- the running index reaches `probs.length = cumIdx sd` exactly after layer `sd`: there the
    -- model answers `pone`, which is `cumVal` since `sd ≤ depth`
    by_cases hsd : j + 1 = sd
    · have : ¬ depth < sd := Nat.not_lt_of_le (hsd ▸ hle)
      simp only [hsd, hlen, ge_iff_le, Nat.le_refl, if_true, cumVal, this, if_false]
    · have hlt : ¬ cumIdx (j + 1) ≥ probs.length :=
        hlen ▸ Nat.not_le_of_lt (Nat.lt_of_lt_of_le
          (Nat.lt_add_of_pos_right (Nat.pow_pos Nat.two_pos)) (cumIdx_mono (Nat.lt_of_le_of_ne hj hsd)))
      simp only [hlt, if_false]
      exact ih (j + 1) (Nat.lt_of_le_of_ne hj hsd) hf'

end cum

section recv
variable {α R S : Type}

/-- the body of the loop of `receive` -/
def recvStep (cfg : VrCfg R S) (prob : List S) (r : R) (P : Part α (VrSt R S)) (x : Nat × Nat) :
    Except Err (Part α (VrSt R S)) :=
  match P.nodes[x.1]? with
  | none => .error .badId
  | some nd => do
    let p ← cumProb cfg prob nd.depth
    pure (P.modifySt x.1 (fun st =>
      { st with rewards := st.rewards ++ [r], tilde := st.tilde ++ [cfg.tildeOf r p x.2] }))

theorem receive_eq (cfg : VrCfg R S) (s : VROOM α R S) (r : R) :
    receive cfg s r = (do
      let P ← (s.updateList.zipIdx).foldlM (recvStep cfg s.prob r) s.P
      return { s with P := P }) := rfl

end recv

end VR
end PyXAB
