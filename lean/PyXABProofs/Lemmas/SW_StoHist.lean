/-
  StoSOO: the rewards stored in a cell are exactly the rewards of the rounds which handed out
  that cell (so `visited_times` counts the evaluations of the cell).
-/
import PyXABProofs.Lemmas.SW_StoRun

set_option linter.unusedSectionVars false

namespace PyXAB
namespace StoSOO
open Tree TBA SW

variable {α R S : Type} [Add α] [Sub α] [Mul α] [Div α] [OfNat α 2] [NatCast α]
variable [LinearOrder S] [Inhabited S] [Inhabited R]

/-- History invariant of StoSOO (`H` = (handed-out cell, reward) of the completed rounds). -/
structure HistOK (P : Part α (TBSt R S)) (H : List (Nat × R)) : Prop where
  valid : ∀ e ∈ H, e.1 < P.nodes.length
  rewards : ∀ (i : Nat) (nd : Node α (TBSt R S)), P.nodes[i]? = some nd →
    nd.st.rewards = (H.filter (fun e => decide (e.1 = i))).map (·.2)

theorem HistOK.init (cfg : StoCfg S R) (k : Kind) (domain : Box α) :
    HistOK (init cfg k domain).P ([] : List (Nat × R)) :=
  ⟨fun _ h => (nomatch h), fun _ _ hi => by rw [(Part.getElem?_init.1 hi).2]; rfl⟩

theorem HistOK.round (cfg : StoCfg S R) {s s' : StoSOO α R S} {x : Input α R} {v : Nat}
    {H : List (Nat × R)} (hI : Inv cfg s) (hds : ∀ d ∈ x.2.1, DrawOKLen s.P.kind (dimn s.P) d)
    (hH : HistOK s.P H) (hrun : round cfg s x = .ok (s', v)) :
    HistOK s'.P (H ++ [(v, x.2.2)]) := by
  obtain ⟨s1, _, _, _, _, _, hpost, hR, _, hP2⟩ := round_post cfg hI hds hrun
  have hlen : s'.P.nodes.length = s1.P.nodes.length := by
    rw [hP2]; exact (PRel_modifySt s1.P v _).len
  obtain ⟨_, _, _, _, _, _, _, _, _, vn, hvn, _⟩ := hR
  refine ⟨?_, ?_⟩
  · intro e he
    rw [hlen]
    rcases List.mem_append.1 he with he | he
    · exact Nat.lt_of_lt_of_le (hH.valid e he) hpost.ext.len
    · cases List.mem_singleton.1 he
      exact lt_length_of_getElem? hvn
  · intro i nd hi
    rw [hP2, Part.getElem?_modifySt] at hi
    cases h1 : s1.P.nodes[i]? with
    | none => rw [h1] at hi; cases hi
    | some x1 =>
      rw [h1] at hi
      simp only [Option.map_some, Option.some.injEq] at hi
      -- the rewards of cell `i` after the `pull`
      have hr1 : x1.st.rewards = (H.filter (fun e => decide (e.1 = i))).map (·.2) := by
        by_cases hlt : i < s.P.nodes.length
        · obtain ⟨x0, h0⟩ : ∃ x0, s.P.nodes[i]? = some x0 := ⟨_, List.getElem?_eq_getElem hlt⟩
          obtain ⟨y, b1, _, _, _, _, _, b7⟩ := hpost.ext.old i x0 h0
          obtain rfl := getElem?_inj b1 h1
          rw [b7.count_rewards.2]; exact hH.rewards i x0 h0
        · have := hpost.ext.new i x1 (Nat.le_of_not_lt hlt) h1
          rw [this.count_rewards.2]
          have hnil : H.filter (fun e => decide (e.1 = i)) = [] := by
            rw [List.filter_eq_nil_iff]
            intro e he
            have := hH.valid e he
            simp only [decide_eq_true_eq]; omega
          rw [hnil]; rfl
      rw [List.filter_append, List.map_append, ← hr1]
      by_cases hvi : v = i
      · subst hvi
        simp only [if_true] at hi
        subst hi
        simp [recvSt]
      · simp only [hvi, if_false] at hi
        subst hi
        simp [hvi]

/-- Over a run: the invariant (in particular no cell is ever evaluated more than `k` times) and
the history invariant. -/
theorem runRounds_hist (cfg : StoCfg S R) (inputs : List (Input α R)) (s s' : StoSOO α R S)
    (H0 H : List (Nat × R)) (hI : Inv cfg s)
    (hds : ∀ x ∈ inputs, ∀ d ∈ x.2.1, DrawOKLen s.P.kind (dimn s.P) d) (hH : HistOK s.P H0)
    (hrun : runRounds cfg s inputs = .ok (s', H)) : HistOK s'.P (H0 ++ H) ∧ Inv cfg s' := by
  obtain ⟨⟨a1, _, _, a2⟩, _⟩ := (isLoop (α := α) cfg).induct
    (I := fun t K => Inv cfg t ∧ t.P.kind = s.P.kind ∧ dimn t.P = dimn s.P ∧ HistOK t.P K)
    (OK := fun x => ∀ d ∈ x.2.1, DrawOKLen s.P.kind (dimn s.P) d)
    (fun t K x t2 v ⟨hIt, hk, hd, hK⟩ hx hr => by
      rw [← hk, ← hd] at hx
      obtain ⟨a, b, c, _⟩ := round_inv cfg hIt hx hr
      exact ⟨a, b.trans hk, c.trans hd, HistOK.round cfg hIt hx hK hr⟩)
    inputs s H0 s' H ⟨hI, rfl, rfl, hH⟩ hds hrun
  exact ⟨a2, a1⟩

end StoSOO
end PyXAB
