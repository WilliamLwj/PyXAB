/-
  Optimism of T-HOO / HCT, geometry part: the invariant `OPTH.TInv` ("every cell is a valid
  sub-box of the domain, the root cell is the domain, the children boxes of every split cell tile
  the box of the cell") is established by `Part.init`, kept by every update which keeps boxes and
  child lists, and by every `make_children` on a leaf whose draw fits (C02 `childBoxes_tiles`).
-/
import PyXABProofs.Spec.OptHSpec
import PyXABProofs.Lemmas.TT_TB

set_option linter.unusedSectionVars false
set_option linter.unusedVariables false

namespace PyXAB
namespace OPTH
open _root_.PyXAB.Tree TBA TT

section order
variable {α σ : Type} [LinearOrder α]

theorem TInv.init {k : Kind} {root : Box α} (hroot : Box.Valid root) (s0 : σ) :
    TInv k root (Part.init k root s0) := by
  refine ⟨DomInv.init hroot s0, ⟨_, rfl, rfl⟩, fun p nd cs hp hcs => ?_⟩
  obtain rfl : p = 0 := Nat.lt_one_iff.1 (lt_length_of_getElem? hp)
  cases hp
  cases hcs

/-- `TInv` only depends on the partition class and on the boxes and child lists of the cells. -/
theorem TInv.of_prel {ρ : Nat → Node α σ → Node α σ → Prop} {k : Kind} {root : Box α}
    {P P' : Part α σ} (hT : TInv k root P) (h : PRel ρ P P') : TInv k root P' := by
  refine ⟨DomInv.of_prel h hT.dom, ?_, fun p nd' cs hp hcs => ?_⟩
  · obtain ⟨r, hr, hb⟩ := hT.root_box
    obtain ⟨r', hr', hs, _⟩ := h.node 0 r hr
    exact ⟨r', hr', hs.box.trans hb⟩
  · obtain ⟨nd, a1, a2, _⟩ := h.bwd hp
    obtain ⟨b1, b2⟩ := hT.kids p nd cs a1 (a2.children ▸ hcs)
    refine ⟨fun c hc => h.len ▸ b1 c hc, ?_⟩
    rw [a2.box, List.map_congr_left (fun c hc => (Keeps.of_prel h).boxOf (b1 c hc))]
    exact b2

/-- **A point of a split cell lies in one of its children.** -/
theorem TInv.child_mem {k : Kind} {root : Box α} {P : Part α σ} (hT : TInv k root P) {p : Nat}
    {nd : Node α σ} {cs : List Nat} (hp : P.nodes[p]? = some nd) (hcs : nd.children = some cs)
    {x : List α} (hx : Box.Mem nd.box x) :
    ∃ c ∈ cs, ∃ cn, P.nodes[c]? = some cn ∧ Box.Mem cn.box x := by
  obtain ⟨h1, h2⟩ := hT.kids p nd cs hp hcs
  obtain ⟨bx, hb, hm⟩ := (h2.2.1 x).1 hx
  obtain ⟨c, hc, rfl⟩ := List.mem_map.1 hb
  have hq := List.getElem?_eq_getElem (h1 c hc)
  exact ⟨c, hc, _, hq, by rw [← boxOf_eq hq]; exact hm⟩

end order

section field
variable {α σ : Type} [Field α] [LinearOrder α] [IsStrictOrderedRing α]

theorem TInv.makeChildren {k : Kind} {root : Box α} {P P' : Part α σ} {s0 : σ} {p : Nat}
    {nd : Node α σ} {nl : Bool} {d : Draw α} (hT : TInv k root P)
    (hp : P.nodes[p]? = some nd) (hleaf : nd.children = none)
    (hd : DrawFits k root nd.box d) (h : P.makeChildren s0 p nl d = .ok P') :
    TInv k root P' := by
  obtain ⟨hD', hK⟩ := makeChildren_dom hT.dom hp hd h
  obtain ⟨ps, pv, pl⟩ := hT.dom.box p nd hp
  have htile := (C02.childBoxes_tiles P.kind nd.box d pv (hT.dom.kind ▸ hd pv ps)).1
  obtain ⟨_, hold, hatp, hnew⟩ := Part.makeChildren_getElem? hp h
  refine ⟨hD', ?_, fun q x cs hq hcs => ?_⟩
  · obtain ⟨r, hr, hb⟩ := hT.root_box
    obtain ⟨r', hr', hb'⟩ := hK 0 r hr
    exact ⟨r', hr', hb'.trans hb⟩
  by_cases hlt : q < P.nodes.length
  · by_cases e : q = p
    · -- the split cell: its children are the new cells, whose boxes are `childBoxes`
      subst e
      rw [hatp] at hq
      obtain rfl := Option.some.inj hq
      obtain rfl := Option.some.inj hcs
      have hbox : (List.range' P.nodes.length (Part.newKids P.kind q nd s0 d).length).map
          (TT.boxOf P') = childBoxes P.kind nd.box d := by
        rw [← Part.newKids_map_box P.kind q nd s0 d]
        refine List.ext_getElem (by rw [List.length_map, List.length_map, List.length_range'])
          (fun j h1 h2 => ?_)
        rw [List.length_map] at h2
        rw [List.getElem_map, List.getElem_map, List.getElem_range', Nat.one_mul]
        exact boxOf_eq ((hnew j).trans (List.getElem?_eq_getElem h2))
      refine ⟨fun c hc => ?_, by show Tiles _ nd.box; rw [hbox]; exact htile⟩
      obtain ⟨i, hi, rfl⟩ := List.mem_range'.1 hc
      rw [Nat.one_mul]
      exact lt_length_of_getElem? ((hnew i).trans (List.getElem?_eq_getElem hi))
    · rw [hold q e hlt] at hq
      obtain ⟨b1, b2⟩ := hT.kids q x cs hq hcs
      refine ⟨fun c hc => hK.valid (b1 c hc), ?_⟩
      rw [List.map_congr_left (fun c hc => hK.boxOf (b1 c hc))]
      exact b2
  · -- a new cell is a leaf
    rw [← Nat.add_sub_cancel' (Nat.le_of_not_lt hlt), hnew] at hq
    rw [(Part.of_getElem?_newKids hq).2.2.2.1] at hcs
    cases hcs

/-- `expand` (as used by the tree bandits) of a leaf keeps the invariant when the first draw
fits. -/
theorem TInv.expand {k : Kind} {root : Box α} {P P' : Part α σ} {s0 : σ} {p : Nat}
    {ds ds' : List (Draw α)} (hT : TInv k root P) (hS : SplitFits k root P p ds)
    (hleaf : ∀ nd, P.nodes[p]? = some nd → nd.children = none)
    (h : P.expand s0 p ds = .ok (P', ds')) : TInv k root P' := by
  obtain ⟨nd, d, hp, rfl, hm⟩ := Part.expand_eq_ok.1 h
  exact hT.makeChildren hp (hleaf nd hp) (hS nd hp) hm

theorem TInv.expand_if {k : Kind} {root : Box α} {P P' : Part α σ} {s0 : σ} {p : Nat} {c : Bool}
    {ds ds' : List (Draw α)} (hT : TInv k root P) (hS : SplitFits k root P p ds)
    (hleaf : c = true → ∀ nd, P.nodes[p]? = some nd → nd.children = none)
    (h : (if c = true then P.expand s0 p ds else .ok (P, ds)) = .ok (P', ds')) :
    TInv k root P' := by
  cases c with
  | true => exact hT.expand hS (hleaf rfl) h
  | false => cases h; exact hT

end field
end OPTH
end PyXAB
