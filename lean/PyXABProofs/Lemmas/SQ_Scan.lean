/-
  The two list scans of SequOOL: `scan` (argmax over the unopened cells of a layer, with the
  count of unopened cells) and `lastScan` (argmax over the handed-out cells).  Both are the fold
  `amax` over a key read off `view`; congruence and the specification are proved for `amax`.
-/
import PyXABProofs.Spec.SeqSpec

set_option linter.unusedSectionVars false

namespace PyXAB
namespace SQ

variable {α S : Type} [LinearOrder S] [Inhabited S]

/-- the part of a cell read by the scans -/
def view (P : Part α (SqSt S)) (id : Nat) : Option (Bool × Option S) :=
  (P.nodes[id]?).map (fun nd => (nd.st.opened, nd.st.rewards.head?))

theorem isUnopened_eq_view (P : Part α (SqSt S)) (id : Nat) :
    isUnopened P id = (view P id).any (fun v => !v.1) := by
  unfold isUnopened view
  cases P.nodes[id]? <;> rfl

theorem firstRew_eq_view (P : Part α (SqSt S)) (id : Nat) :
    firstRew P id = (view P id).bind (·.2) := by
  unfold firstRew view
  cases P.nodes[id]? <;> rfl

theorem isUnopened_of_view {P P' : Part α (SqSt S)} {id : Nat} (h : view P id = view P' id) :
    isUnopened P' id = isUnopened P id := by
  rw [isUnopened_eq_view, isUnopened_eq_view, h]

theorem firstRew_of_view {P P' : Part α (SqSt S)} {id : Nat} (h : view P id = view P' id) :
    firstRew P' id = firstRew P id := by
  rw [firstRew_eq_view, firstRew_eq_view, h]

theorem head?_eq_cons {l : List S} {r : S} {rest : List S} (h : l = r :: rest) :
    l.head? = some r := by subst h; rfl

theorem isUnopened_iff {P : Part α (SqSt S)} {i : Nat} :
    isUnopened P i = true ↔ ∃ nd, P.nodes[i]? = some nd ∧ nd.st.opened = false := by
  unfold isUnopened
  cases P.nodes[i]? <;> simp

/-- The fold which `scan` and `lastScan` share.  `key id` is the reward with which the cell `id`
takes part, `none` if it is passed over; the fold counts the cells taking part and keeps the last
one whose reward is maximal (`≥` the running maximum). -/
def amax (key : Nat → Except Err (Option S)) :
    List Nat → Nat → S → Option Nat → Except Err (Nat × Option Nat)
  | [], num, _, maxn => .ok (num, maxn)
  | id :: rest, num, maxv, maxn =>
    match key id with
    | .error e => .error e
    | .ok none => amax key rest num maxv maxn
    | .ok (some r) =>
      if maxv ≤ r then amax key rest (num + 1) r (some id) else amax key rest (num + 1) maxv maxn

/-- `scan` passes over missing and opened cells and fails on an unopened cell never evaluated -/
def scanKey : Option (Bool × Option S) → Except Err (Option S)
  | some (false, some r) => .ok (some r)
  | some (false, none) => .error .indexError
  | _ => .ok none

/-- `lastScan` fails on missing and on never evaluated cells -/
def lastKey : Option (Bool × Option S) → Except Err (Option S)
  | some (_, some r) => .ok (some r)
  | some (_, none) => .error .indexError
  | none => .error .badId

theorem scan_eq_amax (P : Part α (SqSt S)) : ∀ (l : List Nat) (num : Nat) (maxv : S)
    (maxn : Option Nat),
    SequOOL.scan P l num maxv maxn = amax (fun id => scanKey (view P id)) l num maxv maxn
  | [], _, _, _ => rfl
  | id :: rest, num, maxv, maxn => by
    rw [SequOOL.scan, amax, view]
    cases P.nodes[id]? with
    | none => exact scan_eq_amax P rest ..
    | some nd =>
      simp only [Option.map_some]
      cases nd.st.opened <;> cases nd.st.rewards <;>
        simp only [scanKey, Bool.not_false, Bool.not_true, if_true, Bool.false_eq_true, if_false,
          List.head?_nil, List.head?_cons, scan_eq_amax P rest]

theorem lastScan_eq_amax (P : Part α (SqSt S)) : ∀ (l : List Nat) (num : Nat) (maxv : S)
    (maxn : Option Nat),
    SequOOL.lastScan P l maxv maxn =
      (amax (fun id => lastKey (view P id)) l num maxv maxn).map (·.2)
  | [], _, _, _ => rfl
  | id :: rest, num, maxv, maxn => by
    rw [SequOOL.lastScan, amax, view]
    cases P.nodes[id]? with
    | none => rfl
    | some nd =>
      simp only [Option.map_some]
      cases nd.st.rewards with
      | nil => rfl
      | cons r _ =>
        simp only [lastKey, List.head?_cons, lastScan_eq_amax P rest (num + 1)]
        split <;> rfl

theorem amax_congr {key key' : Nat → Except Err (Option S)} : ∀ (l : List Nat) (num : Nat)
    (maxv : S) (maxn : Option Nat), (∀ id ∈ l, key' id = key id) →
    amax key' l num maxv maxn = amax key l num maxv maxn
  | [], _, _, _, _ => rfl
  | id :: rest, num, maxv, maxn, h => by
    have ih := fun num maxv maxn =>
      amax_congr rest num maxv maxn (fun x hx => h x (List.mem_cons_of_mem _ hx))
    simp only [amax, h id (List.mem_cons_self ..), ih]

theorem scan_congr {P P' : Part α (SqSt S)} (l : List Nat) (num : Nat) (maxv : S)
    (maxn : Option Nat) (h : ∀ id ∈ l, view P id = view P' id) :
    SequOOL.scan P' l num maxv maxn = SequOOL.scan P l num maxv maxn := by
  rw [scan_eq_amax, scan_eq_amax]
  exact amax_congr l num maxv maxn (fun id hid => by rw [h id hid])

theorem lastScan_congr {P P' : Part α (SqSt S)} (l : List Nat) (maxv : S) (maxn : Option Nat)
    (h : ∀ id ∈ l, view P id = view P' id) :
    SequOOL.lastScan P' l maxv maxn = SequOOL.lastScan P l maxv maxn := by
  rw [lastScan_eq_amax P' l 0, lastScan_eq_amax P l 0]
  exact congrArg _ (amax_congr l 0 maxv maxn (fun id hid => by rw [h id hid]))

/-- `res` is the last cell of `l` whose key `rt` is maximal, and `lo ≤ rt` -/
def Split (k : Nat → Option S) (l : List Nat) (res : Option Nat) (lo : S) : Prop :=
  ∃ l1 t l2 rt, l = l1 ++ t :: l2 ∧ res = some t ∧ k t = some rt ∧ lo ≤ rt ∧
    (∀ id ∈ l1, ∀ r, k id = some r → r ≤ rt) ∧ (∀ id ∈ l2, ∀ r, k id = some r → r < rt)

theorem Split.cons {k : Nat → Option S} {l : List Nat} {res : Option Nat} {lo lo' : S} {id : Nat}
    (h : Split k l res lo') (hid : ∀ r, k id = some r → r ≤ lo') (hlo : lo ≤ lo') :
    Split k (id :: l) res lo := by
  obtain ⟨l1, t, l2, rt, a1, a2, a3, a4, a5, a6⟩ := h
  exact ⟨id :: l1, t, l2, rt, by rw [a1]; rfl, a2, a3, le_trans hlo a4,
    List.forall_mem_cons.2 ⟨fun r hr => le_trans (hid r hr) a4, a5⟩, a6⟩

/-- The fold along a list on which `key` does not fail (`k` is its value): the cells taking part
are counted; the result is the accumulator `maxn` if all of them lie below `maxv`, otherwise the
last one of maximal key. -/
theorem amax_spec {key : Nat → Except Err (Option S)} {k : Nat → Option S} :
    ∀ (l : List Nat) (num : Nat) (maxv : S) (maxn : Option Nat),
    (∀ id ∈ l, key id = .ok (k id)) →
    ∃ res, amax key l num maxv maxn = .ok (num + l.countP (fun id => (k id).isSome), res) ∧
      ((res = maxn ∧ ∀ id ∈ l, ∀ r, k id = some r → r < maxv) ∨ Split k l res maxv)
  | [], num, maxv, maxn, _ => ⟨maxn, rfl, Or.inl ⟨rfl, fun _ h => nomatch h⟩⟩
  | id :: rest, num, maxv, maxn, h => by
    have ih := fun num maxv maxn =>
      amax_spec rest num maxv maxn (fun x hx => h x (List.mem_cons_of_mem _ hx))
    rw [amax, h id (List.mem_cons_self ..), List.countP_cons]
    cases hk : k id with
    | none =>
      obtain ⟨res, r1, r2⟩ := ih num maxv maxn
      refine ⟨res, r1, r2.imp (fun a => ⟨a.1, List.forall_mem_cons.2 ⟨?_, a.2⟩⟩)
        (fun a => a.cons ?_ (le_refl _))⟩ <;>
      · intro r hr; rw [hk] at hr; cases hr
    | some r =>
      have hr : ∀ r', k id = some r' → r' = r := fun r' h' => by
        rw [hk] at h'; exact (Option.some.inj h').symm
      simp only [Option.isSome_some, if_true, ← Nat.add_assoc, Nat.add_right_comm num _ 1]
      by_cases hle : maxv ≤ r
      · obtain ⟨res, r1, r2⟩ := ih (num + 1) r (some id)
        rw [if_pos hle]
        refine ⟨res, r1, Or.inr ?_⟩
        rcases r2 with ⟨a1, a2⟩ | a
        · exact ⟨[], id, rest, r, rfl, a1, hk, hle, fun _ h => absurd h List.not_mem_nil, a2⟩
        · exact a.cons (fun r' h' => le_of_eq (hr r' h')) hle
      · obtain ⟨res, r1, r2⟩ := ih (num + 1) maxv maxn
        have hlt : r < maxv := not_le.1 hle
        rw [if_neg hle]
        refine ⟨res, r1, r2.imp (fun a => ⟨a.1, List.forall_mem_cons.2 ⟨?_, a.2⟩⟩)
          (fun a => a.cons ?_ (le_refl _))⟩
        · intro r' h'; rw [hr r' h']; exact hlt
        · intro r' h'; rw [hr r' h']; exact le_of_lt hlt

theorem scanKey_view {P : Part α (SqSt S)} {id : Nat}
    (h : isUnopened P id = true → ∃ r, firstRew P id = some r) :
    scanKey (view P id) = .ok (if isUnopened P id = true then firstRew P id else none) := by
  rw [isUnopened_eq_view, firstRew_eq_view] at h ⊢
  match hv : view P id with
  | none | some (true, _) | some (false, some _) => rfl
  | some (false, none) =>
    rw [hv] at h
    obtain ⟨_, h⟩ := h rfl
    cases h

/-- The scan of a layer all of whose unopened cells have been evaluated does not fail and counts
the unopened cells; a cell it returns is the last unopened cell with maximal first reward, and
it returns one if `negInf` is a bottom element and the layer has an unopened cell. -/
theorem scan_layer (P : Part α (SqSt S)) (negInf : S) (l : List Nat)
    (hrew : ∀ id ∈ l, isUnopened P id = true → ∃ r, firstRew P id = some r) :
    ∃ res, SequOOL.scan P l 0 negInf none = .ok (l.countP (isUnopened P), res) ∧
      (∀ t, res = some t → IsArgmaxLast P l t) ∧
      ((∀ x : S, negInf ≤ x) → (∃ id ∈ l, isUnopened P id = true) → res ≠ none) := by
  obtain ⟨res, r1, r2⟩ := amax_spec l 0 negInf none (fun id hid => scanKey_view (hrew id hid))
  have hc : l.countP (fun id => (if isUnopened P id = true then firstRew P id else none).isSome) =
      l.countP (isUnopened P) := by
    apply List.countP_congr
    intro id hid
    cases hu : isUnopened P id with
    | false => simp
    | true =>
      obtain ⟨r, hr⟩ := hrew id hid hu
      simp [hr]
  rw [← scan_eq_amax, hc, Nat.zero_add] at r1
  simp only [Split, Option.ite_none_right_eq_some, and_imp] at r2
  refine ⟨res, r1, fun t ht => ?_, fun hbot ⟨id, h1, h2⟩ hn => ?_⟩
  · subst ht
    rcases r2 with ⟨a1, _⟩ | ⟨l1, t', l2, rt, a1, a2, ⟨a3, a4⟩, _, a5, a6⟩
    · cases a1
    · cases a2
      exact ⟨l1, l2, rt, a1, a3, a4, fun id hid hu r => a5 id hid r hu,
        fun id hid hu r => a6 id hid r hu⟩
  · rcases r2 with ⟨_, a2⟩ | ⟨_, _, _, _, _, a, _⟩
    · obtain ⟨r, hr⟩ := hrew id h1 h2
      exact absurd (a2 id h1 r h2 hr) (not_lt.2 (hbot r))
    · rw [hn] at a; cases a

theorem IsArgmaxLast.mem {P : Part α (SqSt S)} {l : List Nat} {t : Nat}
    (h : IsArgmaxLast P l t) : t ∈ l := by
  obtain ⟨l1, l2, _, rfl, _⟩ := h
  simp

theorem IsArgmaxLast.unopened {P : Part α (SqSt S)} {l : List Nat} {t : Nat}
    (h : IsArgmaxLast P l t) : isUnopened P t = true := by
  obtain ⟨_, _, _, _, h, _⟩ := h
  exact h

theorem IsArgmaxLast.max {P : Part α (SqSt S)} {l : List Nat} {t : Nat}
    (h : IsArgmaxLast P l t) :
    ∃ rt, firstRew P t = some rt ∧
      ∀ id ∈ l, isUnopened P id = true → ∀ r, firstRew P id = some r → r ≤ rt := by
  obtain ⟨l1, l2, rt, rfl, h1, h2, h3, h4⟩ := h
  refine ⟨rt, h2, fun id hid hu r hr => ?_⟩
  rcases List.mem_append.1 hid with h | h
  · exact h3 id h hu r hr
  · rcases List.mem_cons.1 h with rfl | h
    · rw [h2] at hr; cases hr; exact le_refl _
    · exact le_of_lt (h4 id h hu r hr)

theorem lastKey_view {P : Part α (SqSt S)} {id : Nat} (h : ∃ r, firstRew P id = some r) :
    lastKey (view P id) = .ok (firstRew P id) := by
  rw [firstRew_eq_view] at h ⊢
  match hv : view P id with
  | some (_, some _) => rfl
  | none | some (_, none) =>
    rw [hv] at h
    obtain ⟨_, h⟩ := h
    cases h

/-- `lastScan` (the loop of `lastPoint`), started with `negInf` a bottom element on a non-empty
list of cells which all have a first reward, returns the last cell with maximal first reward. -/
theorem lastScan_top (P : Part α (SqSt S)) (negInf : S) (hbot : ∀ x : S, negInf ≤ x)
    (l : List Nat) (hrew : ∀ id ∈ l, ∃ r, firstRew P id = some r) (hne : l ≠ []) :
    ∃ v, SequOOL.lastScan P l negInf none = .ok (some v) ∧ IsMaxLast P l v := by
  obtain ⟨res, r1, r2⟩ := amax_spec l 0 negInf none (fun id hid => lastKey_view (hrew id hid))
  rw [lastScan_eq_amax P l 0, r1]
  rcases r2 with ⟨_, a2⟩ | ⟨l1, t, l2, rt, a1, a2, a3, _, a5, a6⟩
  · obtain ⟨id, hid⟩ := List.exists_mem_of_ne_nil l hne
    obtain ⟨r, hr⟩ := hrew id hid
    exact absurd (a2 id hid r hr) (not_lt.2 (hbot r))
  · subst a2
    exact ⟨t, rfl, l1, l2, rt, a1, a3, a5, a6⟩

theorem IsMaxLast.max {P : Part α (SqSt S)} {l : List Nat} {v : Nat} (h : IsMaxLast P l v) :
    v ∈ l ∧ ∃ rv, firstRew P v = some rv ∧ ∀ id ∈ l, ∀ r, firstRew P id = some r → r ≤ rv := by
  obtain ⟨l1, l2, rv, rfl, h2, h3, h4⟩ := h
  refine ⟨by simp, rv, h2, fun id hid r hr => ?_⟩
  rcases List.mem_append.1 hid with h | h
  · exact h3 id h r hr
  · rcases List.mem_cons.1 h with rfl | h
    · rw [h2] at hr; cases hr; exact le_refl _
    · exact le_of_lt (h4 id h r hr)

end SQ
end PyXAB
