/-
  C01 for SequOOL: `pull` splits at most one cell (the cell being opened, when it is still a
  leaf), `receive` only appends a reward; the documented loop hands out valid cells only.
-/
import PyXABProofs.Lemmas.TT_Box
import PyXABProofs.Props.C12

set_option linter.unusedSectionVars false
set_option linter.unusedVariables false

namespace PyXAB
namespace TT
namespace SQ
open _root_.PyXAB.Tree TBA PyXAB.SQ
variable {α S : Type} [Field α] [LinearOrder α] [IsStrictOrderedRing α]
variable [LinearOrder S] [Inhabited S]

theorem target_targetOf (negInf : S) (s : SequOOL α S) :
    ∀ tgt num, PyXAB.SQ.target negInf s = .ok (tgt, num) → SQ.targetOf negInf s = some tgt := by
  fun_cases PyXAB.SQ.target negInf s <;> intro tgt num h
  · rename_i h0 _ _ hl
    cases h
    rw [SQ.targetOf, if_pos h0, hl]
  · cases h
  · cases h
  · rename_i h0 layer hl
    obtain ⟨⟨n, mo⟩, hsc, h⟩ := ListAux.bind_eq_ok.1 h
    cases mo with
    | none => cases h
    | some m =>
      cases h
      rw [SQ.targetOf, if_neg h0, hl]
      simp only [hsc]

/-- The second stage splits the selected cell if it is still a leaf; the first draw has to fit
its box in that case only. -/
theorem openCell_dom {k : Kind} {root : Box α} {P P1 : Part α (SqSt S)} {cd tgt : Nat}
    {ds ds1 : List (Draw α)} {cs : List Nat} (hD : DomInv k root P)
    (hS : ∀ nd, P.nodes[tgt]? = some nd → nd.children = none → HeadFits k root nd.box ds)
    (h : openCell P cd tgt ds = .ok (P1, ds1, cs)) : DomInv k root P1 ∧ Keeps P P1 := by
  unfold openCell at h
  cases hn : P.nodes[tgt]? with
  | none => rw [hn] at h; cases h
  | some nd =>
    rw [hn] at h
    obtain ⟨⟨P2, ds2⟩, hm, h⟩ := ListAux.bind_eq_ok.1 h
    dsimp only at h
    split at h
    · cases h
    · split at h
      · cases h
      · cases h
        cases hch : nd.children with
        | none =>
          rw [hch] at hm
          obtain ⟨d, rfl, hmk⟩ := Part.makeChildrenD_eq_ok.1 hm
          exact makeChildren_dom hD hn (hS nd hn hch) hmk
        | some _ =>
          rw [hch] at hm
          cases hm
          exact ⟨hD, Keeps.refl _⟩

/-- The last stage only sets the flag `opened` of the cell. -/
theorem handOut_geo (s : SequOOL α S) (tgt num : Nat) (cs : List Nat) (ds : List (Draw α)) :
    ∀ s1 ds1 v, handOut s tgt num cs ds = .ok (s1, ds1, v) → Geo s.P s1.P := by
  fun_cases handOut s tgt num cs ds <;> intro s1 ds1 v h <;> cases h
  · exact Geo.refl _
  · exact Geo.modifySt s.P tgt (fun st => { st with opened := true })
  · exact Geo.modifySt s.P tgt (fun st => { st with opened := true })
  · exact Geo.refl _

/-- `pull` keeps the invariant, provided that — IF the cell being opened is still a leaf — the
first draw fits its box. -/
theorem pull_dom (negInf : S) {k : Kind} {root : Box α} {s s1 : SequOOL α S} {t : Nat}
    {ds ds1 : List (Draw α)} {v : Nat} (hD : DomInv k root s.P)
    (hS : ∀ tgt nd, SQ.targetOf negInf s = some tgt → s.P.nodes[tgt]? = some nd →
      nd.children = none → HeadFits k root nd.box ds)
    (h : SequOOL.pull negInf s t ds = .ok (s1, ds1, v)) : DomInv k root s1.P ∧ Keeps s.P s1.P := by
  rw [pull_eq] at h
  by_cases hc : s.currDepth ≤ s.hmax
  · rw [if_pos hc] at h
    obtain ⟨⟨tgt, num⟩, ht, h⟩ := ListAux.bind_eq_ok.1 h
    obtain ⟨⟨P1, ds2, cs⟩, ho, h⟩ := ListAux.bind_eq_ok.1 h
    obtain ⟨hD1, hK1⟩ := openCell_dom hD
      (fun nd hn hl => hS tgt nd (target_targetOf negInf s tgt num ht) hn hl) ho
    have g : Geo P1 s1.P := handOut_geo _ _ _ _ _ _ _ _ h
    exact ⟨DomInv.of_prel g hD1, hK1.trans (Keeps.of_prel g)⟩
  · rw [if_neg hc] at h
    split at h
    · cases h
      exact ⟨hD, Keeps.refl _⟩
    · cases h

theorem round_ok {negInf : S} {s s2 : SequOOL α S} {t v : Nat} {r : S} {ds : List (Draw α)}
    (h : round negInf s t r ds = .ok (s2, v)) :
    ∃ s1 ds1, SequOOL.pull negInf s t ds = .ok (s1, ds1, v) ∧ SequOOL.receive s1 r = .ok s2 := by
  unfold round at h
  split at h
  · cases h
  · rename_i s1 ds1 v1 hp
    split at h
    · cases h
    · rename_i hr
      cases h
      exact ⟨s1, ds1, hp, hr⟩

theorem runRounds_dom {negInf : S} (hbot : ∀ x : S, negInf ≤ x) {k : Kind} {root : Box α}
    (inputs : List (S × List (Draw α))) (s : SequOOL α S) (t : Nat) (hI : Inv negInf s)
    (hD : DomInv k root s.P) (hin : SQ.InputsOK k root.length inputs)
    (hG : GoodDraws negInf k root s t inputs) :
    ∃ s' H, runRounds negInf s t inputs = .ok (s', H) ∧ (Inv negInf s' ∧ DomInv k root s'.P) ∧
      Keeps s.P s'.P ∧ H.map (·.2) = inputs.map (·.1) ∧ ∀ e ∈ H, PointOK root s'.P e.1 := by
  refine loop_dom (·.P) (fun t s => runRounds negInf s t) (·.1)
    (fun s => Inv negInf s ∧ DomInv k root s.P)
    (fun t s xs => SQ.InputsOK k root.length xs ∧ GoodDraws negInf k root s t xs)
    (fun _ _ => rfl) ?_ inputs t s ⟨hI, hD⟩ ⟨hin, hG⟩
  · rintro t s ⟨r, ds⟩ rest ⟨hI, hD⟩ ⟨hin, hS, hG'⟩
    have hds : HeadOK s.P.kind (dimn s.P) ds := by
      rw [hD.kind, dimn_of_boxInv hI.wf hD.box]; exact hin (r, ds) (List.mem_cons_self ..)
    obtain ⟨s2, v, hround, hI2, _, _, _, hex, hsr⟩ := round_inv hbot hI t r hds
    obtain ⟨s1, ds1, hp, hr⟩ := round_ok hround
    obtain ⟨hD1, hK1⟩ := pull_dom negInf hD hS hp
    have g12 : Geo s1.P s2.P := by
      unfold SequOOL.receive at hr
      split at hr
      · cases hr
      · cases hr
        dsimp only
        exact Geo.modifySt s1.P _ _
    have hD2 := DomInv.of_prel g12 hD1
    have hv : v < s2.P.nodes.length := by
      by_cases he : Exhausted s
      · rw [(hex he).1]; exact hI2.wf.length_pos
      · obtain ⟨e1, e2, _⟩ := hsr he
        have hlen := hI2.len
        have : s2.chosen.length = v := by rw [e2, List.length_append, e1]; simp
        omega
    refine ⟨s2, v, ⟨hI2, hD2⟩,
      ⟨fun y hy => hin y (List.mem_cons_of_mem _ hy), hG' s1 ds1 v s2 hp hr⟩,
      hK1.trans (Keeps.of_prel g12), hD2.pointOK hv,
      fun s' H hrun => ?_⟩
    simp only [runRounds, hround, hrun]

theorem goodDraws_of_det (negInf : S) {k : Kind} (hk : Kind.Deterministic k) {root : Box α} :
    ∀ (inputs : List (S × List (Draw α))) (s : SequOOL α S) (t : Nat),
      SQ.InputsOK k root.length inputs → GoodDraws negInf k root s t inputs
  | [], _, _, _ => trivial
  | (r, ds) :: rest, s, t, hin => by
    refine ⟨fun tgt nd _ _ _ => ?_, fun s1 ds1 v s2 _ _ =>
      goodDraws_of_det negInf hk rest s2 (t + 1) (fun y hy => hin y (List.mem_cons_of_mem _ hy))⟩
    have h := hin (r, ds) (List.mem_cons_self ..)
    cases ds with
    | nil => trivial
    | cons d ds' => exact drawFits_of_det hk h

theorem lastScan_valid (P : Part α (SqSt S)) (l : List Nat) (maxv : S) (maxn : Option Nat) :
    ∀ r, SequOOL.lastScan P l maxv maxn = .ok r → (∀ w, maxn = some w → w < P.nodes.length) →
      ∀ w, r = some w → w < P.nodes.length := by
  fun_induction SequOOL.lastScan P l maxv maxn <;> intro r h hm w hw
  · cases h
    exact hm w hw
  · cases h
  · cases h
  · rename_i ih
    exact ih r h (fun w' hw' => by cases hw'; exact lt_length_of_getElem? ‹_›) w hw
  · rename_i ih
    exact ih r h hm w hw

theorem lastPoint_valid (negInf : S) {s : SequOOL α S} {v : Nat}
    (h : SequOOL.lastPoint negInf s = .ok v) : v < s.P.nodes.length := by
  unfold SequOOL.lastPoint at h
  obtain ⟨r, hs, h⟩ := ListAux.bind_eq_ok.1 h
  split at h
  · simp only [Except.ok.injEq] at h
    subst h
    exact lastScan_valid s.P _ _ _ _ hs (fun w hw => by cases hw) _ rfl
  · cases h

end SQ
end TT
end PyXAB
