/-
  StroquOOL: elementary facts — `compMean`, payload updates of a list of cells, the selection
  loop `pickLast`, and the closed forms of the folds of `lastPoint` and `buildCandidates`.
-/
import PyXABProofs.Spec.SkSpec
import PyXABProofs.Lemmas.TBA_Rel

set_option linter.unusedSectionVars false

namespace PyXAB
namespace SK
open Tree TBA StroquOOL

variable {α R S σ : Type}

theorem pure_ok {ε β : Type} {a y : β} : (pure a : Except ε β) = .ok y ↔ a = y :=
  ⟨fun h => by cases h; rfl, fun h => by rw [h]; rfl⟩

theorem part_ext {P Q : Part α σ} (hk : P.kind = Q.kind) (hl : P.layers = Q.layers)
    (hd : P.depth = Q.depth) (hn : ∀ j : Nat, P.nodes[j]? = Q.nodes[j]?) : P = Q := by
  cases P; cases Q
  simp only [Part.mk.injEq]
  exact ⟨hk, List.ext_getElem? hn, hl, hd⟩

/-- apply `g` to the payload of exactly the cells listed (as `some id`) in `cands`: the common
shape of `refreshP` and `clearP` -/
def onCands (g : σ → σ) (P : Part α σ) (cands : List (Option Nat)) : Part α σ :=
  { P with nodes := P.nodes.mapIdx (fun j nd =>
      if some j ∈ cands then { nd with st := g nd.st } else nd) }

theorem getElem?_onCands (g : σ → σ) (P : Part α σ) (cands : List (Option Nat)) (j : Nat) :
    (onCands g P cands).nodes[j]? =
      (P.nodes[j]?).map (fun nd => if some j ∈ cands then { nd with st := g nd.st } else nd) := by
  simp only [onCands, List.getElem?_mapIdx]

theorem prel_onCands (g : σ → σ) (P : Part α σ) (cands : List (Option Nat)) :
    PRel (fun j nd nd' => nd'.st = if some j ∈ cands then g nd.st else nd.st) P
      (onCands g P cands) where
  kind := rfl
  layers := rfl
  depth := rfl
  len := List.length_mapIdx
  node := by
    intro j nd hj
    refine ⟨_, by rw [getElem?_onCands, hj]; rfl, ?_, ?_⟩
    · split <;> exact ⟨rfl, rfl, rfl, rfl, rfl⟩
    · split <;> rfl

theorem onCands_nil (g : σ → σ) (P : Part α σ) : onCands g P [] = P := by
  refine part_ext rfl rfl rfl fun j => ?_
  rw [getElem?_onCands]
  cases P.nodes[j]? <;> simp

/-- one step of a loop that applies an idempotent `g` cell by cell -/
theorem onCands_cons {g : σ → σ} (hg : ∀ st, g (g st) = g st) (P : Part α σ) (id : Nat)
    (rest : List (Option Nat)) :
    onCands g (P.modifySt id g) rest = onCands g P (some id :: rest) := by
  refine part_ext rfl rfl rfl fun j => ?_
  rw [getElem?_onCands, getElem?_onCands, Part.getElem?_modifySt]
  cases P.nodes[j]? with
  | none => rfl
  | some x =>
    by_cases hij : id = j
    · subst hij
      by_cases h : some id ∈ rest <;> simp [h, hg]
    · have : ¬ j = id := fun e => hij e.symm
      by_cases h : some j ∈ rest <;> simp [h, hij, this]

theorem onCands_idem {g : σ → σ} (hg : ∀ st, g (g st) = g st) (P : Part α σ)
    (cands : List (Option Nat)) : onCands g (onCands g P cands) cands = onCands g P cands := by
  refine part_ext rfl rfl rfl fun j => ?_
  rw [getElem?_onCands, getElem?_onCands]
  cases P.nodes[j]? with
  | none => rfl
  | some nd => by_cases h : some j ∈ cands <;> simp [h, hg]

theorem compMean_eq (cfg : SkCfg R S) (st : SkSt R S) : compMean cfg st =
    { st with mean := if st.visited > 0 then cfg.meanOf st.rewards else st.mean } := by
  unfold compMean; split <;> rfl

theorem compMean_visited (cfg : SkCfg R S) (st : SkSt R S) :
    (compMean cfg st).visited = st.visited := by
  rw [compMean_eq]

theorem compMean_rewards (cfg : SkCfg R S) (st : SkSt R S) :
    (compMean cfg st).rewards = st.rewards := by
  rw [compMean_eq]

theorem compMean_idem (cfg : SkCfg R S) (st : SkSt R S) :
    compMean cfg (compMean cfg st) = compMean cfg st := by
  unfold compMean
  by_cases h : st.visited > 0 <;> simp [h]

section model
variable [LE S] [DecidableLE S]

theorem compMean_opened (cfg : SkCfg R S) (st : SkSt R S) :
    (compMean cfg st).opened = st.opened := by
  rw [compMean_eq]

theorem compMean_mean (cfg : SkCfg R S) (st : SkSt R S) :
    (compMean cfg st).mean = if st.visited > 0 then cfg.meanOf st.rewards else st.mean := by
  rw [compMean_eq]

end model

theorem refreshP_eq (cfg : SkCfg R S) (P : Part α (SkSt R S)) (cands : List (Option Nat)) :
    refreshP cfg P cands = onCands (compMean cfg) P cands := rfl

theorem clearP_eq (P : Part α (SkSt R S)) (cands : List (Option Nat)) :
    clearP P cands = onCands (fun st => { st with rewards := [] }) P cands := rfl

theorem getElem?_refreshP (cfg : SkCfg R S) (P : Part α (SkSt R S)) (cands : List (Option Nat))
    (j : Nat) : (refreshP cfg P cands).nodes[j]? =
      (P.nodes[j]?).map (fun nd =>
        if some j ∈ cands then { nd with st := compMean cfg nd.st } else nd) :=
  getElem?_onCands (compMean cfg) P cands j

theorem getElem?_clearP (P : Part α (SkSt R S)) (cands : List (Option Nat)) (j : Nat) :
    (clearP P cands).nodes[j]? =
      (P.nodes[j]?).map (fun nd =>
        if some j ∈ cands then { nd with st := { nd.st with rewards := [] } } else nd) :=
  getElem?_onCands (fun st : SkSt R S => { st with rewards := [] }) P cands j

theorem cmean_refreshP (cfg : SkCfg R S) (P : Part α (SkSt R S)) (cands : List (Option Nat)) :
    cmean cfg (refreshP cfg P cands) = cmean cfg P := by
  funext c
  unfold cmean
  rw [refreshP_eq, getElem?_onCands]
  cases P.nodes[c]? with
  | none => rfl
  | some nd => by_cases h : some c ∈ cands <;> simp [h, compMean_idem]

theorem meanAt_refreshP (cfg : SkCfg R S) (P : Part α (SkSt R S)) (cands : List (Option Nat))
    {c : Nat} (hc : some c ∈ cands) :
    meanAt cfg.negInf (refreshP cfg P cands) c = cmean cfg P c := by
  unfold meanAt cmean
  rw [refreshP_eq, getElem?_onCands]
  cases P.nodes[c]? with
  | none => rfl
  | some nd => simp [hc]

theorem rs_fold (cands : List (Option Nat)) (P : Part α (SkSt R S)) :
    cands.foldlM rsStep P = if none ∈ cands then .error .noneDeref else .ok (clearP P cands) := by
  induction cands generalizing P with
  | nil => rw [clearP_eq, onCands_nil]; rfl
  | cons c rest ih =>
    cases c with
    | none => rw [if_pos (List.mem_cons_self ..)]; rfl
    | some id =>
      rw [List.foldlM_cons]
      show rest.foldlM rsStep (P.modifySt id _) = _
      rw [ih, clearP_eq, clearP_eq,
        onCands_cons (g := fun st : SkSt R S => { st with rewards := [] }) (fun _ => rfl)]
      simp only [List.mem_cons, reduceCtorEq, false_or]

section model
variable [LE S] [DecidableLE S]

theorem pickLast_some (f : Nat → S) (c : Nat) (l : List (Option Nat)) (acc : S × Option Nat) :
    pickLast f (some c :: l) acc = pickLast f l (if acc.1 ≤ f c then (f c, some c) else acc) := by
  simp only [pickLast]; split <;> rfl

theorem pickLast_congr {f g : Nat → S} (cands : List (Option Nat)) (acc : S × Option Nat)
    (h : ∀ c, some c ∈ cands → f c = g c) : pickLast f cands acc = pickLast g cands acc := by
  induction cands generalizing acc with
  | nil => rfl
  | cons c l ih =>
    have ih := fun acc => ih acc fun c hc => h c (List.mem_cons_of_mem _ hc)
    cases c with
    | none => exact ih acc
    | some c => rw [pickLast_some, pickLast_some, h c (List.mem_cons_self ..), ih]

theorem pickLast_mem (f : Nat → S) (cands : List (Option Nat)) (acc : S × Option Nat) (v : Nat)
    (h : (pickLast f cands acc).2 = some v) : acc.2 = some v ∨ some v ∈ cands := by
  induction cands generalizing acc with
  | nil => exact Or.inl h
  | cons c l ih =>
    cases c with
    | none => exact (ih acc h).imp_right (List.mem_cons_of_mem _)
    | some c =>
      rw [pickLast_some] at h
      rcases ih _ h with h | h
      · split at h
        · exact Or.inr (h ▸ List.mem_cons_self ..)
        · exact Or.inl h
      · exact Or.inr (List.mem_cons_of_mem _ h)

theorem lpStep_some (cfg : SkCfg R S) {P : Part α (SkSt R S)} {id : Nat}
    {nd : Node α (SkSt R S)} (hnd : P.nodes[id]? = some nd) (acc : S × Option Nat) :
    lpStep cfg (P, acc) (some id) =
      .ok (P.modifySt id (compMean cfg),
        if acc.1 ≤ cmean cfg P id then (cmean cfg P id, some id) else acc) := by
  have hc : cmean cfg P id = (compMean cfg nd.st).mean := by simp only [cmean, hnd]
  rw [hc, ← Part.modifySt_const hnd]
  simp only [lpStep, hnd]
  split <;> rfl

theorem lp_fold (cfg : SkCfg R S) (cands : List (Option Nat)) (P : Part α (SkSt R S))
    (acc : S × Option Nat) (r : Part α (SkSt R S) × S × Option Nat) :
    cands.foldlM (lpStep cfg) (P, acc) = .ok r ↔
      (∀ c ∈ cands, ∃ id, c = some id ∧ id < P.nodes.length) ∧
        r = (refreshP cfg P cands, pickLast (cmean cfg P) cands acc) := by
  induction cands generalizing P acc with
  | nil =>
    rw [refreshP_eq, onCands_nil]
    exact ⟨fun h => ⟨fun _ hc => (nomatch hc), (Except.ok.inj h).symm⟩, fun h => h.2 ▸ rfl⟩
  | cons c rest ih =>
    rw [List.foldlM_cons, List.forall_mem_cons]
    cases c with
    | none => exact ⟨fun h => (nomatch h), fun h => (nomatch h.1.1)⟩
    | some id =>
      cases hnd : P.nodes[id]? with
      | none =>
        have e : lpStep cfg (P, acc) (some id) = .error .badId := by simp only [lpStep, hnd]
        rw [e]
        refine ⟨fun h => (nomatch h), fun h => ?_⟩
        obtain ⟨_, e, hlt⟩ := h.1.1
        cases e
        rw [List.getElem?_eq_getElem hlt] at hnd; cases hnd
      | some nd =>
        -- refreshing `id` first does not change the means the rest of the loop computes
        have hcm : cmean cfg (P.modifySt id (compMean cfg)) = cmean cfg P := by
          rw [← onCands_nil (compMean cfg) (P.modifySt id _), onCands_cons (compMean_idem cfg)]
          exact cmean_refreshP cfg P [some id]
        rw [lpStep_some cfg hnd]
        show rest.foldlM (lpStep cfg) _ = _ ↔ _
        rw [ih, Part.length_modifySt, hcm, refreshP_eq, refreshP_eq,
          onCands_cons (compMean_idem cfg), pickLast_some]
        have : ∃ id', some id = some id' ∧ id' < P.nodes.length :=
          ⟨id, rfl, lt_length_of_getElem? hnd⟩
        simp only [this, true_and]

theorem lp_fold_none (cfg : SkCfg R S) (cands : List (Option Nat)) (P : Part α (SkSt R S))
    (acc : S × Option Nat) (hv : ∀ c, some c ∈ cands → c < P.nodes.length) (h : none ∈ cands) :
    cands.foldlM (lpStep cfg) (P, acc) = .error .noneDeref := by
  induction cands generalizing P acc with
  | nil => nomatch h
  | cons c rest ih =>
    cases c with
    | none => rfl
    | some id =>
      rw [List.foldlM_cons,
        lpStep_some cfg (List.getElem?_eq_getElem (hv id (List.mem_cons_self ..)))]
      exact ih _ _ (fun c hc => by rw [Part.length_modifySt]; exact hv c (List.mem_cons_of_mem _ hc))
        ((List.mem_cons.1 h).resolve_left nofun)

end model

end SK
end PyXAB
