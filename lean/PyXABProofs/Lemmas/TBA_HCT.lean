/-
  HCT / VHCT: `init`, `pull`, `receive` never raise from invariant states, keep the invariant,
  `pull` only rewrites thresholds, and `receive` has the extensional effect `RecvEffect`.
-/
import PyXABProofs.Lemmas.TBA_HOO

namespace PyXAB
namespace TBA.HCT
open Tree TBA PyXAB.HCT
variable {α R S : Type}

theorem good_st0 (cfg : HCTCfg R S) : Good cfg.meanOf (st0 cfg) :=
  ⟨rfl, fun h => absurd rfl h⟩

theorem goodVar_st0 (cfg : HCTCfg R S) : GoodVar cfg.varOf (st0 cfg) :=
  fun h => absurd rfl h

theorem computeU_soft (cfg : HCTCfg R S) (dt : S) (nd : Node α (TBSt R S)) :
    Soft cfg.meanOf nd.st (computeU cfg dt nd) := by
  unfold computeU
  split
  · exact ⟨rfl, rfl, rfl, rfl, Or.inl rfl⟩
  · next h => exact ⟨rfl, rfl, rfl, rfl, Or.inr ⟨h, rfl⟩⟩

theorem TauOnly.good {mo : List R → Nat → S} {a b : TBSt R S} (h : TauOnly a b) (g : Good mo a) :
    Good mo b := by
  obtain ⟨a1, a2, a3, _, _, _⟩ := h
  unfold Good
  rw [a1, a2, a3]; exact g

theorem TauOnly.goodVar {vo : List R → S} {a b : TBSt R S} (h : TauOnly a b)
    (g : GoodVar vo a) : GoodVar vo b := by
  obtain ⟨a1, a2, _, _, _, a6⟩ := h
  unfold GoodVar
  rw [a1, a2, a6]; exact g

theorem refreshTau_rel (cfg : HCTCfg R S) (dt : S) (P : Part α (TBSt R S))
    (hl : P.layers.length = P.depth + 1) :
    ∃ P', refreshTau cfg dt P = .ok P' ∧ PRel TauR P P' := by
  unfold refreshTau
  refine ListAux.foldlM_inv (fun Q => PRel TauR P Q) _ _ P (PRel.refl' closed_TauR P) ?_
  intro Q h hh hQ
  rw [List.mem_range'_1] at hh
  have hlt : h < Q.layers.length := by rw [hQ.layers, hl]; omega
  simp only [List.getElem?_eq_getElem hlt]
  refine ⟨_, rfl, PRel.comp closed_TauR hQ ?_⟩
  refine PRel_foldl closed_TauR _ (fun Q' id => ?_) _ Q
  cases hq : Q'.nodes[id]? with
  | none => exact PRel.refl' closed_TauR Q'
  | some nd =>
    simp only
    refine PRel_modifySt_closed closed_TauR Q' id _ (fun a a' _ _ hst => ?_)
    show TauOnly a.st a'.st
    rw [hst]
    exact ⟨rfl, rfl, rfl, rfl, rfl, rfl⟩

theorem Inv.of_tau {cfg : HCTCfg R S} {s s1 : HCT α R S} (hI : Inv cfg s)
    (h : PRel TauR s.P s1.P) : Inv cfg s1 := by
  refine ⟨⟨h.wf hI.pinv.wf, fun i nd' hi => ?_⟩, fun hv i nd' hi => ?_⟩
  · obtain ⟨nd, n1, _, n3⟩ := h.bwd hi
    exact TauOnly.good n3 (hI.pinv.good i nd n1)
  · obtain ⟨nd, n1, _, n3⟩ := h.bwd hi
    exact TauOnly.goodVar n3 (hI.var hv i nd n1)

theorem creditOne_rel (cfg : HCTCfg R S) (dt : S) (P : Part α (TBSt R S)) (last : Nat) (r : R) :
    PRel (CreditR cfg.meanOf (voOf cfg) r (· = last)) P (creditOne cfg dt P last r) := by
  refine ((PRel_modifySt P last (credit cfg r)).trans'
    (PRel_modifyNode_closed (closed_SoftR cfg.meanOf) _ last (computeU cfg dt)
      (fun a a' _ _ hst => show Soft _ _ _ from hst ▸ computeU_soft cfg dt a)) ?_)
  intro i a b c _ _ h1 h2
  refine CreditR.soft_right ⟨fun (hi : i = last) => ?_, fun (hi : ¬ i = last) => ?_⟩ h2
  · rw [h1, if_pos hi]
    unfold voOf credit
    cases cfg.variance <;> exact ⟨rfl, rfl, rfl, rfl, rfl⟩
  · rw [h1, if_neg hi]; exact Soft.rfl' _ _

variable [Max S] [Min S] [Inhabited S] [Inhabited R]

/-- The optional refresh at the start of `receive` (every time `t = t⁺`). -/
theorem refreshPass_rel (cfg : HCTCfg R S) (it : Nat) (P : Part α (TBSt R S))
    (hl : P.layers.length = P.depth + 1) :
    ∃ P1, refreshPass cfg it P = .ok P1 ∧ PRel (SoftR cfg.meanOf) P P1 := by
  unfold refreshPass
  by_cases hc : it = tPlus it
  · have h1 : PRel (SoftR cfg.meanOf) P (forListed P (computeU cfg (cfg.dtOne (tPlus it)))) :=
      forListed_rel (closed_SoftR cfg.meanOf) _
        (fun i nd nd' _ h => show Soft _ _ _ from h ▸ computeU_soft cfg _ nd) P
    obtain ⟨P1, b1, b2⟩ := backward_rel cfg.negInf _ (by rw [h1.layers, h1.depth]; exact hl)
    exact ⟨P1, by rw [if_pos hc, b1], PRel.comp (closed_SoftR _) h1 (b2.soft_of_bonly cfg.meanOf)⟩
  · exact ⟨P, if_neg hc, PRel.refl' (closed_SoftR _) P⟩

variable [Add α] [Sub α] [Mul α] [Div α] [OfNat α 2] [NatCast α] [LE S] [DecidableLE S]

theorem init_ok (cfg : HCTCfg R S) (k : Kind) (domain : Box α) {ds : List (Draw α)}
    (hds : DrawsOK k domain.length ds) :
    ∃ (s0 : HCT α R S) (ds' : List (Draw α)), init cfg k domain ds = .ok (s0, ds') ∧ Inv cfg s0 ∧
      s0.P.kind = k ∧ dimn s0.P = domain.length ∧ s0.P.isLeaf 0 = false ∧ s0.path = none ∧
      s0.iteration = 1 ∧
      ∀ (i : Nat) (nd : Node α (TBSt R S)), s0.P.nodes[i]? = some nd →
        nd.st = st0 cfg ∧ nd.depth ≤ 1 := by
  obtain ⟨P1, ds', e1, W1, h1, h2, h3, h4⟩ := init_expand k domain (st0 cfg) hds
  exact ⟨_, ds', init_eq_ok.2 ⟨P1, e1, rfl⟩,
    ⟨⟨W1, fun i nd hi => (h4 i nd hi).1 ▸ good_st0 cfg⟩,
      fun _ i nd hi => (h4 i nd hi).1 ▸ goodVar_st0 cfg⟩, h1, h2, h3, rfl, rfl, h4⟩

/-- `pull` succeeds from an invariant state; the tree skeleton and every
`count/rewards/mean/u/b/var` are kept (only `tau_h` / node `tau`s are rewritten). -/
theorem pull_ok (cfg : HCTCfg R S) {s : HCT α R S} (hI : Inv cfg s) :
    ∃ s1 path v, pull cfg s = .ok (s1, v) ∧ Ready cfg s1 path v ∧ PRel TauR s.P s1.P ∧
      s1.iteration = s.iteration ∧ (cfg.variance = false → s1.P = s.P) ∧
      (cfg.variance = true → s1.tauH = s.tauH) := by
  have W := hI.pinv.wf
  -- the thresholds: VHCT rewrites every `tau`, HCT recomputes `tau_h`, which covers all depths
  obtain ⟨P1, tauH, hstage, hT, hlen⟩ : ∃ (P1 : Part α (TBSt R S)) (tauH : List S),
      ((cfg.variance = true ∧
          refreshTau cfg (cfg.dtHalf (tPlus s.iteration)) s.P = .ok P1 ∧ tauH = s.tauH) ∨
        (cfg.variance = false ∧ P1 = s.P ∧ tauH = newTauH cfg s)) ∧
      PRel TauR s.P P1 ∧ (cfg.variance = false → tauH.length = P1.depth + 1) := by
    rcases Bool.eq_false_or_eq_true cfg.variance with hv | hv
    · obtain ⟨P1, r1, r2⟩ := refreshTau_rel cfg (cfg.dtHalf (tPlus s.iteration)) s.P W.layers_len
      exact ⟨P1, s.tauH, Or.inl ⟨hv, r1, rfl⟩, r2, fun h => nomatch hv.symm.trans h⟩
    · exact ⟨s.P, newTauH cfg s, Or.inr ⟨hv, rfl, rfl⟩, PRel.refl' closed_TauR _,
        fun _ => length_newTauH cfg s⟩
  have W1 := hT.wf W
  obtain ⟨path, v, nd, e1, e2, e3, _, _⟩ := descend_root_ok W1 (pullCont cfg tauH)
    (fun i nd hi => pullCont_isOk (fun hv => by
      rw [hlen hv]; exact Nat.lt_succ_of_le (W1.depth_le i nd hi)))
  refine ⟨{ s with P := P1, tauH := tauH, path := some path }, path, v,
    pull_eq_ok.2 ⟨P1, tauH, path, hstage, e1, e3, rfl⟩, ⟨Inv.of_tau hI hT, rfl, e2, e3, hlen⟩, hT,
    rfl, fun hv => ?_, fun hv => ?_⟩
  · rcases hstage with ⟨h, _⟩ | ⟨_, rfl, _⟩
    · exact nomatch h.symm.trans hv
    · rfl
  · rcases hstage with ⟨_, _, rfl⟩ | ⟨h, _⟩
    · rfl
    · exact nomatch hv.symm.trans h

/-- `receive` after a `pull` succeeds given well-formed draws, keeps the invariant and has the
effect `RecvEffect`: the pulled cell is credited, and it is split iff it is a leaf whose new
count reaches the threshold `thr`. -/
theorem receive_ok (cfg : HCTCfg R S) {s : HCT α R S} {path : List Nat} {last : Nat}
    (hR : Ready cfg s path last) (r : R) {ds : List (Draw α)}
    (hds : DrawsOK s.P.kind (dimn s.P) ds) :
    ∃ s' ds', receive cfg s r ds = .ok (s', ds') ∧ ∃ nd thr, s.P.nodes[last]? = some nd ∧
      IsThr cfg s nd thr ∧ Inv cfg s' ∧ s'.path = s.path ∧ s'.iteration = s.iteration + 1 ∧
      s'.tauH = s.tauH ∧
      RecvEffect cfg.meanOf (voOf cfg) r (st0 cfg) (· = last) s.P s'.P last
        (nd.children.isNone && cfg.countGE (nd.st.count + 1) thr) := by
  have W := hR.inv.pinv.wf
  obtain ⟨nd, hnd⟩ : ∃ nd, s.P.nodes[last]? = some nd :=
    ⟨_, List.getElem?_eq_getElem (hR.isPath.2.getLast_valid hR.lastEq)⟩
  obtain ⟨P1, p1, q1⟩ := refreshPass_rel cfg s.iteration s.P W.layers_len
  have q13 := q1.trans' (creditOne_rel cfg (cfg.dtOne (tPlus s.iteration)) P1 last r)
    (fun _ _ _ _ _ _ h1 h2 => CreditR.soft_left h1 h2)
  obtain ⟨P4, b1, b2⟩ := backward_rel cfg.negInf _
    (by rw [q13.layers, q13.depth]; exact W.layers_len)
  have q14 := q13.trans' (b2.soft_of_bonly cfg.meanOf)
    (fun _ _ _ _ _ _ h1 h2 => CreditR.soft_right h1 h2)
  obtain ⟨nd4, m1, m2, m3⟩ := q14.node last nd hnd
  have hhit : Hit cfg.meanOf (voOf cfg) r nd.st nd4.st := m3.1 rfl
  obtain ⟨thr, ht⟩ : ∃ thr, IsThr cfg s nd thr := by
    rcases Bool.eq_false_or_eq_true cfg.variance with hv | hv
    · exact ⟨nd.st.tau, And.intro (fun _ => rfl) (fun h => nomatch hv.symm.trans h)⟩
    · have hlt : nd.depth < s.tauH.length := by
        rw [hR.tauLen hv]; exact Nat.lt_succ_of_le (W.depth_le last nd hnd)
      exact ⟨s.tauH[nd.depth], And.intro (fun h => nomatch hv.symm.trans h)
        (fun _ => List.getElem?_eq_getElem hlt)⟩
  obtain ⟨P5, ds', x1, x2, W5⟩ := expand_if
    (nd4.children.isNone && cfg.countGE nd4.st.count thr) (q14.wf W) (st0 cfg) m1
    (fun h => Option.isNone_iff_eq_none.1 (Bool.and_eq_true _ _ ▸ h).1)
    (by rw [q14.kind, q14.dimn_eq]; exact hds)
  have E := RecvEffect.build (s0 := st0 cfg) rfl q14 x2 (PRel.refl' closed_BOnlyR P5)
  rw [m2.children, hhit.1] at E
  refine ⟨_, ds', receive_eq_ok.2 ⟨path, last, P1, P4, nd4, thr, P5, hR.stored, hR.lastEq, p1, b1,
    m1, fun hv => (ht.1 hv).trans hhit.2.2.1.symm, fun hv => m2.depth ▸ ht.2 hv, x1, rfl⟩,
    nd, thr, hnd, ht, ⟨E.pinv W5 (good_st0 cfg) hR.inv.pinv, fun hv => ?_⟩, rfl, rfl, rfl, E⟩
  have hvo : voOf cfg = some cfg.varOf := by rw [voOf, if_pos hv]
  rw [hvo] at E
  exact E.forall_st (GoodVar cfg.varOf) (goodVar_st0 cfg) (fun _ _ h _ => h.goodVar)
    (fun _ _ h g => h.goodVar g) (hR.inv.var hv)

end TBA.HCT
end PyXAB
