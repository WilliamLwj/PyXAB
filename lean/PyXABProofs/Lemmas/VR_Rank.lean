/-
  The ranking stage of VROOM: `rankLayer` appends to every cell of a layer its position (1-based)
  in the stable descending order of the lower confidence keys.
-/
import PyXABProofs.Spec.VroomSpec
import PyXABProofs.Lemmas.VR_Sort
import PyXABProofs.Lemmas.TBA_Rel

set_option linter.unusedSectionVars false

namespace PyXAB
namespace VR
open Tree TBA VROOM

section generic
variable {α σ : Type}

theorem mem_range'_one {h n : Nat} : h ∈ List.range' 1 n ↔ 1 ≤ h ∧ h ≤ n := by
  rw [List.mem_range'_1, Nat.add_comm, Nat.lt_succ_iff]

/-- A loop of payload updates over a list of `(id, i)` pairs with distinct valid ids, where the
update `f nd i` applied to cell `id` may depend on the tree fields of its node `nd`: the loop
never raises, node `id` gets `f nd i`, the other nodes are untouched. -/
theorem foldlM_modifySt {ι : Type} (f : Node α σ → ι → σ → σ)
    (hf : ∀ a b : Node α σ, Skel a b → f b = f a)
    (g : Part α σ → Nat × ι → Except Err (Part α σ))
    (hg : ∀ (P : Part α σ) (x : Nat × ι) (nd : Node α σ), P.nodes[x.1]? = some nd →
      g P x = .ok (P.modifySt x.1 (f nd x.2))) (l : List (Nat × ι)) :
    ∀ (P : Part α σ), (l.map (·.1)).Nodup → (∀ x ∈ l, x.1 < P.nodes.length) →
      ∃ P', l.foldlM g P = .ok P' ∧
        PRel (fun j nd nd' => (∀ i, (j, i) ∈ l → nd'.st = f nd i nd.st) ∧
          (j ∉ l.map (·.1) → nd'.st = nd.st)) P P' := by
  induction l with
  | nil =>
    exact fun P _ _ => ⟨P, rfl, PRel.refl (fun _ _ => ⟨fun _ h => (nomatch h), fun _ => rfl⟩) P⟩
  | cons x rest ih =>
    obtain ⟨id, i⟩ := x
    intro P hnd hv
    rw [List.map_cons, List.nodup_cons] at hnd
    have hid : id < P.nodes.length := hv (id, i) (List.mem_cons_self ..)
    have h1 := PRel_modifySt P id (f P.nodes[id] i)
    obtain ⟨P', m, h2⟩ := ih _ hnd.2
      (fun x hx => h1.len ▸ hv x (List.mem_cons_of_mem _ hx))
    refine ⟨P', by rw [List.foldlM_cons, hg P (id, i) _ (List.getElem?_eq_getElem hid)]; exact m,
      h2.kind.trans h1.kind, h2.layers.trans h1.layers, h2.depth.trans h1.depth,
      h2.len.trans h1.len, fun j a hj => ?_⟩
    obtain ⟨b, b1, b2, b3⟩ := h1.node j a hj
    obtain ⟨c, c1, c2, c3⟩ := h2.node j b b1
    refine ⟨c, c1, b2.trans c2, fun i' hmem => ?_, fun hj' => ?_⟩
    · rcases List.mem_cons.1 hmem with e | hmem
      · cases e
        obtain rfl := getElem?_inj (List.getElem?_eq_getElem hid) hj
        rw [c3.2 hnd.1, b3, if_pos rfl]
      · have hne : j ≠ id := fun e => hnd.1 (e ▸ List.mem_map.2 ⟨_, hmem, rfl⟩)
        rw [c3.1 i' hmem, hf a b b2, b3, if_neg hne]
    · rw [List.map_cons, List.mem_cons, not_or] at hj'
      rw [c3.2 hj'.2, b3, if_neg hj'.1]

end generic

section rank
variable {α R S : Type}

theorem key_eq (cfg : VrCfg R S) {P : Part α (VrSt R S)} {id : Nat} {nd : Node α (VrSt R S)}
    (h : P.nodes[id]? = some nd) : key cfg P id = cfg.lcb nd.st.rewards := by
  rw [key, Part.stOf_eq h]

/-- the key only depends on the rewards -/
theorem key_congr (cfg : VrCfg R S) {ρ : Nat → Node α (VrSt R S) → Node α (VrSt R S) → Prop}
    {P P' : Part α (VrSt R S)} (h : PRel ρ P P')
    (hρ : ∀ i a b, ρ i a b → b.st.rewards = a.st.rewards) : key cfg P' = key cfg P := by
  funext id
  cases h0 : P.nodes[id]? with
  | none =>
    have h1 : P'.nodes[id]? = none := by
      rw [List.getElem?_eq_none_iff] at h0 ⊢; rw [h.len]; exact h0
    simp only [key, Part.stOf, h0, h1]
  | some nd =>
    obtain ⟨nd', h1, _, h2⟩ := h.node id nd h0
    rw [key_eq cfg h0, key_eq cfg h1, hρ id nd nd' h2]

theorem lastRank_eq {P : Part α (VrSt R S)} {j : Nat} {nd : Node α (VrSt R S)}
    (h : P.nodes[j]? = some nd) : lastRank P j = nd.st.ranks.getLast?.getD 0 := by
  rw [lastRank, Part.stOf_eq h]

variable [LinearOrder S]

theorem lastRank_of_ranks {P' : Part α (VrSt R S)} {j r : Nat} {c : Node α (VrSt R S)}
    {l : List Nat} (hc : P'.nodes[j]? = some c) (h : c.st.ranks = l ++ [r]) :
    lastRank P' j = r := by
  rw [lastRank_eq hc, h, List.getLast?_concat, Option.getD_some]

/-- the payload update of the ranking stage -/
def addRank (i : Nat) (st : VrSt R S) : VrSt R S := { st with ranks := st.ranks ++ [i + 1] }

/-- What one call of `self.rank(node_list[h])` does. `P` is the arena before, `P'` after. -/
structure RankedLayerRel (cfg : VrCfg R S) (P P' : Part α (VrSt R S)) (layer : List Nat) : Prop where
  /-- the tree skeleton, every node outside the layer, and `rewards`/`tilde` of every node are
  unchanged; every cell of the layer got exactly one new rank appended -/
  rel : PRel (fun j nd nd' => nd'.st.rewards = nd.st.rewards ∧ nd'.st.tilde = nd.st.tilde ∧
      (j ∉ layer → nd'.st = nd.st) ∧
      (j ∈ layer → nd'.st.ranks = nd.st.ranks ++ [lastRank P' j])) P P'
  /-- the new rank of a cell is its (1-based) position in the stable descending order -/
  rank_eq : ∀ i id, (sortDesc (key cfg P) layer)[i]? = some id → lastRank P' id = i + 1
  /-- the new ranks of the layer are a permutation of `1..layer.length` -/
  perm : (layer.map (lastRank P')).Perm (List.range' 1 layer.length)
  /-- the ranks are non-increasing in the key -/
  mono : ∀ a b, a ∈ layer → b ∈ layer → lastRank P' a < lastRank P' b →
    key cfg P b ≤ key cfg P a
  /-- ties are broken by the position in the layer (Python's `sorted` is stable) -/
  stable : ∀ a b, Before a b layer → key cfg P a = key cfg P b → lastRank P' a < lastRank P' b

/-- `self.rank(layer)`: the cell at position `i` of the stable descending order gets the rank
`i + 1` appended, nothing else changes; the remaining clauses are `ranks_of_sortDesc`. -/
theorem rankLayer_rel (cfg : VrCfg R S) (P : Part α (VrSt R S)) (layer : List Nat)
    (hnd : layer.Nodup) (hvalid : ∀ id ∈ layer, id < P.nodes.length) :
    RankedLayerRel cfg P (rankLayer cfg P layer) layer := by
  have hmem : ∀ a, a ∈ sortDesc (key cfg P) layer ↔ a ∈ layer :=
    fun a => (sortDesc_perm (key cfg P) layer).mem_iff
  obtain ⟨P', m, hrel⟩ := foldlM_modifySt (α := α) (fun _ i => addRank (R := R) (S := S) i)
    (fun _ _ _ => rfl) (fun P x => pure (P.modifySt x.1 (addRank x.2))) (fun _ _ _ _ => rfl)
    (sortDesc (key cfg P) layer).zipIdx P
    (by rw [List.zipIdx_map_fst]; exact (sortDesc_perm _ layer).nodup_iff.2 hnd)
    (fun x hx => hvalid _ ((hmem _).1 (List.mem_of_getElem? (List.mem_zipIdx_iff_getElem?.1 hx))))
  rw [List.foldlM_pure] at m
  obtain rfl : rankLayer cfg P layer = P' := Except.ok.inj m
  have hlr : ∀ i id, (sortDesc (key cfg P) layer)[i]? = some id →
      lastRank (rankLayer cfg P layer) id = i + 1 := by
    intro i id hi
    have hlt := hvalid id ((hmem id).1 (List.mem_of_getElem? hi))
    obtain ⟨nd', h1, _, h3⟩ := hrel.node id _ (List.getElem?_eq_getElem hlt)
    exact lastRank_of_ranks h1 (congrArg VrSt.ranks (h3.1 i (List.mem_zipIdx_iff_getElem?.2 hi)))
  obtain ⟨hperm, hmono, hstable⟩ := ranks_of_sortDesc (key cfg P) layer _ hlr
  refine ⟨hrel.mono fun j a b _ ⟨h1, h2⟩ => ?_, hlr, hperm, hmono, hstable⟩
  by_cases hj : j ∈ layer
  · obtain ⟨i, hi⟩ := List.mem_iff_getElem?.1 ((hmem j).2 hj)
    have e := h1 i (List.mem_zipIdx_iff_getElem?.2 hi)
    exact ⟨by rw [e]; rfl, by rw [e]; rfl, fun h => absurd hj h, fun _ => by rw [hlr i j hi, e]; rfl⟩
  · have e := h2 (by rw [List.zipIdx_map_fst, hmem]; exact hj)
    exact ⟨by rw [e], by rw [e], fun _ => e, fun h => absurd h hj⟩

end rank
end VR
end PyXAB
