/-
  Tree-level helpers for SequOOL: counting in duplicate-free lists, the arithmetic of the block
  of children created last (`getElem?_range'_sub`), the counter `expCount` of expanded cells per
  depth and how it changes under one expansion (`Step`) / payload updates (`PRel`).
-/
import PyXABProofs.Lemmas.SQ_Scan
import PyXABProofs.Lemmas.TBA_Rel

set_option linter.unusedSectionVars false

namespace PyXAB
namespace SQ
open Tree TBA

variable {α σ S : Type}

theorem countP_flip {l : List Nat} (hn : l.Nodup) {t : Nat} (ht : t ∈ l) {p q : Nat → Bool}
    (hpq : ∀ x ∈ l, x ≠ t → q x = p x) (hp : p t = false) (hq : q t = true) :
    l.countP q = l.countP p + 1 := by
  have hperm := List.perm_cons_erase ht
  rw [hperm.countP_eq, hperm.countP_eq, List.countP_cons_of_pos hq,
    List.countP_cons_of_neg (by rw [hp]; exact Bool.false_ne_true)]
  congr 1
  apply List.countP_congr
  intro x hx
  obtain ⟨h1, h2⟩ := hn.mem_erase_iff.1 hx
  rw [hpq x h2 h1]

theorem exists_ne_of_countP {l : List Nat} (hn : l.Nodup) {p : Nat → Bool} {t : Nat}
    (h : 2 ≤ l.countP p) : ∃ x ∈ l, x ≠ t ∧ p x = true := by
  apply Classical.byContradiction
  intro hno
  have h1 : l.countP p ≤ l.count t := by
    rw [List.count_eq_countP]
    refine List.countP_mono_left fun x hx hp => ?_
    exact beq_iff_eq.2 (Classical.not_not.1 fun hne => hno ⟨x, hx, hne, hp⟩)
  have := List.nodup_iff_count.1 hn t
  omega

/-- Children are handed out in creation order.  With `m` cells handed out, `loc` of them from the
block of `n` children created last, that block starts at the id `1 + m - loc`, and its entry
number `loc` is the cell `m + 1` handed out next. -/
theorem getElem?_range'_sub {m loc n : Nat} (h1 : loc < n) (h2 : loc ≤ m) :
    (List.range' (1 + m - loc) n)[loc]? = some (m + 1) := by
  rw [List.getElem?_range' h1, Nat.one_mul,
    Nat.sub_add_cancel (Nat.le_trans h2 (Nat.le_add_left m 1)), Nat.add_comm]

/-- The block `range' (1 + m - loc) n` of children created last contains the cell `m` handed out
last, once one of its children has been handed out (`0 < loc`). -/
theorem mem_range'_sub {m loc n : Nat} (h0 : 0 < loc) (h1 : loc < n) (h2 : loc ≤ m) :
    m ∈ List.range' (1 + m - loc) n := by
  rw [List.mem_range'_1]; omega

theorem chosen_snoc {l : List Nat} (h : l = List.range' 1 l.length) :
    l ++ [l.length + 1] = List.range' 1 (l.length + 1) := by
  generalize l.length = n at h
  subst h
  rw [List.range'_concat, Nat.add_comm 1, Nat.one_mul]

theorem isExp_eq_true {P : Part α σ} {i : Nat} :
    isExp P i = true ↔ ∃ nd cs, P.nodes[i]? = some nd ∧ nd.children = some cs := by
  unfold isExp
  cases h : P.nodes[i]? with
  | none => simp
  | some nd =>
    cases hc : nd.children with
    | none => simp [hc]
    | some cs => simp [hc]

theorem isExp_of_children_eq {P P' : Part α σ} {i : Nat}
    (h : (P'.nodes[i]?).map (·.children) = (P.nodes[i]?).map (·.children)) :
    isExp P' i = isExp P i := by
  unfold isExp
  cases h1 : P.nodes[i]? <;> cases h2 : P'.nodes[i]? <;> simp_all

theorem expCount_congr {P P' : Part α σ} {h : Nat} (hl : P'.layers[h]? = P.layers[h]?)
    (hc : ∀ id ∈ (P.layers[h]?).getD [], isExp P' id = isExp P id) :
    expCount P' h = expCount P h := by
  unfold expCount
  rw [hl]
  exact List.countP_congr (fun x hx => by rw [hc x hx])

theorem expCount_eq_zero {P : Part α σ} (W : WF P) (h : Nat)
    (hno : ∀ (i : Nat) (nd : Node α σ) (cs : List Nat), P.nodes[i]? = some nd →
      nd.children = some cs → nd.depth ≠ h) : expCount P h = 0 := by
  unfold expCount
  cases hl : P.layers[h]? with
  | none => rfl
  | some l =>
    simp only [Option.getD_some]
    rw [List.countP_eq_zero]
    intro i hi hexp
    obtain ⟨nd, n1, n2⟩ := (W.mem_layer_iff hl i).1 hi
    obtain ⟨nd', cs, e1, e2⟩ := isExp_eq_true.1 hexp
    obtain rfl := getElem?_inj n1 e1
    exact hno i nd cs n1 e2 n2

theorem expCount_prel {ρ : Nat → Node α σ → Node α σ → Prop} {P P' : Part α σ}
    (R : PRel ρ P P') (h : Nat) : expCount P' h = expCount P h := by
  apply expCount_congr (by rw [R.layers])
  intro id _
  apply isExp_of_children_eq
  cases h1 : P.nodes[id]? with
  | none =>
    have : P'.nodes[id]? = none := by
      rw [List.getElem?_eq_none_iff] at h1 ⊢; rw [R.len]; exact h1
    rw [this]
  | some nd =>
    obtain ⟨nd', e1, e2, _⟩ := R.node id nd h1
    rw [e1]; simp [e2.children]

theorem expCount_countP {P : Part α σ} (W : WF P) (h : Nat) :
    expCount P h = (List.range P.nodes.length).countP (fun i =>
      (P.nodes[i]?.map (·.depth)) == some h && isExp P i) := by
  unfold expCount
  cases hl : P.layers[h]? with
  | some l =>
    simp only [Option.getD_some]
    rw [W.layers_eq_filter hl, List.countP_filter]
    apply List.countP_congr
    intro i _
    rw [Bool.and_comm]
  | none =>
    simp only [Option.getD_none, List.countP_nil]
    symm
    rw [List.countP_eq_zero]
    intro i hi
    rw [List.mem_range] at hi
    have hd := W.depth_le i _ (List.getElem?_eq_getElem hi)
    have hlen := W.layers_len
    rw [List.getElem?_eq_none_iff] at hl
    have : ¬ (P.nodes[i]).depth = h := by omega
    simp [List.getElem?_eq_getElem hi, this]

theorem K_eq_of {P P' : Part α σ} (hk : P'.kind = P.kind) (hd : dimn P' = dimn P) :
    K P' = K P := by
  simp only [K, hk, hd]

section step
variable {P P' : Part α σ} {s0 : σ} {t : Nat} {tn : Node α σ}

theorem step_layer_keep (S : Step P P' s0 t tn) (W : WF P) (ht : P.nodes[t]? = some tn)
    {h : Nat} (hh : h ≤ tn.depth) : P'.layers[h]? = P.layers[h]? := by
  apply S.layers_keep hh
  rw [W.layers_len]
  have := W.depth_le t tn ht
  omega

theorem step_isExp_old (S : Step P P' s0 t tn) {i : Nat}
    (hi : i < P.nodes.length) (hne : i ≠ t) : isExp P' i = isExp P i := by
  apply isExp_of_children_eq
  rw [S.old i hne hi]

theorem expCount_step_lt (S : Step P P' s0 t tn) (W : WF P) (ht : P.nodes[t]? = some tn)
    {h : Nat} (hh : h < tn.depth) : expCount P' h = expCount P h := by
  apply expCount_congr (step_layer_keep S W ht (Nat.le_of_lt hh))
  intro id hid
  cases hl : P.layers[h]? with
  | none => simp [hl] at hid
  | some l =>
    simp only [hl, Option.getD_some] at hid
    obtain ⟨nd, n1, n2⟩ := (W.mem_layer_iff hl id).1 hid
    apply step_isExp_old S (lt_length_of_getElem? n1)
    rintro rfl
    obtain rfl := getElem?_inj n1 ht
    omega

theorem expCount_step_eq (S : Step P P' s0 t tn) (W : WF P) (ht : P.nodes[t]? = some tn)
    (hleaf : tn.children = none) : expCount P' tn.depth = expCount P tn.depth + 1 := by
  obtain ⟨l, hl, htl⟩ := W.layer_of_node ht
  unfold expCount
  rw [step_layer_keep S W ht (Nat.le_refl _), hl]
  simp only [Option.getD_some]
  apply countP_flip (W.layer_nodup hl) htl
  · intro x hx hne
    obtain ⟨nd, n1, _⟩ := (W.mem_layer_iff hl x).1 hx
    exact step_isExp_old S (lt_length_of_getElem? n1) hne
  · simp [isExp, ht, hleaf]
  · simp [isExp, S.atp]

end step

end SQ
end PyXAB
