/-
  Concrete data for the non-vacuity example and the arity-3 counterexample of C13:
  a configuration over `ℚ`, the interval `[0,1]`.
-/
import PyXABProofs.Lemmas.VR_Simple
import Mathlib.Algebra.Order.Field.Rat

namespace PyXAB
namespace VR
open VROOM _root_.PyXAB.Tree

/-- A configuration over `ℚ`: the weights and their accumulation exactly as in the code,
`probOK` checks that the weights sum to one; the lower confidence key uses a rational
surrogate for the square root (`mean − 1/(2·evals)`, `−1000` for an unevaluated cell). -/
def exCfg (sd hmax : Nat) : VrCfg ℚ ℚ :=
  { negInf := -1000, sd := sd, hmax := hmax
    lcb := fun rs => if rs = [] then -1000 else rs.sum / (rs.length : ℚ) - 1 / (2 * (rs.length : ℚ))
    probOf := fun h r => weight sd h r
    pzero := 0, pone := 1, padd := fun a b => a + b
    tildeOf := fun r p i => r / (p / 2 ^ i)
    value := fun rs _ rk => rs.sum - (rk.sum : ℚ)
    probOK := fun ps => decide (ps.sum = 1) }

theorem exCfg_field (sd hmax : Nat) : FieldCfg (exCfg sd hmax) :=
  ⟨fun _ _ => rfl, fun _ _ => rfl, rfl⟩

theorem exCfg_probOK (sd hmax : Nat) (ps : List ℚ) (h : ps.sum = 1) :
    (exCfg sd hmax).probOK ps = true := by
  simp [exCfg, h]

/-- the interval `[0,1]` -/
def dom01 : Box ℚ := [⟨0, 1⟩]
def d0 : Draw ℚ := ⟨0, []⟩

theorem dom01_valid : Box.Valid dom01 := Box.valid_cons zero_le_one Box.valid_nil

instance : Inhabited (VROOM ℚ ℚ ℚ) := ⟨⟨default, 0, [], none, []⟩⟩

def cfgB : VrCfg ℚ ℚ := exCfg 2 3

/-- the state after `__init__`: 7 cells, layers `[[0],[1,2],[3,4,5,6]]` -/
def sB0 : VROOM ℚ ℚ ℚ := (getOk (VROOM.init cfgB .binary dom01 [d0, d0, d0])).1

/-- `np.random.choice` returns position 3 of the weight list = `(2, 1)` = cell 4 = `[1/4,1/2]`;
one descent step (to `hmax = 3`) expanding cell 4 and taking child 1 = cell 8 = `[3/8,1/2]`;
the sampled point is `7/16`. -/
def drB : VDraw ℚ := { choice := 3, steps := [(some d0, 1)], pt := [7 / 16] }

def pB : VROOM ℚ ℚ ℚ × Nat × List ℚ := getOk (pull cfgB sB0 1 drB)
def sB1 : VROOM ℚ ℚ ℚ := pB.1
def sB2 : VROOM ℚ ℚ ℚ := getOk (receive cfgB sB1 (3 / 4))

theorem sB0_eq : VROOM.init cfgB .binary dom01 [d0, d0, d0] =
    .ok (sB0, (getOk (VROOM.init cfgB .binary dom01 [d0, d0, d0])).2) :=
  eq_ok_getOk (by decide +kernel)

theorem pB_eq : pull cfgB sB0 1 drB = .ok (sB1, pB.2.1, pB.2.2) :=
  eq_ok_getOk (by decide +kernel)

theorem pB_val : pB.2 = (8, [7 / 16]) := by decide +kernel

theorem sB2_eq : receive cfgB sB1 (3 / 4) = .ok sB2 := eq_ok_getOk (by decide +kernel)

def cfgT : VrCfg ℚ ℚ := exCfg 1 2
def sT0 : VROOM ℚ ℚ ℚ := (getOk (VROOM.init cfgT (.kary 3) dom01 [d0])).1

theorem sT0_eq : VROOM.init cfgT (.kary 3) dom01 [d0] =
    .ok (sT0, (getOk (VROOM.init cfgT (.kary 3) dom01 [d0])).2) :=
  eq_ok_getOk (by decide +kernel)

end VR
end PyXAB
