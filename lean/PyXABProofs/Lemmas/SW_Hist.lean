/-
  SOO / DOO: `receive_reward` as `setReward` (what it changes, `PInv.receive`), what is known of
  the cell `pull` hands out (`handed_out`), the history invariant `HistOK` over one round
  (payloads compared by `SameVR`), and `argmaxListed` (the recommendation `get_last_point`).
-/
import PyXABProofs.Lemmas.SW_Vis

set_option linter.unusedSectionVars false

namespace PyXAB
namespace SW
open Tree TBA

variable {α S : Type}

/-- payloads with the same `visited` flag and stored reward -/
def SameVR (a b : SwSt S) : Prop := b.visited = a.visited ∧ b.reward = a.reward

theorem SameVR.rfl' (a : SwSt S) : SameVR a a := ⟨rfl, rfl⟩

theorem SameVR.trans' (a b c : SwSt S) (h1 : SameVR a b) (h2 : SameVR b c) : SameVR a c :=
  ⟨h2.1.trans h1.1, h2.2.trans h1.2⟩

/-- `receive_reward(r)` for the cell `v` -/
def setReward (P : Part α (SwSt S)) (v : Nat) (r : S) : Part α (SwSt S) :=
  P.modifySt v (fun st => { st with reward := r })

theorem getElem?_round (Pb : Part α (SwSt S)) (v : Nat) (r : S) (i : Nat) :
    (setReward (mark Pb v) v r).nodes[i]? = (Pb.nodes[i]?).map (fun nd =>
      if v = i then { nd with st := { visited := true, reward := r, b := nd.st.b } } else nd) := by
  simp only [setReward, mark, Part.getElem?_modifySt, Option.map_map]
  congr 1
  funext nd
  by_cases h : v = i <;> simp [h]

theorem HistOK.init (k : Kind) (domain : Box α) (s0 : SwSt S) (h0 : s0.visited = false) :
    HistOK (Part.init k domain s0) [] :=
  ⟨List.nodup_nil, fun _ h => (nomatch h), fun _ _ hi hv => by
    rw [(Part.getElem?_init.1 hi).2] at hv; exact absurd (h0.symm.trans hv) nofun⟩

/-- One complete round (`pull` which extends the tree and hands out the unevaluated cell `v`,
then `receive_reward(r)`) keeps the history invariant. -/
theorem HistOK.round {P Pb : Part α (SwSt S)} {s0 : SwSt S} {H : List (Nat × S)} {v : Nat}
    (r : S) (hH : HistOK P H) (hext : Ext SameVR s0 P Pb) (h0 : s0.visited = false)
    (hv : ∃ nd, Pb.nodes[v]? = some nd ∧ nd.st.visited = false) :
    HistOK (setReward (mark Pb v) v r) (H ++ [(v, r)]) := by
  obtain ⟨vn, hvn, hvv⟩ := hv
  have hnot : v ∉ H.map (·.1) := by
    intro hmem
    obtain ⟨e, he, rfl⟩ := List.mem_map.1 hmem
    obtain ⟨nd, a1, a2, _⟩ := hH.valid e he
    obtain ⟨nd', b1, _, _, _, _, _, b7⟩ := hext.old _ nd a1
    obtain rfl := getElem?_inj b1 hvn
    rw [b7.1, a2] at hvv; cases hvv
  refine ⟨?_, ?_, ?_⟩
  · rw [List.map_append, List.nodup_append]
    refine ⟨hH.nodup, by simp, ?_⟩
    intro a ha b hb
    simp only [List.map_cons, List.map_nil, List.mem_singleton] at hb
    subst hb
    intro hab; subst hab
    exact hnot ha
  · intro e he
    rcases List.mem_append.1 he with he | he
    · obtain ⟨nd, a1, a2, a3⟩ := hH.valid e he
      obtain ⟨nd', b1, _, _, _, _, _, b7⟩ := hext.old _ nd a1
      have hne : ¬ v = e.1 := fun h => hnot (h ▸ List.mem_map.2 ⟨e, he, rfl⟩)
      refine ⟨nd', ?_, by rw [b7.1, a2], by rw [b7.2, a3]⟩
      rw [getElem?_round, b1]; simp [hne]
    · simp only [List.mem_singleton] at he
      subst he
      refine ⟨{ vn with st := { visited := true, reward := r, b := vn.st.b } }, ?_, rfl, rfl⟩
      rw [getElem?_round, hvn]; simp
  · intro i nd hi hvis
    rw [getElem?_round] at hi
    rw [List.map_append, List.mem_append]
    by_cases hvi : v = i
    · right; simp [hvi]
    · left
      cases hb : Pb.nodes[i]? with
      | none => rw [hb] at hi; simp at hi
      | some x =>
        rw [hb] at hi
        simp only [Option.map_some, hvi, if_false, Option.some.injEq] at hi
        subst hi
        by_cases hlt : i < P.nodes.length
        · obtain ⟨y, hy⟩ : ∃ y, P.nodes[i]? = some y := ⟨_, List.getElem?_eq_getElem hlt⟩
          obtain ⟨y', b1, _, _, _, _, _, b7⟩ := hext.old _ y hy
          obtain rfl := getElem?_inj b1 hb
          exact hH.visited i y hy (by rw [← b7.1]; exact hvis)
        · have := hext.new i x (Nat.le_of_not_lt hlt) hb
          rw [this.1, h0] at hvis; cases hvis

/-- `receive_reward(r)` for the cell `v` handed out last keeps the tree invariant and "the cell
handed out last is evaluated". -/
theorem PInv.receive {r0 : S} {P : Part α (SwSt S)} {curr : Option Nat} (hP : PInv r0 P)
    (hcurr : ∀ c, curr = some c → ∃ nd, P.nodes[c]? = some nd ∧ nd.st.visited = true) {v : Nat}
    (hv : curr = some v) (r : S) :
    PInv r0 (SW.setReward P v r) ∧
      ∀ c, curr = some c → ∃ nd, (SW.setReward P v r).nodes[c]? = some nd ∧ nd.st.visited = true := by
  obtain ⟨nd, n1, n2⟩ := hcurr v hv
  refine ⟨hP.setReward n1 n2 r, fun c hc => ?_⟩
  obtain ⟨cn, c1, c2⟩ := hcurr c hc
  refine ⟨_, Part.getElem?_modifySt_of c1 _, ?_⟩
  by_cases hvc : v = c
  · rw [if_pos hvc]; exact c2
  · rw [if_neg hvc]; exact c2

/-- `receive_reward(r)` changes the stored reward of the cell `c` and nothing else. -/
theorem setReward_frame (P : Part α (SwSt S)) (c : Nat) (r : S) :
    (∀ i, i ≠ c → (setReward P c r).nodes[i]? = P.nodes[i]?) ∧
      ∀ nd, P.nodes[c]? = some nd →
        (setReward P c r).nodes[c]? = some { nd with st := { nd.st with reward := r } } := by
  refine ⟨fun i hi => ?_, fun nd hnd => ?_⟩
  · rw [setReward, Part.getElem?_modifySt]
    cases P.nodes[i]? with
    | none => rfl
    | some nd => rw [Option.map_some, if_neg (Ne.symm hi)]
  · rw [setReward, Part.getElem?_modifySt, hnd, Option.map_some, if_pos rfl]

theorem handed_out {ρ : SwSt S → SwSt S → Prop} (hρ : ∀ a b, ρ a b → b.visited = a.visited)
    {r0 : S} {s0 : SwSt S} {P Pb : Part α (SwSt S)} {v : Nat} {nd : Node α (SwSt S)}
    (hext : Ext ρ s0 P Pb) (hI : PInv r0 Pb) (hfirst : firstUnvisited Pb = some v)
    (n1 : Pb.nodes[v]? = some nd) (n3 : nd.st.visited = false) :
    (mark Pb v).layers = Pb.layers ∧
      (∃ pre post, Pb.layers.flatten = pre ++ v :: post ∧
        ∀ w ∈ pre, unvisitedLeaf Pb w = false) ∧
      nd.st.reward = r0 ∧
      (mark Pb v).nodes[v]? = some { nd with st := { nd.st with visited := true } } ∧
      ∀ nd0, P.nodes[v]? = some nd0 → nd0.st.visited = false := by
  refine ⟨rfl, ?_, hI.fresh v nd n1 n3, mark_node_self n1, fun nd0 h0 => ?_⟩
  · obtain ⟨_, pre, post, e, h⟩ := List.find?_eq_some_iff_append.1 hfirst
    exact ⟨pre, post, e, fun w hw => by simpa using h w hw⟩
  · obtain ⟨nd', a1, _, _, _, _, _, a7⟩ := hext.old v nd0 h0
    obtain rfl := getElem?_inj a1 n1
    rw [← hρ _ _ a7]; exact n3

section argmax
variable [LinearOrder S]

theorem argmaxListed_eq (P : Part α (SwSt S)) (negInf : S) :
    SOO.argmaxListed P negInf =
      (amFold (nodeScore P (·.reward)) P.layers.flatten (negInf, none)).2 := by
  unfold SOO.argmaxListed
  rw [foldl_eq_amFold (nodeScore P (·.reward))]
  intro acc id
  unfold amStep nodeScore
  cases P.nodes[id]? <;> rfl

/-- `get_last_point` of SOO / DOO returns an evaluated cell whose received reward is maximal
among all received rewards (no evaluated cell stores a larger one), provided at least one
reward was received, every received reward is above `negInf`, and unevaluated cells store
`negInf`. -/
theorem argmaxListed_spec {P : Part α (SwSt S)} {negInf : S} (hbot : ∀ x, negInf ≤ x)
    (hI : PInv negInf P) {H : List (Nat × S)} (hH : HistOK P H) (hne : H ≠ [])
    (hpos : ∀ e ∈ H, negInf < e.2) :
    ∃ v rv nd, SOO.argmaxListed P negInf = some v ∧ (v, rv) ∈ H ∧ P.nodes[v]? = some nd ∧
      nd.st.visited = true ∧ nd.st.reward = rv ∧ (∀ e ∈ H, e.2 ≤ rv) ∧
      (∀ (w : Nat) (nw : Node α (SwSt S)), P.nodes[w]? = some nw → nw.st.visited = true →
        nw.st.reward ≤ rv) ∧
      IsLastMax (nodeScore P (·.reward)) P.layers.flatten v rv := by
  rw [argmaxListed_eq]
  have hsc : ∀ e ∈ H, e.1 ∈ P.layers.flatten ∧ nodeScore P (·.reward) e.1 = some e.2 := by
    intro e he
    obtain ⟨nd, a1, _, a3⟩ := hH.valid e he
    exact ⟨(hI.wf.mem_flatten_iff_valid e.1).2 (lt_length_of_getElem? a1), by rw [nodeScore_at a1, a3]⟩
  obtain ⟨e0, he0⟩ := List.exists_mem_of_ne_nil H hne
  cases h1 : amFold (nodeScore P (·.reward)) P.layers.flatten (negInf, none) with
  | mk x mn =>
  have hmax := amFold_bot hbot h1
  cases mn with
  | none =>
    obtain ⟨a, b⟩ := hsc e0 he0
    rw [hmax _ a] at b; cases b
  | some m =>
    have hle : ∀ e ∈ H, e.2 ≤ x := fun e he => hmax.le (hsc e he).1 (hsc e he).2
    have hx : negInf < x := lt_of_lt_of_le (hpos e0 he0) (hle e0 he0)
    have hm := hmax.score
    cases hn : P.nodes[m]? with
    | none => rw [nodeScore, hn] at hm; cases hm
    | some nd =>
      rw [nodeScore_at hn] at hm
      cases hm
      -- an unevaluated cell stores `negInf`, which is below the maximum
      have hvis : nd.st.visited = true := by
        cases hq : nd.st.visited with
        | true => rfl
        | false => rw [hI.fresh m nd hn hq] at hx; exact absurd hx (lt_irrefl _)
      obtain ⟨e, he, rfl⟩ := List.mem_map.1 (hH.visited m nd hn hvis)
      obtain ⟨nd', a1, _, a3⟩ := hH.valid e he
      obtain rfl := getElem?_inj hn a1
      refine ⟨e.1, _, nd, rfl, by rw [a3]; exact he, hn, hvis, rfl, hle, ?_, hmax⟩
      intro w nw hw hv
      obtain ⟨e', he', rfl⟩ := List.mem_map.1 (hH.visited w nw hw hv)
      obtain ⟨nd', m1, _, m3⟩ := hH.valid e' he'
      obtain rfl := getElem?_inj hw m1
      rw [m3]; exact hle e' he'

theorem hist_pos {negInf : S} {inputs : List (Input α S)} {H : List (Nat × S)}
    (hmap : H.map (·.2) = inputs.map (·.2.2)) (hne : inputs ≠ [])
    (hpos : ∀ x ∈ inputs, negInf < x.2.2) : H ≠ [] ∧ ∀ e ∈ H, negInf < e.2 := by
  refine ⟨fun h => ?_, fun e he => ?_⟩
  · subst h
    exact hne (List.map_eq_nil_iff.1 hmap.symm)
  · have : e.2 ∈ inputs.map (·.2.2) := by rw [← hmap]; exact List.mem_map.2 ⟨e, he, rfl⟩
    obtain ⟨x, hx, hxe⟩ := List.mem_map.1 this
    rw [← hxe]; exact hpos x hx

end argmax

end SW
end PyXAB
