/-
  Order-type tie, core facts: dense ranks are an order embedding on the members of the list, the dense rank list
  of a non-empty list is one of the enumerated `allDense` lists, and a table that agrees with a rule and is
  complete returns the rule's answer on every enumerated list.  Completeness is read off a table's key list:
  `keys` and `botKeys` are the key lists of the complete tables, and `complete_of_keys`, `complete_of_botKeys`
  turn an equality of key lists into `complete`.
-/
import PyXABProofs.Spec.OrderType
import Mathlib.Data.Finset.Card
import Mathlib.Data.Finset.Max
import Mathlib.Data.Finset.Image

namespace PyXAB.OT

section rank
variable {S : Type} [LinearOrder S]

theorem denseRank_eq_card (vs : List S) (x : S) :
    denseRank vs x = (vs.toFinset.filter (fun v => v < x)).card := by
  unfold denseRank
  rw [← List.card_toFinset, List.toFinset_filter]
  simp

theorem denseRank_mono (vs : List S) {x y : S} (h : x ≤ y) : denseRank vs x ≤ denseRank vs y := by
  rw [denseRank_eq_card, denseRank_eq_card]
  apply Finset.card_le_card
  intro v
  simp only [Finset.mem_filter]
  exact fun ⟨a, b⟩ => ⟨a, lt_of_lt_of_le b h⟩

theorem denseRank_strictMono (vs : List S) {x y : S} (hx : x ∈ vs) (h : x < y) :
    denseRank vs x < denseRank vs y := by
  rw [denseRank_eq_card, denseRank_eq_card]
  apply Finset.card_lt_card
  refine ⟨?_, ?_⟩
  · intro v
    simp only [Finset.mem_filter]
    exact fun ⟨a, b⟩ => ⟨a, lt_trans b h⟩
  · intro hsub
    have : x ∈ vs.toFinset.filter (fun v => v < x) := hsub (by simp [hx, h])
    simp at this

theorem denseRank_le_iff (vs : List S) {x y : S} (hy : y ∈ vs) :
    denseRank vs x ≤ denseRank vs y ↔ x ≤ y := by
  constructor
  · intro h
    by_contra hc
    have := denseRank_strictMono vs hy (not_le.mp hc)
    omega
  · exact denseRank_mono vs

theorem denseRank_lt_iff (vs : List S) {x y : S} (hx : x ∈ vs) :
    denseRank vs x < denseRank vs y ↔ x < y := by
  rw [← not_le, ← not_le, denseRank_le_iff vs hx]

theorem denseRank_eq_iff (vs : List S) {x y : S} (hx : x ∈ vs) (hy : y ∈ vs) :
    denseRank vs x = denseRank vs y ↔ x = y := by
  constructor
  · intro h
    exact le_antisymm ((denseRank_le_iff vs hy).mp (by omega)) ((denseRank_le_iff vs hx).mp (by omega))
  · intro h; rw [h]

theorem denseRank_lt_length (vs : List S) {x : S} (hx : x ∈ vs) : denseRank vs x < vs.length := by
  unfold denseRank
  refine lt_of_le_of_lt (List.dedup_sublist _).length_le ?_
  apply List.length_filter_lt_length_iff_exists.mpr
  exact ⟨x, hx, by simp⟩

theorem denseRank_eq_zero (vs : List S) {b : S} (hb : ∀ x ∈ vs, b ≤ x) : denseRank vs b = 0 := by
  unfold denseRank
  have : vs.filter (fun v => decide (v < b)) = [] := by
    rw [List.filter_eq_nil_iff]
    intro a ha
    simpa using hb a ha
  rw [this]; rfl

/-- the element just below a member of positive rank has the preceding rank -/
theorem denseRank_pred (vs : List S) {x : S} {r : Nat} (h : denseRank vs x = r + 1) :
    ∃ y ∈ vs, denseRank vs y = r := by
  rw [denseRank_eq_card] at h
  have hne : (vs.toFinset.filter (fun v => v < x)).Nonempty := by
    rw [← Finset.card_pos]; omega
  refine ⟨(vs.toFinset.filter (fun v => v < x)).max' hne, ?_, ?_⟩
  · have := Finset.max'_mem _ hne
    simp only [Finset.mem_filter, List.mem_toFinset] at this
    exact this.1
  · have hmem := Finset.max'_mem _ hne
    have hmax : ∀ v ∈ vs.toFinset.filter (fun v => v < x),
        v ≤ (vs.toFinset.filter (fun v => v < x)).max' hne := fun v hv => Finset.le_max' _ v hv
    generalize (vs.toFinset.filter (fun v => v < x)).max' hne = y at hmem hmax
    have hy := (Finset.mem_filter.mp hmem).2
    have : vs.toFinset.filter (fun v => v < y) = (vs.toFinset.filter (fun v => v < x)).erase y := by
      ext v
      simp only [Finset.mem_filter, Finset.mem_erase]
      constructor
      · exact fun ⟨a, b⟩ => ⟨ne_of_lt b, a, lt_trans b hy⟩
      · exact fun ⟨a, b, c⟩ => ⟨b, lt_of_le_of_ne (hmax v (Finset.mem_filter.mpr ⟨b, c⟩)) a⟩
    rw [denseRank_eq_card, this, Finset.card_erase_of_mem hmem, h]
    rfl

theorem denseRank_below (vs : List S) : ∀ (r : Nat) (x : S), x ∈ vs → denseRank vs x = r →
    ∀ r' ≤ r, ∃ y ∈ vs, denseRank vs y = r'
  | 0, x, hx, h, r', hr => ⟨x, hx, by omega⟩
  | r + 1, x, hx, h, r', hr => by
    by_cases he : r' = r + 1
    · exact ⟨x, hx, by omega⟩
    · obtain ⟨y, hy, hyr⟩ := denseRank_pred vs h
      exact denseRank_below vs r y hy hyr r' (by omega)

/-- a map that preserves and reflects `≤` on the members of `vs` leaves the dense ranks unchanged -/
theorem denseRank_map {T : Type} [LinearOrder T] (vs : List S) (f : S → T)
    (hf : ∀ x ∈ vs, ∀ y ∈ vs, (f x ≤ f y ↔ x ≤ y)) {x : S} (hx : x ∈ vs) :
    denseRank (vs.map f) (f x) = denseRank vs x := by
  have hlt : ∀ v ∈ vs, (f v < f x ↔ v < x) := fun v hv => by
    rw [← not_le, ← not_le, hf x hx v hv]
  have himg : (vs.map f).toFinset = vs.toFinset.image f := by ext a; simp
  rw [denseRank_eq_card, denseRank_eq_card, himg, Finset.filter_image]
  rw [Finset.card_image_of_injOn]
  · congr 1
    apply Finset.filter_congr
    intro v hv
    exact hlt v (List.mem_toFinset.mp hv)
  · intro a ha b hb hab
    have ha' : a ∈ vs := List.mem_toFinset.mp (Finset.mem_filter.mp ha).1
    have hb' : b ∈ vs := List.mem_toFinset.mp (Finset.mem_filter.mp hb).1
    exact le_antisymm ((hf a ha' b hb').mp (le_of_eq hab)) ((hf b hb' a ha').mp (le_of_eq hab.symm))

theorem denseRank_emb (vs : List S) : ∀ x ∈ vs, ∀ y ∈ vs, (denseRank vs x ≤ denseRank vs y ↔ x ≤ y) :=
  fun _ _ _ hy => denseRank_le_iff vs hy

theorem length_denseRanks (vs : List S) : (denseRanks vs).length = vs.length := by
  simp [denseRanks]

theorem denseRanks_head_bot (vs : List S) (hbot : ∀ b, vs.head? = some b → ∀ x ∈ vs, b ≤ x)
    (hpos : 1 ≤ vs.length) : botFirst (denseRanks vs) = true := by
  cases vs with
  | nil => simp at hpos
  | cons b xs =>
    have := denseRank_eq_zero (b :: xs) (hbot b rfl)
    simp [botFirst, denseRanks, this]

end rank

theorem mem_seqs : ∀ (k n : Nat) (l : List Nat), l ∈ seqs k n ↔ l.length = k ∧ ∀ x ∈ l, x < n
  | 0, n, l => by
    simp only [seqs, List.mem_singleton]
    constructor
    · rintro rfl; simp
    · intro h; exact List.eq_nil_of_length_eq_zero h.1
  | k + 1, n, l => by
    simp only [seqs, List.mem_flatMap, List.mem_range, List.mem_map]
    constructor
    · rintro ⟨v, hv, l', hl', rfl⟩
      have := (mem_seqs k n l').mp hl'
      refine ⟨by simp [this.1], ?_⟩
      intro x hx
      rcases List.mem_cons.mp hx with rfl | hx
      · exact hv
      · exact this.2 x hx
    · rintro ⟨hlen, hall⟩
      cases l with
      | nil => simp at hlen
      | cons v l' =>
        refine ⟨v, hall v (by simp), l', (mem_seqs k n l').mpr ⟨by simpa using hlen, ?_⟩, rfl⟩
        intro x hx
        exact hall x (by simp [hx])

theorem le_foldl_max (rs : List Nat) : ∀ (a v : Nat), v ≤ rs.foldl max a → v ≤ a ∨ ∃ r ∈ rs, v ≤ r := by
  induction rs with
  | nil => intro a v h; exact Or.inl h
  | cons r rs ih =>
    intro a v h
    rw [List.foldl_cons] at h
    rcases ih _ _ h with h | ⟨r', hr', h⟩
    · rcases le_max_iff.mp h with h | h
      · exact Or.inl h
      · exact Or.inr ⟨r, by simp, h⟩
    · exact Or.inr ⟨r', by simp [hr'], h⟩

theorem denseRanks_mem_allDense {S : Type} [LinearOrder S] (vs : List S) (hpos : 1 ≤ vs.length) :
    denseRanks vs ∈ allDense vs.length := by
  unfold allDense
  rw [List.mem_filter]
  constructor
  · rw [mem_seqs]
    refine ⟨length_denseRanks vs, ?_⟩
    intro r hr
    obtain ⟨x, hx, rfl⟩ := List.mem_map.mp hr
    exact denseRank_lt_length vs hx
  · unfold isDense
    rw [List.all_eq_true]
    intro v hv
    rw [List.mem_range] at hv
    have hv' : v ≤ (denseRanks vs).foldl max 0 := by omega
    rw [List.contains_iff_mem]
    have key : ∃ r ∈ denseRanks vs, v ≤ r := by
      rcases le_foldl_max _ _ _ hv' with h | h
      · cases vs with
        | nil => simp at hpos
        | cons b xs => exact ⟨denseRank (b :: xs) b, by simp [denseRanks], by omega⟩
      · exact h
    obtain ⟨r, hr, hvr⟩ := key
    obtain ⟨x, hx, rfl⟩ := List.mem_map.mp hr
    obtain ⟨y, hy, hyv⟩ := denseRank_below vs _ x hx rfl v hvr
    exact List.mem_map.mpr ⟨y, hy, hyv⟩

theorem lookup_of_agrees_complete (m : List Nat → List Nat) (t : Table) (ks : List Nat) (ok : List Nat → Bool)
    (h1 : agrees m t = true) (h2 : complete t ks ok = true) {k : Nat} (hk : k ∈ ks) {rs : List Nat}
    (hrs : rs ∈ allDense k) (hok : ok rs = true) : lookup t rs = some (m rs) := by
  unfold complete at h2
  rw [List.all_eq_true] at h2
  have h3 := h2 k hk
  rw [List.all_eq_true] at h3
  have h4 := h3 rs hrs
  simp only [hok, Bool.not_true, Bool.false_or] at h4
  unfold lookup
  cases hf : t.find? (fun e => e.1 == rs) with
  | none =>
    rw [List.find?_eq_none] at hf
    rw [List.any_eq_true] at h4
    obtain ⟨e, he, he'⟩ := h4
    exact absurd he' (hf e he)
  | some e =>
    have hmem := List.mem_of_find?_eq_some hf
    have hp := List.find?_some hf
    unfold agrees at h1
    rw [List.all_eq_true] at h1
    have h5 := h1 e hmem
    simp only [beq_iff_eq] at hp h5
    simp only [Option.map_some, ← hp, h5]

/-! ## completeness from the key list

The translator writes a table's entries in the order of `allDense` (lexicographic), so a complete table's keys are
one of the two lists below, and completeness follows from one equality of lists. -/

/-- the dense rank lists of the lengths `ks`, in the translator's order -/
def keys (ks : List Nat) : List (List Nat) := ks.flatMap allDense

/-- the dense rank lists of the lengths `ks` that start with rank 0, in the translator's order.  The leading 0 is
fixed before the rest is enumerated, so length `k` has `k^(k-1)` candidates for the kernel to filter. -/
def botKeys (ks : List Nat) : List (List Nat) :=
  ks.flatMap fun k => ((seqs (k - 1) k).map (0 :: ·)).filter isDense

theorem complete_of_cover {t : Table} {ks : List Nat} {ok : List Nat → Bool} {L : List (List Nat)}
    (h : t.map Prod.fst = L) (hL : ∀ k ∈ ks, ∀ rs ∈ allDense k, ok rs = true → rs ∈ L) :
    complete t ks ok = true := by
  simp only [complete, List.all_eq_true, Bool.or_eq_true, Bool.not_eq_true', List.any_eq_true, beq_iff_eq]
  intro k hk rs hrs
  cases hok : ok rs
  · exact Or.inl rfl
  · obtain ⟨e, he, rfl⟩ := List.mem_map.mp (h ▸ hL k hk rs hrs hok)
    exact Or.inr ⟨e, he, rfl⟩

theorem complete_of_keys {t : Table} {ks : List Nat} (h : t.map Prod.fst = keys ks) :
    complete t ks (fun _ => true) = true :=
  complete_of_cover h fun k hk _ hrs _ => List.mem_flatMap.mpr ⟨k, hk, hrs⟩

theorem complete_of_botKeys {t : Table} {ks : List Nat} (h : t.map Prod.fst = botKeys ks) :
    complete t ks botFirst = true := by
  refine complete_of_cover h fun k hk rs hrs hbot => List.mem_flatMap.mpr ⟨k, hk, ?_⟩
  obtain ⟨hseq, hd⟩ := List.mem_filter.mp hrs
  obtain ⟨hlen, hlt⟩ := (mem_seqs k k rs).mp hseq
  cases rs with
  | nil => simp [botFirst] at hbot
  | cons r tl =>
    obtain rfl : r = 0 := by simpa [botFirst] using hbot
    refine List.mem_filter.mpr ⟨List.mem_map.mpr ⟨tl, (mem_seqs _ _ _).mpr ⟨?_, fun x hx =>
      hlt x (List.mem_cons_of_mem _ hx)⟩, rfl⟩, hd⟩
    simp at hlen; omega

end PyXAB.OT
