/-
  C15.2 for POO: `get_last_point` queries between rounds are harmless.  Proved for base learners
  which are `RoundHarmless` (`E` between rounds, the finer `F` between a `pull` and its `receive`);
  `QueryHarmless` is the case `F = E`.
  POO touches its learners in one place per call, so everything rests on: states which differ only
  in `E`-related learners stay so when related learners are put at the same position.
-/
import PyXABProofs.Lemmas.RL_Machine
import PyXABProofs.Lemmas.MT_POOStep

namespace PyXAB
namespace RL
open Rel ListAux
set_option linter.unusedSectionVars false

section forall2
variable {A B : Type} {Rr : A → B → Prop}

theorem forall₂_set {l : List A} {l' : List B} (h : List.Forall₂ Rr l l') (i : Nat) {a : A} {b : B}
    (hab : Rr a b) : List.Forall₂ Rr (l.set i a) (l'.set i b) := by
  induction h generalizing i with
  | nil => exact .nil
  | cons h t ih =>
    cases i with
    | zero => exact .cons hab t
    | succ i => exact .cons h (ih i)

theorem forall₂_getElem? {l : List A} {l' : List B} (h : List.Forall₂ Rr l l') (i : Nat) :
    (l[i]? = none ∧ l'[i]? = none) ∨ ∃ a b, l[i]? = some a ∧ l'[i]? = some b ∧ Rr a b := by
  induction h generalizing i with
  | nil => exact .inl ⟨rfl, rfl⟩
  | cons h _ ih =>
    cases i with
    | zero => exact .inr ⟨_, _, rfl, rfl, h⟩
    | succ i => exact ih i

theorem forall₂_getLast? {l : List A} {l' : List B} (h : List.Forall₂ Rr l l') :
    (l.getLast? = none ∧ l'.getLast? = none) ∨
      ∃ a b, l.getLast? = some a ∧ l'.getLast? = some b ∧ Rr a b := by
  rw [List.getLast?_eq_getElem?, List.getLast?_eq_getElem?, ← h.length_eq]
  exact forall₂_getElem? h _

theorem forall₂_trans_of {E : A → A → Prop} (ht : ∀ a b c, E a b → E b c → E a c)
    {l l' l'' : List A} (h : List.Forall₂ E l l') (h' : List.Forall₂ E l' l'') :
    List.Forall₂ E l l'' := by
  induction h generalizing l'' with
  | nil => cases h'; exact .nil
  | cons h _ ih => cases h' with | cons h' t' => exact .cons (ht _ _ _ h h') (ih t')

theorem set_of_getElem? {l : List A} {i : Nat} {a : A} (h : l[i]? = some a) : l.set i a = l := by
  obtain ⟨hlt, e⟩ := List.getElem?_eq_some_iff.1 h
  rw [← e, List.set_getElem_self]

theorem getLast?_set_last (l : List A) (a : A) (h : l ≠ []) :
    (l.set (l.length - 1) a).getLast? = some a := by
  rw [List.getLast?_eq_getElem?, List.length_set, List.getElem?_set_self]
  have := List.length_pos_iff.2 h
  omega

end forall2

section poo
variable {L α R S Pt ρ : Type} {ops : LearnerOps L α R Pt ρ} {E F : L → L → Prop}

/-- forget the refinement -/
theorem RoundHarmless.toEquiv (hq : RoundHarmless ops E F) :
    (∀ l, E l l) ∧ (∀ l l', E l l' → E l' l) ∧ (∀ l l' l'', E l l' → E l' l'' → E l l'') :=
  ⟨hq.refl, hq.symm, hq.trans⟩

theorem pooEquiv_refl (hr : ∀ l, E l l) (s : POO L S) : POOEquiv E s s :=
  ⟨rfl, rfl, rfl, rfl, rfl, List.forall₂_same.2 fun a _ => hr a, rfl, rfl⟩

theorem pooEquiv_symm (hs : ∀ l l', E l l' → E l' l) {s s' : POO L S} (h : POOEquiv E s s') :
    POOEquiv E s' s :=
  ⟨h.N.symm, h.n.symm, h.phase.symm, h.counter.symm, h.algoCounter.symm,
    (h.learners.imp hs).flip, h.V.symm, h.times.symm⟩

theorem pooEquiv_trans (ht : ∀ l l' l'', E l l' → E l' l'' → E l l'') {s s' s'' : POO L S}
    (h : POOEquiv E s s') (h' : POOEquiv E s' s'') : POOEquiv E s s'' :=
  ⟨h'.N.trans h.N, h'.n.trans h.n, h'.phase.trans h.phase, h'.counter.trans h.counter,
    h'.algoCounter.trans h.algoCounter, forall₂_trans_of ht h.learners h'.learners,
    h'.V.trans h.V, h'.times.trans h.times⟩

/-- equivalent states are one state with two lists of learners -/
theorem pooEquiv_eq {s s' : POO L S} (h : POOEquiv E s s') :
    s' = { s with learners := s'.learners } := by
  obtain ⟨N, n, phase, counter, ac, Ls, V, times⟩ := s
  obtain ⟨N', n', phase', counter', ac', Ls', V', times'⟩ := s'
  obtain ⟨h1, h2, h3, h4, h5, _, h6, h7⟩ := h
  cases h1; cases h2; cases h3; cases h4; cases h5; cases h6; cases h7
  rfl

/-- the learners which the next `receive` credits are `F`-related -/
def RecvRel (F : L → L → Prop) (cfg : POOCfg R S ρ) (s s' : POO L S) : Prop :=
  ∀ a b, pooRecvLearner cfg s = some a → pooRecvLearner cfg s' = some b → F a b

theorem pooEquiv_recvRel {s s' : POO L S} (h : POOEquiv E s s') (cfg : POOCfg R S ρ) :
    RecvRel E cfg s s' := by
  intro a b ha hb
  unfold pooRecvLearner at ha hb
  rw [h.N, h.n, h.algoCounter] at hb
  by_cases hc : cfg.cond s.N s.n = true
  · rw [if_pos hc] at ha hb
    rcases forall₂_getLast? h.learners with ⟨e1, _⟩ | ⟨a', b', e1, e2, hab⟩
    · rw [e1] at ha; cases ha
    · rw [e1] at ha; rw [e2] at hb; cases ha; cases hb; exact hab
  · rw [if_neg hc] at ha hb
    cases hac : s.algoCounter with
    | none => rw [hac] at ha; cases ha
    | some ac =>
      rw [hac] at ha hb
      dsimp only at ha hb
      rcases forall₂_getElem? h.learners ac with ⟨e1, _⟩ | ⟨a', b', e1, e2, hab⟩
      · rw [e1] at ha; cases ha
      · rw [e1] at ha; rw [e2] at hb; cases ha; cases hb; exact hab

/-- a query leaves the state in its class -/
theorem poo_lastPoint_equiv [LT S] [DecidableLT S] (hq : RoundHarmless ops E F) {s s1 : POO L S}
    {v : Nat × Pt} (h : POO.lastPoint ops s = .ok (s1, v)) : POOEquiv E s s1 := by
  unfold POO.lastPoint at h
  split at h
  · cases h
  · split at h
    · cases h
    · rename_i i _ _ l hl
      obtain ⟨⟨l', pt⟩, hp, h⟩ := bind_eq_ok.1 h
      cases h
      refine ⟨rfl, rfl, rfl, rfl, rfl, ?_, rfl, rfl⟩
      have := forall₂_set (List.forall₂_same.2 fun a _ => hq.refl a : List.Forall₂ E s.learners _) i
        (hq.symm _ _ (hq.pull_stay l 0 l' pt hp))
      rwa [set_of_getElem? hl] at this

theorem poo_queryN_equiv [LT S] [DecidableLT S] (hq : RoundHarmless ops E F) (q : Nat)
    {s s0 : POO L S} (h : pooQueryN ops q s = .ok s0) : POOEquiv E s s0 := by
  induction q generalizing s with
  | zero => cases h; exact pooEquiv_refl hq.refl _
  | succ q ih =>
    have e : pooQueryN ops (q + 1) s = POO.lastPoint ops s >>= fun p => pooQueryN ops q p.1 := by
      rw [pooQueryN]; rcases POO.lastPoint ops s with _ | ⟨_, _⟩ <;> rfl
    rw [e] at h
    obtain ⟨⟨s1, v⟩, h1, h⟩ := bind_eq_ok.1 h
    exact pooEquiv_trans hq.trans (poo_lastPoint_equiv hq h1) (ih h)

/-! ### `pull` and `receive` on equivalent states

branch by branch (`MT.pull_create` … `MT.receive_rr`): a lookup among the learners, the learner's
own call, and a new state which holds the answer at the same position -/

/-- lookups at the same position of related lists fail together or find related learners; the
relation also records where they were found -/
theorem relRes1_lookup {o o' : Option L} (e : Err)
    (h : (o = none ∧ o' = none) ∨ ∃ a b, o = some a ∧ o' = some b ∧ E a b) :
    RelRes1 (fun a b => o = some a ∧ o' = some b ∧ E a b) (MT.orErr o e) (MT.orErr o' e) := by
  rcases h with ⟨rfl, rfl⟩ | ⟨a, b, rfl, rfl, hab⟩
  · exact rfl
  · exact ⟨rfl, rfl, hab⟩

/-- `pull` on `E`-equivalent states: same exception, or same outputs, `E`-equivalent states in
which the learner to be credited next is `F`-related. -/
theorem poo_pull_resp (hq : RoundHarmless ops E F) (cfg : POOCfg R S ρ) {s s' : POO L S}
    (h : POOEquiv E s s') (t : Nat) (ds : List (Draw α)) :
    RelRes (fun s1 s1' => POOEquiv E s1 s1' ∧ RecvRel F cfg s1 s1') Eq
      (POO.pull ops cfg s t ds) (POO.pull ops cfg s' t ds) := by
  have hlen := h.learners.length_eq
  rw [pooEquiv_eq h]
  by_cases hc : cfg.cond s.N s.n = true
  · by_cases h0 : s.counter = 0
    · rw [MT.pull_create hc h0, MT.pull_create (s := { s with learners := s'.learners }) hc h0]
      refine RelRes.bind_same fun p => RelRes.bind (hq.pull_resp p.1 p.1 t (hq.refl _))
        fun a' b' pt pt' hab' hpt => ?_
      cases hpt
      refine ⟨⟨⟨rfl, rfl, rfl, rfl, rfl, List.rel_append h.learners (.cons (hq.sub _ _ hab') .nil),
        rfl, rfl⟩, fun x y hx hy => ?_⟩, by rw [hlen]⟩
      unfold pooRecvLearner at hx hy
      rw [if_pos hc, List.getLast?_concat] at hx hy
      cases hx; cases hy; exact hab'
    · rw [MT.pull_fill hc h0, MT.pull_fill (s := { s with learners := s'.learners }) hc h0]
      refine RelRes1.bind (relRes1_lookup _ (forall₂_getLast? h.learners)) fun a b hab =>
        RelRes.bind (hq.pull_resp a b t hab.2.2) fun a' b' pt pt' hab' hpt => ?_
      cases hpt
      refine ⟨⟨⟨rfl, rfl, rfl, rfl, rfl, by rw [hlen]; exact forall₂_set h.learners _ (hq.sub _ _ hab'),
        rfl, rfl⟩, fun x y hx hy => ?_⟩, by rw [hlen]⟩
      unfold pooRecvLearner at hx hy
      rw [if_pos hc, getLast?_set_last _ _ fun hn => by rw [hn] at hab; cases hab.1] at hx
      rw [if_pos hc, getLast?_set_last _ _ fun hn => by rw [hn] at hab; cases hab.2.1] at hy
      cases hx; cases hy; exact hab'
  · have hc' := Bool.eq_false_iff.2 hc
    rw [MT.pull_rr hc', MT.pull_rr (s := { s with learners := s'.learners }) hc']
    cases hac : s.algoCounter with
    | none => exact rfl
    | some ac =>
      simp only [MT.orErr_some, ok_bind]
      refine RelRes1.bind (relRes1_lookup _ (forall₂_getElem? h.learners ac)) fun a b hab =>
        RelRes.bind (hq.pull_resp a b t hab.2.2) fun a' b' pt pt' hab' hpt => ?_
      cases hpt
      refine ⟨⟨⟨rfl, rfl, rfl, rfl, rfl, forall₂_set h.learners _ (hq.sub _ _ hab'), rfl, rfl⟩,
        fun x y hx hy => ?_⟩, rfl⟩
      unfold pooRecvLearner at hx hy
      rw [if_neg hc] at hx hy
      dsimp only at hx hy
      rw [List.getElem?_set_self (List.getElem?_eq_some_iff.1 hab.1).1] at hx
      rw [List.getElem?_set_self (List.getElem?_eq_some_iff.1 hab.2.1).1] at hy
      cases hx; cases hy; exact hab'

/-- the bookkeeping at the end of `receive` (`MT.roll`, `MT.advance`) does not look at the
learners, only at their number -/
theorem pooEquiv_roll {s1 s1' : POO L S} (h : POOEquiv E s1 s1') : POOEquiv E (MT.roll s1) (MT.roll s1') := by
  rw [pooEquiv_eq h]
  unfold MT.roll
  dsimp only
  split <;> split <;> exact ⟨rfl, rfl, rfl, rfl, rfl, h.learners, rfl, rfl⟩

theorem pooEquiv_advance {s1 s1' : POO L S} (h : POOEquiv E s1 s1') (ac : Nat) :
    POOEquiv E (MT.advance ac s1) (MT.advance ac s1') := by
  rw [pooEquiv_eq h]
  unfold MT.advance
  dsimp only
  rw [← h.learners.length_eq]
  split <;> exact ⟨rfl, rfl, rfl, rfl, rfl, h.learners, rfl, rfl⟩

theorem poo_receive_resp (hq : RoundHarmless ops E F) (cfg : POOCfg R S ρ) {s s' : POO L S}
    (h : POOEquiv E s s') (hF : RecvRel F cfg s s') (t : Nat) (r : R) (ds : List (Draw α)) :
    RelRes (POOEquiv E) Eq (POO.receive ops cfg s t r ds) (POO.receive ops cfg s' t r ds) := by
  have hlen := h.learners.length_eq
  unfold RecvRel pooRecvLearner at hF
  rw [pooEquiv_eq h] at hF ⊢
  dsimp only at hF
  by_cases hc : cfg.cond s.N s.n = true
  · rw [MT.receive_create hc, MT.receive_create (s := { s with learners := s'.learners }) hc]
    rw [if_pos hc, if_pos hc] at hF
    refine RelRes1.bind (relRes1_lookup _ (forall₂_getLast? h.learners)) fun a b hab =>
      RelRes.bind_same fun v => RelRes.bind_same fun tm =>
        RelRes.bind (hq.recv_resp a b t r ds (hF a b hab.1 hab.2.1)) fun a' b' _ _ hab' hds => ?_
    cases hds
    exact ⟨pooEquiv_roll ⟨rfl, rfl, rfl, rfl, rfl, by rw [hlen]; exact forall₂_set h.learners _ hab',
      rfl, rfl⟩, rfl⟩
  · rw [if_neg hc, if_neg hc] at hF
    have hc' := Bool.eq_false_iff.2 hc
    rw [MT.receive_rr hc', MT.receive_rr (s := { s with learners := s'.learners }) hc']
    cases hac : s.algoCounter with
    | none => exact rfl
    | some ac =>
      rw [hac] at hF
      simp only [MT.orErr_some, ok_bind]
      refine RelRes1.bind (relRes1_lookup _ (forall₂_getElem? h.learners ac)) fun a b hab =>
        RelRes.bind_same fun v => RelRes.bind_same fun tm =>
          RelRes.bind (hq.recv_resp a b t r ds (hF a b hab.1 hab.2.1)) fun a' b' _ _ hab' hds => ?_
      cases hds
      refine ⟨?_, rfl⟩
      unfold MT.recvRR
      refine pooEquiv_advance ?_ ac
      exact ⟨rfl, rfl, rfl, rfl, hac.symm, forall₂_set h.learners _ hab', rfl, rfl⟩

theorem pooRoundQ_eq [LT S] [DecidableLT S] (ops : LearnerOps L α R Pt ρ) (cfg : POOCfg R S ρ)
    (s : POO L S) (x : PIn α R) :
    pooRoundQ ops cfg s x = pooQueryN ops x.queries s >>= fun s0 =>
      POO.pull ops cfg s0 x.time x.pullDraws >>= fun p =>
        POO.receive ops cfg p.1 x.time x.reward x.recvDraws >>= fun q => pure (q.1, p.2.2) := by
  unfold pooRoundQ
  rcases pooQueryN ops x.queries s with _ | s0
  · rfl
  · rw [ok_bind]
    dsimp only
    rcases POO.pull ops cfg s0 x.time x.pullDraws with _ | ⟨s1, ds1, v⟩
    · rfl
    · rw [ok_bind]
      dsimp only
      rcases POO.receive ops cfg s1 x.time x.reward x.recvDraws with _ | ⟨_, _⟩ <;> rfl

/-- One round with queries on the left, without queries on the right: if the left round
succeeds, so does the right one, with the same (index, point) and equivalent states. -/
theorem poo_roundQ_sim [LT S] [DecidableLT S] (hq : RoundHarmless ops E F) (cfg : POOCfg R S ρ)
    {s s' : POO L S} (h : POOEquiv E s s') (x : PIn α R) {s2 : POO L S} {v : Nat × Pt}
    (hr : pooRoundQ ops cfg s x = .ok (s2, v)) :
    ∃ s2', pooRoundQ ops cfg s' { x with queries := 0 } = .ok (s2', v) ∧ POOEquiv E s2 s2' := by
  rw [pooRoundQ_eq] at hr ⊢
  obtain ⟨s0, h0, hr⟩ := bind_eq_ok.1 hr
  have hs0 : POOEquiv E s0 s' :=
    pooEquiv_trans hq.trans (pooEquiv_symm hq.symm (poo_queryN_equiv hq _ h0)) h
  have key := RelRes.bind (poo_pull_resp hq cfg hs0 x.time x.pullDraws)
    (F := fun p => POO.receive ops cfg p.1 x.time x.reward x.recvDraws >>= fun q => pure (q.1, p.2.2))
    (G := fun p => POO.receive ops cfg p.1 x.time x.reward x.recvDraws >>= fun q => pure (q.1, p.2.2))
    (Rt := POOEquiv E) (Qt := Eq) fun s1 s1' o o' hs1 ho => by
      cases ho
      exact RelRes.bind (poo_receive_resp hq cfg hs1.1 hs1.2 x.time x.reward x.recvDraws)
        fun _ _ _ _ hs2 _ => ⟨hs2, rfl⟩
  rw [hr] at key
  obtain ⟨s2', v', e, hs2, hv⟩ := RelRes.ok_left key
  cases hv
  exact ⟨s2', e, hs2⟩

/-- Whole runs: inserting any number of `get_last_point` queries before the rounds of a
successful run does not change the sequence of (index, point) and leads to an equivalent state. -/
theorem poo_runQ_sim [LT S] [DecidableLT S] (hq : RoundHarmless ops E F) (cfg : POOCfg R S ρ)
    (inputs : List (PIn α R)) {s s' : POO L S} (h : POOEquiv E s s') {sf : POO L S}
    {os : List (Nat × Pt)} (hr : runM (pooRoundQ ops cfg) s inputs = .ok (sf, os)) :
    ∃ sf', runM (pooRoundQ ops cfg) s' (inputs.map (fun x => { x with queries := 0 })) = .ok (sf', os) ∧
      POOEquiv E sf sf' := by
  induction inputs generalizing s s' os with
  | nil => cases hr; exact ⟨s', rfl, h⟩
  | cons x rest ih =>
    obtain ⟨s2, v, os', h1, h2, rfl⟩ := runM_cons_eq_ok hr
    obtain ⟨s2', a1, a2⟩ := poo_roundQ_sim hq cfg h x h1
    obtain ⟨s3', b1, b2⟩ := ih a2 h2
    exact ⟨s3', by rw [List.map_cons, runM_cons_ok a1, b1]; rfl, b2⟩

end poo

end RL
end PyXAB
