/-
  The shape shared by the three `receive_reward`s: a payload pass which credits the reward to
  the cells `hit`, at most one expansion of the pulled leaf, a B-value pass.  `RecvEffect` is
  the extensional description used by the property files.
-/
import PyXABProofs.Lemmas.TBA_Descend

namespace PyXAB
namespace TBA
open Tree

variable {α σ R S : Type} {mo : List R → Nat → S} {vo : Option (List R → S)} {r : R}
  {hit : Nat → Prop}

/-- Node relation of one `receive`: the cells `hit` are credited, the others only refreshed. -/
def CreditR (mo : List R → Nat → S) (vo : Option (List R → S)) (r : R) (hit : Nat → Prop) :
    Nat → Node α (TBSt R S) → Node α (TBSt R S) → Prop :=
  fun i a b => (hit i → Hit mo vo r a.st b.st) ∧ (¬ hit i → Soft mo a.st b.st)

theorem Hit.soft_right {a b c : TBSt R S} (h1 : Hit mo vo r a b) (h2 : Soft mo b c) :
    Hit mo vo r a c := by
  obtain ⟨a1, a2, a3, a4, a5⟩ := h1
  obtain ⟨b1, b2, b3, b4, b5⟩ := h2
  refine ⟨b1.trans a1, b2.trans a2, b4.trans a3, ?_, b3.trans a5⟩
  rcases b5 with e | ⟨_, e⟩
  · rw [e]; exact a4
  · rw [e, a1, a2]

theorem Hit.soft_left {a b c : TBSt R S} (h1 : Soft mo a b) (h2 : Hit mo vo r b c) :
    Hit mo vo r a c := by
  obtain ⟨a1, a2, a3, a4, _⟩ := h1
  obtain ⟨b1, b2, b3, b4, b5⟩ := h2
  rw [a1, a2] at *
  exact ⟨b1, b2, b3.trans a4, b4, by rw [b5, a3]⟩

theorem Hit.good {a b : TBSt R S} (h : Hit mo vo r a b) (g : Good mo a) : Good mo b := by
  obtain ⟨a1, a2, _, a4, _⟩ := h
  refine ⟨by rw [a1, a2, g.1]; simp, fun _ => ?_⟩
  rw [a4, a1, a2]

theorem Hit.goodVar {f : List R → S} {r : R} {a b : TBSt R S}
    (h : Hit mo (some f) r a b) : GoodVar f b := by
  obtain ⟨_, a2, _, _, a5⟩ := h
  intro _
  rw [a5, a2]

theorem CreditR.soft_right {i : Nat} {a b c : Node α (TBSt R S)}
    (h1 : CreditR mo vo r hit i a b) (h2 : Soft mo b.st c.st) : CreditR mo vo r hit i a c :=
  ⟨fun h => (h1.1 h).soft_right h2, fun h => (h1.2 h).trans h2⟩

theorem CreditR.soft_left {i : Nat} {a b c : Node α (TBSt R S)}
    (h1 : Soft mo a.st b.st) (h2 : CreditR mo vo r hit i b c) : CreditR mo vo r hit i a c :=
  ⟨fun h => Hit.soft_left h1 (h2.1 h), fun h => h1.trans (h2.2 h)⟩

/-- `P3` is `Pm`, or (iff `grew`) `Pm` after splitting the leaf `last`. -/
structure Mid (s0 : σ) (Pm P3 : Part α σ) (last : Nat) (grew : Bool) : Prop where
  kind : P3.kind = Pm.kind
  dimn : dimn P3 = dimn Pm
  len : P3.nodes.length = Pm.nodes.length + (if grew then K Pm else 0)
  old : ∀ (i : Nat) (x : Node α σ), Pm.nodes[i]? = some x → ∃ x', P3.nodes[i]? = some x' ∧
    x'.depth = x.depth ∧ x'.index = x.index ∧ x'.parent = x.parent ∧ x'.box = x.box ∧
    x'.st = x.st ∧ (¬ (i = last ∧ grew = true) → x'.children = x.children) ∧
    (i = last → grew = true → x.children = none ∧
      x'.children = some (List.range' Pm.nodes.length (K Pm)))
  new : grew = true → ∃ ln, Pm.nodes[last]? = some ln ∧ ∀ j, j < K Pm →
    ∃ cn, P3.nodes[Pm.nodes.length + j]? = some cn ∧ cn.depth = ln.depth + 1 ∧
      cn.parent = some last ∧ cn.children = none ∧ cn.st = s0

theorem Mid.same (s0 : σ) (P : Part α σ) (last : Nat) : Mid s0 P P last false where
  kind := rfl
  dimn := rfl
  len := by simp
  old := fun i x hx => ⟨x, hx, rfl, rfl, rfl, rfl, rfl, fun _ => rfl, fun _ h => by cases h⟩
  new := fun h => by cases h

theorem Mid.of_step {s0 : σ} {P P' : Part α σ} {last : Nat} {nd : Node α σ} (W : WF P)
    (hp : P.nodes[last]? = some nd) (hleaf : nd.children = none) (S : Step P P' s0 last nd) :
    Mid s0 P P' last true where
  kind := S.kind_eq
  dimn := S.dimn_eq W hp
  len := by simp [S.len]
  old := by
    intro i x hx
    obtain ⟨x', h1, h2, h3, h4, h5, h6, h7, h8⟩ := S.pres hp hx
    refine ⟨x', h1, h2, h3, h4, h5, h6, fun hn => h7 (fun e => hn ⟨e, rfl⟩), fun e _ => ?_⟩
    subst e
    obtain rfl := getElem?_inj hp hx
    exact ⟨hleaf, h8 rfl⟩
  new := by
    intro _
    refine ⟨nd, hp, fun j hj => ?_⟩
    obtain ⟨cn, c1, c2, _, c4, c5, _, c7⟩ := S.new j hj
    exact ⟨cn, c1, c2, c4, c5, c7⟩

section expand
variable [Add α] [Sub α] [Mul α] [Div α] [OfNat α 2] [NatCast α]

omit [Add α] [Sub α] [Mul α] [Div α] [OfNat α 2] [NatCast α] in
theorem DrawsOK.arity_pos {k : Kind} {n : Nat} {ds : List (Draw α)} (h : DrawsOK k n ds) :
    1 ≤ k.arity n := by
  obtain ⟨hlen, hok⟩ := h
  cases ds with
  | nil => cases hlen
  | cons d ds => exact arity_pos_of_drawOK (hok d (List.mem_cons_self ..))

theorem expand_if (c : Bool) {P : Part α σ} (W : WF P) (s0 : σ) {last : Nat} {nd : Node α σ}
    (hp : P.nodes[last]? = some nd) (hleaf : c = true → nd.children = none)
    {ds : List (Draw α)} (hds : DrawsOK P.kind (dimn P) ds) :
    ∃ P3 ds', (if c = true then P.expand s0 last ds else .ok (P, ds)) = .ok (P3, ds') ∧
      Mid s0 P P3 last c ∧ WF P3 := by
  cases c with
  | false => exact ⟨P, ds, rfl, Mid.same s0 P last, W⟩
  | true =>
    obtain ⟨hlen, hok⟩ := hds
    cases ds with
    | nil => cases hlen
    | cons d ds =>
      obtain ⟨P3, e1, W3, S⟩ := expand_ok W s0 hp (hleaf rfl) ds (hok d (List.mem_cons_self ..))
      exact ⟨P3, ds, e1, Mid.of_step W hp (hleaf rfl) S, W3⟩

end expand

theorem BOnly.eq_of_leaf {a b : Node α (TBSt R S)} (h : BOnly a b) (hl : a.children = none)
    (hu : a.st.b = a.st.u) : b.st = a.st := by
  obtain ⟨h1, h2, h3, h4, h5, h6, h7⟩ := h
  have h8 : b.st.b = a.st.b := by
    rcases h7 hl with e | e
    · exact e
    · rw [e, hu]
  cases hb : b.st; cases ha : a.st
  simp only [hb, ha] at h1 h2 h3 h4 h5 h6 h8
  subst h1 h2 h3 h4 h5 h6 h8
  rfl

theorem RecvEffect.build {s0 : TBSt R S} {P Pm P3 P' : Part α (TBSt R S)} {last : Nat}
    {grew : Bool} (hs0 : s0.b = s0.u)
    (h1 : PRel (CreditR mo vo r hit) P Pm) (h2 : Mid s0 Pm P3 last grew)
    (h3 : PRel BOnlyR P3 P') : RecvEffect mo vo r s0 hit P P' last grew where
  kind := h3.kind.trans (h2.kind.trans h1.kind)
  dimn := h3.dimn_eq.trans (h2.dimn.trans h1.dimn_eq)
  len := by rw [h3.len, h2.len, h1.len, h1.K_eq]
  old := by
    intro i nd hi
    obtain ⟨m, m1, m2, m3⟩ := h1.node i nd hi
    obtain ⟨x, x1, x2, x3, x4, x5, x6, x7, x8⟩ := h2.old i m m1
    obtain ⟨y, y1, y2, y3⟩ := h3.node i x x1
    have hsoft : Soft mo m.st y.st := by rw [← x6]; exact BOnly.soft mo y3
    have hc := CreditR.soft_right m3 hsoft
    refine ⟨y, y1, y2.depth.trans (x2.trans m2.depth), y2.index.trans (x3.trans m2.index),
      y2.parent.trans (x4.trans m2.parent), y2.box.trans (x5.trans m2.box),
      fun hn => y2.children.trans ((x7 hn).trans m2.children), fun e g => ?_, hc.1, hc.2⟩
    obtain ⟨z1, z2⟩ := x8 e g
    refine ⟨m2.children.symm.trans z1, ?_⟩
    rw [y2.children, z2, h1.len, h1.K_eq]
  new := by
    intro g
    obtain ⟨ln, l1, l2⟩ := h2.new g
    obtain ⟨ln0, k1, k2, _⟩ := h1.bwd l1
    refine ⟨ln0, k1, fun j hj => ?_⟩
    rw [← h1.K_eq] at hj
    obtain ⟨cn, c1, c2, c3, c4, c5⟩ := l2 j hj
    obtain ⟨y, y1, y2, y3⟩ := h3.node _ cn c1
    rw [h1.len] at y1
    refine ⟨y, y1, by rw [y2.depth, c2, k2.depth], y2.parent.trans c3, y2.children.trans c4, ?_⟩
    rw [BOnly.eq_of_leaf y3 c4 (by rw [c5]; exact hs0), c5]

theorem RecvEffect.new_node {s0 : TBSt R S} {P P' : Part α (TBSt R S)} {last : Nat} {grew : Bool}
    (E : RecvEffect mo vo r s0 hit P P' last grew) {i : Nat} {nd' : Node α (TBSt R S)}
    (hge : P.nodes.length ≤ i) (hi : P'.nodes[i]? = some nd') :
    grew = true ∧ ∃ ln, P.nodes[last]? = some ln ∧ nd'.depth = ln.depth + 1 ∧
      nd'.parent = some last ∧ nd'.children = none ∧ nd'.st = s0 := by
  have hl := lt_length_of_getElem? hi
  rw [E.len] at hl
  cases grew with
  | false => exact absurd hl (Nat.not_lt_of_le hge)
  | true =>
    obtain ⟨ln, l1, h2⟩ := E.new rfl
    obtain ⟨cn, c1, c2⟩ := h2 (i - P.nodes.length) (Nat.sub_lt_left_of_lt_add hge hl)
    rw [Nat.add_sub_cancel' hge] at c1
    obtain rfl := getElem?_inj c1 hi
    exact ⟨rfl, ln, l1, c2⟩

/-- Any property `Q` of payloads which the fresh payload `s0` has and which `Hit` and `Soft` keep
passes from all cells before one `receive` to all cells after it. -/
theorem RecvEffect.forall_st {s0 : TBSt R S} {P P' : Part α (TBSt R S)} {last : Nat} {grew : Bool}
    (E : RecvEffect mo vo r s0 hit P P' last grew) (Q : TBSt R S → Prop)
    (hq0 : Q s0) (hHit : ∀ a b, Hit mo vo r a b → Q a → Q b)
    (hSoft : ∀ a b, Soft mo a b → Q a → Q b)
    (hP : ∀ (i : Nat) (nd : Node α (TBSt R S)), P.nodes[i]? = some nd → Q nd.st)
    (i : Nat) (nd' : Node α (TBSt R S)) (hi : P'.nodes[i]? = some nd') : Q nd'.st := by
  classical
  by_cases hlt : i < P.nodes.length
  · have hnd := List.getElem?_eq_getElem hlt
    obtain ⟨x, x1, _, _, _, _, _, _, x8, x9⟩ := E.old i _ hnd
    obtain rfl := getElem?_inj x1 hi
    by_cases hh : hit i
    · exact hHit _ _ (x8 hh) (hP i _ hnd)
    · exact hSoft _ _ (x9 hh) (hP i _ hnd)
  · obtain ⟨_, _, _, _, _, _, h⟩ := E.new_node (Nat.le_of_not_lt hlt) hi
    exact h ▸ hq0

theorem RecvEffect.pinv {s0 : TBSt R S} {P P' : Part α (TBSt R S)} {last : Nat} {grew : Bool}
    (E : RecvEffect mo vo r s0 hit P P' last grew) (W' : WF P') (hs0 : Good mo s0)
    (hP : PInv mo P) : PInv mo P' :=
  ⟨W', E.forall_st (Good mo) hs0 (fun _ _ h g => h.good g) (fun _ _ h g => h.good g) hP.good⟩

section init
variable [Add α] [Sub α] [Mul α] [Div α] [OfNat α 2] [NatCast α]

theorem init_expand (k : Kind) (domain : Box α) (s0 : σ) {ds : List (Draw α)}
    (hds : DrawsOK k domain.length ds) :
    ∃ P1 ds', (Part.init k domain s0).expand s0 0 ds = .ok (P1, ds') ∧ WF P1 ∧ P1.kind = k ∧
      dimn P1 = domain.length ∧ P1.isLeaf 0 = false ∧
      (∀ (i : Nat) (nd : Node α σ), P1.nodes[i]? = some nd → nd.st = s0 ∧ nd.depth ≤ 1) := by
  obtain ⟨hlen, hok⟩ := hds
  cases ds with
  | nil => cases hlen
  | cons d ds =>
    obtain ⟨P1, e1, W1, hk, hdim, ⟨r, cs, hr, hcs⟩, hall⟩ :=
      init_expand_ok k domain s0 ds (hok d (List.mem_cons_self ..))
    exact ⟨P1, ds, e1, W1, hk, hdim, (isLeaf_eq_false_iff hr).2 ⟨cs, hcs⟩,
      fun i nd hi => ⟨(hall i nd hi).1, (hall i nd hi).2.1⟩⟩

end init

end TBA
end PyXAB
