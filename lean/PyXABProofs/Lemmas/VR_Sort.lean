/-
  Pure list lemmas about the stable descending insertion sort `VROOM.sortDesc` used by the
  ranking stage of VROOM (`sorted(nodes, key=rank_fun, reverse=True)`).
-/
import PyXABModel.Model.VROOM
import Mathlib.Order.Defs.LinearOrder
import Mathlib.Data.List.Induction

namespace PyXAB
namespace VR
open VROOM

variable {S : Type} [LinearOrder S]

/-- the order in which `sortDesc` leaves the list: non-increasing keys -/
abbrev Desc (key : Nat → S) (l : List Nat) : Prop := l.Pairwise (fun a b => key b ≤ key a)

theorem insertDesc_cons_le {key : Nat → S} {x y : Nat} (h : key x ≤ key y) (ys : List Nat) :
    insertDesc key x (y :: ys) = y :: insertDesc key x ys := by
  rw [insertDesc, if_pos h]

theorem insertDesc_cons_gt {key : Nat → S} {x y : Nat} (h : ¬ key x ≤ key y) (ys : List Nat) :
    insertDesc key x (y :: ys) = x :: y :: ys := by
  rw [insertDesc, if_neg h]

theorem insertDesc_perm (key : Nat → S) (x : Nat) (l : List Nat) :
    (insertDesc key x l).Perm (x :: l) := by
  induction l with
  | nil => exact List.Perm.refl _
  | cons y ys ih =>
    by_cases h : key x ≤ key y
    · rw [insertDesc_cons_le h]
      exact (ih.cons y).trans (List.Perm.swap x y ys)
    · rw [insertDesc_cons_gt h]

theorem insertDesc_sorted (key : Nat → S) (x : Nat) (l : List Nat) (h : Desc key l) :
    Desc key (insertDesc key x l) := by
  induction l with
  | nil => exact List.pairwise_singleton _ _
  | cons y ys ih =>
    have h' := List.pairwise_cons.1 h
    by_cases hxy : key x ≤ key y
    · rw [insertDesc_cons_le hxy]
      refine List.pairwise_cons.2 ⟨fun a ha => ?_, ih h'.2⟩
      rcases List.mem_cons.1 ((insertDesc_perm key x ys).mem_iff.1 ha) with rfl | ha
      · exact hxy
      · exact h'.1 a ha
    · rw [insertDesc_cons_gt hxy]
      have hlt : key y ≤ key x := le_of_lt (lt_of_not_ge hxy)
      refine List.pairwise_cons.2 ⟨fun a ha => ?_, h⟩
      rcases List.mem_cons.1 ha with rfl | ha
      · exact hlt
      · exact le_trans (h'.1 a ha) hlt

/-- In a sorted list the new element is placed behind every element of the same key, and the
elements of the other keys keep their places. -/
theorem insertDesc_filter (key : Nat → S) (x : Nat) (k : S) (l : List Nat) (h : Desc key l) :
    (insertDesc key x l).filter (fun a => decide (key a = k)) =
      l.filter (fun a => decide (key a = k)) ++ (if key x = k then [x] else []) := by
  have hx : [x].filter (fun a => decide (key a = k)) = if key x = k then [x] else [] := by
    by_cases hx : key x = k <;> simp [hx]
  induction l with
  | nil => exact hx
  | cons y ys ih =>
    have h' := List.pairwise_cons.1 h
    by_cases hxy : key x ≤ key y
    · rw [insertDesc_cons_le hxy, List.filter_cons, List.filter_cons, ih h'.2]
      split <;> rfl
    · -- every element of `y :: ys` has a key below that of `x`
      rw [insertDesc_cons_gt hxy, ← List.singleton_append, List.filter_append, hx]
      by_cases hk : key x = k
      · have hnone : (y :: ys).filter (fun a => decide (key a = k)) = [] := by
          refine List.filter_eq_nil_iff.2 fun a ha => ?_
          have hle : key a ≤ key y := by
            rcases List.mem_cons.1 ha with rfl | ha
            · exact le_refl _
            · exact h'.1 a ha
          exact fun e => absurd ((of_decide_eq_true e).trans hk.symm)
            (ne_of_lt (lt_of_le_of_lt hle (lt_of_not_ge hxy)))
        rw [hnone, List.append_nil, List.nil_append]
      · rw [if_neg hk, List.nil_append, List.append_nil]

theorem sortDesc_append_singleton (key : Nat → S) (l : List Nat) (x : Nat) :
    sortDesc key (l ++ [x]) = insertDesc key x (sortDesc key l) := by
  simp [sortDesc, List.foldl_append]

theorem sortDesc_nil (key : Nat → S) : sortDesc key [] = [] := rfl

theorem sortDesc_perm (key : Nat → S) (l : List Nat) : (sortDesc key l).Perm l := by
  induction l using List.reverseRecOn with
  | nil => exact List.Perm.refl _
  | append_singleton l x ih =>
    rw [sortDesc_append_singleton]
    refine (insertDesc_perm key x _).trans ?_
    refine ((ih.cons x)).trans ?_
    exact (List.perm_append_singleton x l).symm

theorem sortDesc_sorted (key : Nat → S) (l : List Nat) : Desc key (sortDesc key l) := by
  induction l using List.reverseRecOn with
  | nil => exact List.Pairwise.nil
  | append_singleton l x ih =>
    rw [sortDesc_append_singleton]
    exact insertDesc_sorted key x _ ih

theorem sortDesc_stable_filter (key : Nat → S) (l : List Nat) (k : S) :
    (sortDesc key l).filter (fun a => decide (key a = k)) =
      l.filter (fun a => decide (key a = k)) := by
  induction l using List.reverseRecOn with
  | nil => rfl
  | append_singleton l x ih =>
    rw [sortDesc_append_singleton, insertDesc_filter key x k _ (sortDesc_sorted key l), ih,
      List.filter_append]
    by_cases hx : key x = k <;> simp [hx]

theorem sortDesc_stable (key : Nat → S) (l : List Nat) {a b : Nat}
    (hab : List.Sublist [a, b] l) (hk : key a = key b) :
    List.Sublist [a, b] (sortDesc key l) := by
  have h1 : List.Sublist ([a, b].filter (fun c => decide (key c = key b)))
      (l.filter (fun c => decide (key c = key b))) := hab.filter _
  rw [← sortDesc_stable_filter key l (key b)] at h1
  have h2 : [a, b].filter (fun c => decide (key c = key b)) = [a, b] := by
    simp [hk]
  rw [h2] at h1
  exact h1.trans List.filter_sublist

/-- Ranking by position in the sorted list: if `rk a` is the 1-based position of `a` in
`sortDesc key l`, then the ranks of `l` are a permutation of `1..l.length`, non-increasing in
the key, with ties broken by the position in `l`. -/
theorem ranks_of_sortDesc (key : Nat → S) (l : List Nat) (rk : Nat → Nat)
    (h : ∀ i a, (sortDesc key l)[i]? = some a → rk a = i + 1) :
    ((l.map rk).Perm (List.range' 1 l.length)) ∧
    (∀ a b, a ∈ l → b ∈ l → rk a < rk b → key b ≤ key a) ∧
    (∀ a b, List.Sublist [a, b] l → key a = key b → rk a < rk b) := by
  have hrk : ∀ i (hi : i < (sortDesc key l).length), rk (sortDesc key l)[i] = i + 1 :=
    fun i hi => h i _ (List.getElem?_eq_getElem hi)
  have hpos : ∀ a ∈ l, ∃ i, ∃ hi : i < (sortDesc key l).length,
      (sortDesc key l)[i] = a := fun a ha =>
    List.getElem_of_mem ((sortDesc_perm key l).mem_iff.2 ha)
  refine ⟨?_, fun a b ha hb hlt => ?_, fun a b hab hk => ?_⟩
  · have e : (sortDesc key l).map rk = List.range' 1 l.length :=
      List.ext_getElem (by rw [List.length_map, List.length_range', (sortDesc_perm key l).length_eq])
        (fun i h1 _ => by
          rw [List.getElem_map, List.getElem_range', hrk i (List.length_map rk ▸ h1), Nat.one_mul,
            Nat.add_comm])
    rw [← e]
    exact ((sortDesc_perm key l).map rk).symm
  · obtain ⟨i, hi, rfl⟩ := hpos a ha
    obtain ⟨j, hj, rfl⟩ := hpos b hb
    rw [hrk i hi, hrk j hj] at hlt
    exact List.pairwise_iff_getElem.1 (sortDesc_sorted key l) i j hi hj (Nat.lt_of_succ_lt_succ hlt)
  · have hp : (sortDesc key l).Pairwise (fun a b => rk a < rk b) :=
      List.pairwise_iff_getElem.2 fun i j hi hj hij => by
        rw [hrk i hi, hrk j hj]; exact Nat.succ_lt_succ hij
    exact List.pairwise_iff_forall_sublist.1 hp (sortDesc_stable key l hab hk)

end VR
end PyXAB
