/-
  GENERATED by harness/translate_rules.py from /repo's classes: what the real selection code chose on every
  order type of its inputs.  Do not edit: rewritten and re-checked on every check run.
-/
import PyXABProofs.Props.OrderTie
namespace PyXAB.GeneratedOT.OrderTieC05
open PyXAB PyXAB.OT

/-- T_HOO.optTraverse: child followed among K children carrying B-values -/
def pick_T_HOO : Table :=
  [([0, 0], [1]),
   ([0, 1], [1]),
   ([1, 0], [0]),
   ([0, 0, 0], [2]),
   ([0, 0, 1], [2]),
   ([0, 1, 0], [1]),
   ([0, 1, 1], [2]),
   ([0, 1, 2], [2]),
   ([0, 2, 1], [1]),
   ([1, 0, 0], [0]),
   ([1, 0, 1], [2]),
   ([1, 0, 2], [2]),
   ([1, 1, 0], [1]),
   ([1, 2, 0], [1]),
   ([2, 0, 1], [0]),
   ([2, 1, 0], [0]),
   ([0, 0, 0, 0], [3]),
   ([0, 0, 0, 1], [3]),
   ([0, 0, 1, 0], [2]),
   ([0, 0, 1, 1], [3]),
   ([0, 0, 1, 2], [3]),
   ([0, 0, 2, 1], [2]),
   ([0, 1, 0, 0], [1]),
   ([0, 1, 0, 1], [3]),
   ([0, 1, 0, 2], [3]),
   ([0, 1, 1, 0], [2]),
   ([0, 1, 1, 1], [3]),
   ([0, 1, 1, 2], [3]),
   ([0, 1, 2, 0], [2]),
   ([0, 1, 2, 1], [2]),
   ([0, 1, 2, 2], [3]),
   ([0, 1, 2, 3], [3]),
   ([0, 1, 3, 2], [2]),
   ([0, 2, 0, 1], [1]),
   ([0, 2, 1, 0], [1]),
   ([0, 2, 1, 1], [1]),
   ([0, 2, 1, 2], [3]),
   ([0, 2, 1, 3], [3]),
   ([0, 2, 2, 1], [2]),
   ([0, 2, 3, 1], [2]),
   ([0, 3, 1, 2], [1]),
   ([0, 3, 2, 1], [1]),
   ([1, 0, 0, 0], [0]),
   ([1, 0, 0, 1], [3]),
   ([1, 0, 0, 2], [3]),
   ([1, 0, 1, 0], [2]),
   ([1, 0, 1, 1], [3]),
   ([1, 0, 1, 2], [3]),
   ([1, 0, 2, 0], [2]),
   ([1, 0, 2, 1], [2]),
   ([1, 0, 2, 2], [3]),
   ([1, 0, 2, 3], [3]),
   ([1, 0, 3, 2], [2]),
   ([1, 1, 0, 0], [1]),
   ([1, 1, 0, 1], [3]),
   ([1, 1, 0, 2], [3]),
   ([1, 1, 1, 0], [2]),
   ([1, 1, 2, 0], [2]),
   ([1, 2, 0, 0], [1]),
   ([1, 2, 0, 1], [1]),
   ([1, 2, 0, 2], [3]),
   ([1, 2, 0, 3], [3]),
   ([1, 2, 1, 0], [1]),
   ([1, 2, 2, 0], [2]),
   ([1, 2, 3, 0], [2]),
   ([1, 3, 0, 2], [1]),
   ([1, 3, 2, 0], [1]),
   ([2, 0, 0, 1], [0]),
   ([2, 0, 1, 0], [0]),
   ([2, 0, 1, 1], [0]),
   ([2, 0, 1, 2], [3]),
   ([2, 0, 1, 3], [3]),
   ([2, 0, 2, 1], [2]),
   ([2, 0, 3, 1], [2]),
   ([2, 1, 0, 0], [0]),
   ([2, 1, 0, 1], [0]),
   ([2, 1, 0, 2], [3]),
   ([2, 1, 0, 3], [3]),
   ([2, 1, 1, 0], [0]),
   ([2, 1, 2, 0], [2]),
   ([2, 1, 3, 0], [2]),
   ([2, 2, 0, 1], [1]),
   ([2, 2, 1, 0], [1]),
   ([2, 3, 0, 1], [1]),
   ([2, 3, 1, 0], [1]),
   ([3, 0, 1, 2], [0]),
   ([3, 0, 2, 1], [0]),
   ([3, 1, 0, 2], [0]),
   ([3, 1, 2, 0], [0]),
   ([3, 2, 0, 1], [0]),
   ([3, 2, 1, 0], [0])]

theorem pick_T_HOO_agrees : agrees (pick (S := Nat)) pick_T_HOO = true := by decide +kernel
theorem pick_T_HOO_keys : pick_T_HOO.map Prod.fst = keys [2, 3, 4] := by decide +kernel

/-- for ALL values of any linear order (list lengths [2, 3, 4]): the model rule `pick` returns what the real code
returned on the list's order type -/
theorem pick_T_HOO_tie {S : Type} [LinearOrder S] [Inhabited S] (vs : List S) (hk : vs.length ∈ [2, 3, 4]) :
    lookup pick_T_HOO (denseRanks vs) = some (pick vs) :=
  pick_tie pick_T_HOO [2, 3, 4] pick_T_HOO_agrees (complete_of_keys pick_T_HOO_keys) vs hk
    ((by decide : ∀ k ∈ [2, 3, 4], 1 ≤ k) _ hk)

/-- HCT.optTraverse -/
def pick_HCT : Table :=
  [([0, 0], [1]),
   ([0, 1], [1]),
   ([1, 0], [0]),
   ([0, 0, 0], [2]),
   ([0, 0, 1], [2]),
   ([0, 1, 0], [1]),
   ([0, 1, 1], [2]),
   ([0, 1, 2], [2]),
   ([0, 2, 1], [1]),
   ([1, 0, 0], [0]),
   ([1, 0, 1], [2]),
   ([1, 0, 2], [2]),
   ([1, 1, 0], [1]),
   ([1, 2, 0], [1]),
   ([2, 0, 1], [0]),
   ([2, 1, 0], [0]),
   ([0, 0, 0, 0], [3]),
   ([0, 0, 0, 1], [3]),
   ([0, 0, 1, 0], [2]),
   ([0, 0, 1, 1], [3]),
   ([0, 0, 1, 2], [3]),
   ([0, 0, 2, 1], [2]),
   ([0, 1, 0, 0], [1]),
   ([0, 1, 0, 1], [3]),
   ([0, 1, 0, 2], [3]),
   ([0, 1, 1, 0], [2]),
   ([0, 1, 1, 1], [3]),
   ([0, 1, 1, 2], [3]),
   ([0, 1, 2, 0], [2]),
   ([0, 1, 2, 1], [2]),
   ([0, 1, 2, 2], [3]),
   ([0, 1, 2, 3], [3]),
   ([0, 1, 3, 2], [2]),
   ([0, 2, 0, 1], [1]),
   ([0, 2, 1, 0], [1]),
   ([0, 2, 1, 1], [1]),
   ([0, 2, 1, 2], [3]),
   ([0, 2, 1, 3], [3]),
   ([0, 2, 2, 1], [2]),
   ([0, 2, 3, 1], [2]),
   ([0, 3, 1, 2], [1]),
   ([0, 3, 2, 1], [1]),
   ([1, 0, 0, 0], [0]),
   ([1, 0, 0, 1], [3]),
   ([1, 0, 0, 2], [3]),
   ([1, 0, 1, 0], [2]),
   ([1, 0, 1, 1], [3]),
   ([1, 0, 1, 2], [3]),
   ([1, 0, 2, 0], [2]),
   ([1, 0, 2, 1], [2]),
   ([1, 0, 2, 2], [3]),
   ([1, 0, 2, 3], [3]),
   ([1, 0, 3, 2], [2]),
   ([1, 1, 0, 0], [1]),
   ([1, 1, 0, 1], [3]),
   ([1, 1, 0, 2], [3]),
   ([1, 1, 1, 0], [2]),
   ([1, 1, 2, 0], [2]),
   ([1, 2, 0, 0], [1]),
   ([1, 2, 0, 1], [1]),
   ([1, 2, 0, 2], [3]),
   ([1, 2, 0, 3], [3]),
   ([1, 2, 1, 0], [1]),
   ([1, 2, 2, 0], [2]),
   ([1, 2, 3, 0], [2]),
   ([1, 3, 0, 2], [1]),
   ([1, 3, 2, 0], [1]),
   ([2, 0, 0, 1], [0]),
   ([2, 0, 1, 0], [0]),
   ([2, 0, 1, 1], [0]),
   ([2, 0, 1, 2], [3]),
   ([2, 0, 1, 3], [3]),
   ([2, 0, 2, 1], [2]),
   ([2, 0, 3, 1], [2]),
   ([2, 1, 0, 0], [0]),
   ([2, 1, 0, 1], [0]),
   ([2, 1, 0, 2], [3]),
   ([2, 1, 0, 3], [3]),
   ([2, 1, 1, 0], [0]),
   ([2, 1, 2, 0], [2]),
   ([2, 1, 3, 0], [2]),
   ([2, 2, 0, 1], [1]),
   ([2, 2, 1, 0], [1]),
   ([2, 3, 0, 1], [1]),
   ([2, 3, 1, 0], [1]),
   ([3, 0, 1, 2], [0]),
   ([3, 0, 2, 1], [0]),
   ([3, 1, 0, 2], [0]),
   ([3, 1, 2, 0], [0]),
   ([3, 2, 0, 1], [0]),
   ([3, 2, 1, 0], [0])]

theorem pick_HCT_agrees : agrees (pick (S := Nat)) pick_HCT = true := by decide +kernel
theorem pick_HCT_keys : pick_HCT.map Prod.fst = keys [2, 3, 4] :=
  (by decide +kernel : pick_HCT.map Prod.fst = pick_T_HOO.map Prod.fst).trans pick_T_HOO_keys

/-- for ALL values of any linear order (list lengths [2, 3, 4]): the model rule `pick` returns what the real code
returned on the list's order type -/
theorem pick_HCT_tie {S : Type} [LinearOrder S] [Inhabited S] (vs : List S) (hk : vs.length ∈ [2, 3, 4]) :
    lookup pick_HCT (denseRanks vs) = some (pick vs) :=
  pick_tie pick_HCT [2, 3, 4] pick_HCT_agrees (complete_of_keys pick_HCT_keys) vs hk
    ((by decide : ∀ k ∈ [2, 3, 4], 1 ≤ k) _ hk)

/-- VHCT.optTraverse -/
def pick_VHCT : Table :=
  [([0, 0], [1]),
   ([0, 1], [1]),
   ([1, 0], [0]),
   ([0, 0, 0], [2]),
   ([0, 0, 1], [2]),
   ([0, 1, 0], [1]),
   ([0, 1, 1], [2]),
   ([0, 1, 2], [2]),
   ([0, 2, 1], [1]),
   ([1, 0, 0], [0]),
   ([1, 0, 1], [2]),
   ([1, 0, 2], [2]),
   ([1, 1, 0], [1]),
   ([1, 2, 0], [1]),
   ([2, 0, 1], [0]),
   ([2, 1, 0], [0]),
   ([0, 0, 0, 0], [3]),
   ([0, 0, 0, 1], [3]),
   ([0, 0, 1, 0], [2]),
   ([0, 0, 1, 1], [3]),
   ([0, 0, 1, 2], [3]),
   ([0, 0, 2, 1], [2]),
   ([0, 1, 0, 0], [1]),
   ([0, 1, 0, 1], [3]),
   ([0, 1, 0, 2], [3]),
   ([0, 1, 1, 0], [2]),
   ([0, 1, 1, 1], [3]),
   ([0, 1, 1, 2], [3]),
   ([0, 1, 2, 0], [2]),
   ([0, 1, 2, 1], [2]),
   ([0, 1, 2, 2], [3]),
   ([0, 1, 2, 3], [3]),
   ([0, 1, 3, 2], [2]),
   ([0, 2, 0, 1], [1]),
   ([0, 2, 1, 0], [1]),
   ([0, 2, 1, 1], [1]),
   ([0, 2, 1, 2], [3]),
   ([0, 2, 1, 3], [3]),
   ([0, 2, 2, 1], [2]),
   ([0, 2, 3, 1], [2]),
   ([0, 3, 1, 2], [1]),
   ([0, 3, 2, 1], [1]),
   ([1, 0, 0, 0], [0]),
   ([1, 0, 0, 1], [3]),
   ([1, 0, 0, 2], [3]),
   ([1, 0, 1, 0], [2]),
   ([1, 0, 1, 1], [3]),
   ([1, 0, 1, 2], [3]),
   ([1, 0, 2, 0], [2]),
   ([1, 0, 2, 1], [2]),
   ([1, 0, 2, 2], [3]),
   ([1, 0, 2, 3], [3]),
   ([1, 0, 3, 2], [2]),
   ([1, 1, 0, 0], [1]),
   ([1, 1, 0, 1], [3]),
   ([1, 1, 0, 2], [3]),
   ([1, 1, 1, 0], [2]),
   ([1, 1, 2, 0], [2]),
   ([1, 2, 0, 0], [1]),
   ([1, 2, 0, 1], [1]),
   ([1, 2, 0, 2], [3]),
   ([1, 2, 0, 3], [3]),
   ([1, 2, 1, 0], [1]),
   ([1, 2, 2, 0], [2]),
   ([1, 2, 3, 0], [2]),
   ([1, 3, 0, 2], [1]),
   ([1, 3, 2, 0], [1]),
   ([2, 0, 0, 1], [0]),
   ([2, 0, 1, 0], [0]),
   ([2, 0, 1, 1], [0]),
   ([2, 0, 1, 2], [3]),
   ([2, 0, 1, 3], [3]),
   ([2, 0, 2, 1], [2]),
   ([2, 0, 3, 1], [2]),
   ([2, 1, 0, 0], [0]),
   ([2, 1, 0, 1], [0]),
   ([2, 1, 0, 2], [3]),
   ([2, 1, 0, 3], [3]),
   ([2, 1, 1, 0], [0]),
   ([2, 1, 2, 0], [2]),
   ([2, 1, 3, 0], [2]),
   ([2, 2, 0, 1], [1]),
   ([2, 2, 1, 0], [1]),
   ([2, 3, 0, 1], [1]),
   ([2, 3, 1, 0], [1]),
   ([3, 0, 1, 2], [0]),
   ([3, 0, 2, 1], [0]),
   ([3, 1, 0, 2], [0]),
   ([3, 1, 2, 0], [0]),
   ([3, 2, 0, 1], [0]),
   ([3, 2, 1, 0], [0])]

theorem pick_VHCT_agrees : agrees (pick (S := Nat)) pick_VHCT = true := by decide +kernel
theorem pick_VHCT_keys : pick_VHCT.map Prod.fst = keys [2, 3, 4] :=
  (by decide +kernel : pick_VHCT.map Prod.fst = pick_T_HOO.map Prod.fst).trans pick_T_HOO_keys

/-- for ALL values of any linear order (list lengths [2, 3, 4]): the model rule `pick` returns what the real code
returned on the list's order type -/
theorem pick_VHCT_tie {S : Type} [LinearOrder S] [Inhabited S] (vs : List S) (hk : vs.length ∈ [2, 3, 4]) :
    lookup pick_VHCT (denseRanks vs) = some (pick vs) :=
  pick_tie pick_VHCT [2, 3, 4] pick_VHCT_agrees (complete_of_keys pick_VHCT_keys) vs hk
    ((by decide : ∀ k ∈ [2, 3, 4], 1 ≤ k) _ hk)

/-- T_HOO.updateBackwardTree: B of a cell from its U and its 2..3 children's B (-inf, U, B1..) -/
def backB_T_HOO : Table :=
  [([0, 0, 0, 0], [0]),
   ([0, 0, 0, 1], [0]),
   ([0, 0, 1, 0], [0]),
   ([0, 0, 1, 1], [0]),
   ([0, 0, 1, 2], [0]),
   ([0, 0, 2, 1], [0]),
   ([0, 1, 0, 0], [0]),
   ([0, 1, 0, 1], [1]),
   ([0, 1, 0, 2], [1]),
   ([0, 1, 1, 0], [1]),
   ([0, 1, 1, 1], [1]),
   ([0, 1, 1, 2], [1]),
   ([0, 1, 2, 0], [1]),
   ([0, 1, 2, 1], [1]),
   ([0, 1, 2, 2], [1]),
   ([0, 1, 2, 3], [1]),
   ([0, 1, 3, 2], [1]),
   ([0, 2, 0, 1], [1]),
   ([0, 2, 1, 0], [1]),
   ([0, 2, 1, 1], [1]),
   ([0, 2, 1, 2], [2]),
   ([0, 2, 1, 3], [2]),
   ([0, 2, 2, 1], [2]),
   ([0, 2, 3, 1], [2]),
   ([0, 3, 1, 2], [2]),
   ([0, 3, 2, 1], [2]),
   ([0, 0, 0, 0, 0], [0]),
   ([0, 0, 0, 0, 1], [0]),
   ([0, 0, 0, 1, 0], [0]),
   ([0, 0, 0, 1, 1], [0]),
   ([0, 0, 0, 1, 2], [0]),
   ([0, 0, 0, 2, 1], [0]),
   ([0, 0, 1, 0, 0], [0]),
   ([0, 0, 1, 0, 1], [0]),
   ([0, 0, 1, 0, 2], [0]),
   ([0, 0, 1, 1, 0], [0]),
   ([0, 0, 1, 1, 1], [0]),
   ([0, 0, 1, 1, 2], [0]),
   ([0, 0, 1, 2, 0], [0]),
   ([0, 0, 1, 2, 1], [0]),
   ([0, 0, 1, 2, 2], [0]),
   ([0, 0, 1, 2, 3], [0]),
   ([0, 0, 1, 3, 2], [0]),
   ([0, 0, 2, 0, 1], [0]),
   ([0, 0, 2, 1, 0], [0]),
   ([0, 0, 2, 1, 1], [0]),
   ([0, 0, 2, 1, 2], [0]),
   ([0, 0, 2, 1, 3], [0]),
   ([0, 0, 2, 2, 1], [0]),
   ([0, 0, 2, 3, 1], [0]),
   ([0, 0, 3, 1, 2], [0]),
   ([0, 0, 3, 2, 1], [0]),
   ([0, 1, 0, 0, 0], [0]),
   ([0, 1, 0, 0, 1], [1]),
   ([0, 1, 0, 0, 2], [1]),
   ([0, 1, 0, 1, 0], [1]),
   ([0, 1, 0, 1, 1], [1]),
   ([0, 1, 0, 1, 2], [1]),
   ([0, 1, 0, 2, 0], [1]),
   ([0, 1, 0, 2, 1], [1]),
   ([0, 1, 0, 2, 2], [1]),
   ([0, 1, 0, 2, 3], [1]),
   ([0, 1, 0, 3, 2], [1]),
   ([0, 1, 1, 0, 0], [1]),
   ([0, 1, 1, 0, 1], [1]),
   ([0, 1, 1, 0, 2], [1]),
   ([0, 1, 1, 1, 0], [1]),
   ([0, 1, 1, 1, 1], [1]),
   ([0, 1, 1, 1, 2], [1]),
   ([0, 1, 1, 2, 0], [1]),
   ([0, 1, 1, 2, 1], [1]),
   ([0, 1, 1, 2, 2], [1]),
   ([0, 1, 1, 2, 3], [1]),
   ([0, 1, 1, 3, 2], [1]),
   ([0, 1, 2, 0, 0], [1]),
   ([0, 1, 2, 0, 1], [1]),
   ([0, 1, 2, 0, 2], [1]),
   ([0, 1, 2, 0, 3], [1]),
   ([0, 1, 2, 1, 0], [1]),
   ([0, 1, 2, 1, 1], [1]),
   ([0, 1, 2, 1, 2], [1]),
   ([0, 1, 2, 1, 3], [1]),
   ([0, 1, 2, 2, 0], [1]),
   ([0, 1, 2, 2, 1], [1]),
   ([0, 1, 2, 2, 2], [1]),
   ([0, 1, 2, 2, 3], [1]),
   ([0, 1, 2, 3, 0], [1]),
   ([0, 1, 2, 3, 1], [1]),
   ([0, 1, 2, 3, 2], [1]),
   ([0, 1, 2, 3, 3], [1]),
   ([0, 1, 2, 3, 4], [1]),
   ([0, 1, 2, 4, 3], [1]),
   ([0, 1, 3, 0, 2], [1]),
   ([0, 1, 3, 1, 2], [1]),
   ([0, 1, 3, 2, 0], [1]),
   ([0, 1, 3, 2, 1], [1]),
   ([0, 1, 3, 2, 2], [1]),
   ([0, 1, 3, 2, 3], [1]),
   ([0, 1, 3, 2, 4], [1]),
   ([0, 1, 3, 3, 2], [1]),
   ([0, 1, 3, 4, 2], [1]),
   ([0, 1, 4, 2, 3], [1]),
   ([0, 1, 4, 3, 2], [1]),
   ([0, 2, 0, 0, 1], [1]),
   ([0, 2, 0, 1, 0], [1]),
   ([0, 2, 0, 1, 1], [1]),
   ([0, 2, 0, 1, 2], [2]),
   ([0, 2, 0, 1, 3], [2]),
   ([0, 2, 0, 2, 1], [2]),
   ([0, 2, 0, 3, 1], [2]),
   ([0, 2, 1, 0, 0], [1]),
   ([0, 2, 1, 0, 1], [1]),
   ([0, 2, 1, 0, 2], [2]),
   ([0, 2, 1, 0, 3], [2]),
   ([0, 2, 1, 1, 0], [1]),
   ([0, 2, 1, 1, 1], [1]),
   ([0, 2, 1, 1, 2], [2]),
   ([0, 2, 1, 1, 3], [2]),
   ([0, 2, 1, 2, 0], [2]),
   ([0, 2, 1, 2, 1], [2]),
   ([0, 2, 1, 2, 2], [2]),
   ([0, 2, 1, 2, 3], [2]),
   ([0, 2, 1, 3, 0], [2]),
   ([0, 2, 1, 3, 1], [2]),
   ([0, 2, 1, 3, 2], [2]),
   ([0, 2, 1, 3, 3], [2]),
   ([0, 2, 1, 3, 4], [2]),
   ([0, 2, 1, 4, 3], [2]),
   ([0, 2, 2, 0, 1], [2]),
   ([0, 2, 2, 1, 0], [2]),
   ([0, 2, 2, 1, 1], [2]),
   ([0, 2, 2, 1, 2], [2]),
   ([0, 2, 2, 1, 3], [2]),
   ([0, 2, 2, 2, 1], [2]),
   ([0, 2, 2, 3, 1], [2]),
   ([0, 2, 3, 0, 1], [2]),
   ([0, 2, 3, 1, 0], [2]),
   ([0, 2, 3, 1, 1], [2]),
   ([0, 2, 3, 1, 2], [2]),
   ([0, 2, 3, 1, 3], [2]),
   ([0, 2, 3, 1, 4], [2]),
   ([0, 2, 3, 2, 1], [2]),
   ([0, 2, 3, 3, 1], [2]),
   ([0, 2, 3, 4, 1], [2]),
   ([0, 2, 4, 1, 3], [2]),
   ([0, 2, 4, 3, 1], [2]),
   ([0, 3, 0, 1, 2], [2]),
   ([0, 3, 0, 2, 1], [2]),
   ([0, 3, 1, 0, 2], [2]),
   ([0, 3, 1, 1, 2], [2]),
   ([0, 3, 1, 2, 0], [2]),
   ([0, 3, 1, 2, 1], [2]),
   ([0, 3, 1, 2, 2], [2]),
   ([0, 3, 1, 2, 3], [3]),
   ([0, 3, 1, 2, 4], [3]),
   ([0, 3, 1, 3, 2], [3]),
   ([0, 3, 1, 4, 2], [3]),
   ([0, 3, 2, 0, 1], [2]),
   ([0, 3, 2, 1, 0], [2]),
   ([0, 3, 2, 1, 1], [2]),
   ([0, 3, 2, 1, 2], [2]),
   ([0, 3, 2, 1, 3], [3]),
   ([0, 3, 2, 1, 4], [3]),
   ([0, 3, 2, 2, 1], [2]),
   ([0, 3, 2, 3, 1], [3]),
   ([0, 3, 2, 4, 1], [3]),
   ([0, 3, 3, 1, 2], [3]),
   ([0, 3, 3, 2, 1], [3]),
   ([0, 3, 4, 1, 2], [3]),
   ([0, 3, 4, 2, 1], [3]),
   ([0, 4, 1, 2, 3], [3]),
   ([0, 4, 1, 3, 2], [3]),
   ([0, 4, 2, 1, 3], [3]),
   ([0, 4, 2, 3, 1], [3]),
   ([0, 4, 3, 1, 2], [3]),
   ([0, 4, 3, 2, 1], [3])]

theorem backB_T_HOO_agrees : agrees (backB (S := Nat)) backB_T_HOO = true := by decide +kernel
theorem backB_T_HOO_keys : backB_T_HOO.map Prod.fst = botKeys [4, 5] := by decide +kernel

/-- for ALL values of any linear order (list lengths [4, 5]): the model rule `backB` returns what the real code
returned on the list's order type -/
theorem backB_T_HOO_tie {S : Type} [LinearOrder S] [Inhabited S] (vs : List S) (hk : vs.length ∈ [4, 5])
    (hbot : ∀ b, vs.head? = some b → ∀ x ∈ vs, b ≤ x) :
    lookup backB_T_HOO (denseRanks vs) = some (backB vs) :=
  backB_tie backB_T_HOO [4, 5] backB_T_HOO_agrees (complete_of_botKeys backB_T_HOO_keys) vs hk
    ((by decide : ∀ k ∈ [4, 5], 2 ≤ k) _ hk) hbot

/-- HCT.updateBackwardTree -/
def backB_HCT : Table :=
  [([0, 0, 0, 0], [0]),
   ([0, 0, 0, 1], [0]),
   ([0, 0, 1, 0], [0]),
   ([0, 0, 1, 1], [0]),
   ([0, 0, 1, 2], [0]),
   ([0, 0, 2, 1], [0]),
   ([0, 1, 0, 0], [0]),
   ([0, 1, 0, 1], [1]),
   ([0, 1, 0, 2], [1]),
   ([0, 1, 1, 0], [1]),
   ([0, 1, 1, 1], [1]),
   ([0, 1, 1, 2], [1]),
   ([0, 1, 2, 0], [1]),
   ([0, 1, 2, 1], [1]),
   ([0, 1, 2, 2], [1]),
   ([0, 1, 2, 3], [1]),
   ([0, 1, 3, 2], [1]),
   ([0, 2, 0, 1], [1]),
   ([0, 2, 1, 0], [1]),
   ([0, 2, 1, 1], [1]),
   ([0, 2, 1, 2], [2]),
   ([0, 2, 1, 3], [2]),
   ([0, 2, 2, 1], [2]),
   ([0, 2, 3, 1], [2]),
   ([0, 3, 1, 2], [2]),
   ([0, 3, 2, 1], [2]),
   ([0, 0, 0, 0, 0], [0]),
   ([0, 0, 0, 0, 1], [0]),
   ([0, 0, 0, 1, 0], [0]),
   ([0, 0, 0, 1, 1], [0]),
   ([0, 0, 0, 1, 2], [0]),
   ([0, 0, 0, 2, 1], [0]),
   ([0, 0, 1, 0, 0], [0]),
   ([0, 0, 1, 0, 1], [0]),
   ([0, 0, 1, 0, 2], [0]),
   ([0, 0, 1, 1, 0], [0]),
   ([0, 0, 1, 1, 1], [0]),
   ([0, 0, 1, 1, 2], [0]),
   ([0, 0, 1, 2, 0], [0]),
   ([0, 0, 1, 2, 1], [0]),
   ([0, 0, 1, 2, 2], [0]),
   ([0, 0, 1, 2, 3], [0]),
   ([0, 0, 1, 3, 2], [0]),
   ([0, 0, 2, 0, 1], [0]),
   ([0, 0, 2, 1, 0], [0]),
   ([0, 0, 2, 1, 1], [0]),
   ([0, 0, 2, 1, 2], [0]),
   ([0, 0, 2, 1, 3], [0]),
   ([0, 0, 2, 2, 1], [0]),
   ([0, 0, 2, 3, 1], [0]),
   ([0, 0, 3, 1, 2], [0]),
   ([0, 0, 3, 2, 1], [0]),
   ([0, 1, 0, 0, 0], [0]),
   ([0, 1, 0, 0, 1], [1]),
   ([0, 1, 0, 0, 2], [1]),
   ([0, 1, 0, 1, 0], [1]),
   ([0, 1, 0, 1, 1], [1]),
   ([0, 1, 0, 1, 2], [1]),
   ([0, 1, 0, 2, 0], [1]),
   ([0, 1, 0, 2, 1], [1]),
   ([0, 1, 0, 2, 2], [1]),
   ([0, 1, 0, 2, 3], [1]),
   ([0, 1, 0, 3, 2], [1]),
   ([0, 1, 1, 0, 0], [1]),
   ([0, 1, 1, 0, 1], [1]),
   ([0, 1, 1, 0, 2], [1]),
   ([0, 1, 1, 1, 0], [1]),
   ([0, 1, 1, 1, 1], [1]),
   ([0, 1, 1, 1, 2], [1]),
   ([0, 1, 1, 2, 0], [1]),
   ([0, 1, 1, 2, 1], [1]),
   ([0, 1, 1, 2, 2], [1]),
   ([0, 1, 1, 2, 3], [1]),
   ([0, 1, 1, 3, 2], [1]),
   ([0, 1, 2, 0, 0], [1]),
   ([0, 1, 2, 0, 1], [1]),
   ([0, 1, 2, 0, 2], [1]),
   ([0, 1, 2, 0, 3], [1]),
   ([0, 1, 2, 1, 0], [1]),
   ([0, 1, 2, 1, 1], [1]),
   ([0, 1, 2, 1, 2], [1]),
   ([0, 1, 2, 1, 3], [1]),
   ([0, 1, 2, 2, 0], [1]),
   ([0, 1, 2, 2, 1], [1]),
   ([0, 1, 2, 2, 2], [1]),
   ([0, 1, 2, 2, 3], [1]),
   ([0, 1, 2, 3, 0], [1]),
   ([0, 1, 2, 3, 1], [1]),
   ([0, 1, 2, 3, 2], [1]),
   ([0, 1, 2, 3, 3], [1]),
   ([0, 1, 2, 3, 4], [1]),
   ([0, 1, 2, 4, 3], [1]),
   ([0, 1, 3, 0, 2], [1]),
   ([0, 1, 3, 1, 2], [1]),
   ([0, 1, 3, 2, 0], [1]),
   ([0, 1, 3, 2, 1], [1]),
   ([0, 1, 3, 2, 2], [1]),
   ([0, 1, 3, 2, 3], [1]),
   ([0, 1, 3, 2, 4], [1]),
   ([0, 1, 3, 3, 2], [1]),
   ([0, 1, 3, 4, 2], [1]),
   ([0, 1, 4, 2, 3], [1]),
   ([0, 1, 4, 3, 2], [1]),
   ([0, 2, 0, 0, 1], [1]),
   ([0, 2, 0, 1, 0], [1]),
   ([0, 2, 0, 1, 1], [1]),
   ([0, 2, 0, 1, 2], [2]),
   ([0, 2, 0, 1, 3], [2]),
   ([0, 2, 0, 2, 1], [2]),
   ([0, 2, 0, 3, 1], [2]),
   ([0, 2, 1, 0, 0], [1]),
   ([0, 2, 1, 0, 1], [1]),
   ([0, 2, 1, 0, 2], [2]),
   ([0, 2, 1, 0, 3], [2]),
   ([0, 2, 1, 1, 0], [1]),
   ([0, 2, 1, 1, 1], [1]),
   ([0, 2, 1, 1, 2], [2]),
   ([0, 2, 1, 1, 3], [2]),
   ([0, 2, 1, 2, 0], [2]),
   ([0, 2, 1, 2, 1], [2]),
   ([0, 2, 1, 2, 2], [2]),
   ([0, 2, 1, 2, 3], [2]),
   ([0, 2, 1, 3, 0], [2]),
   ([0, 2, 1, 3, 1], [2]),
   ([0, 2, 1, 3, 2], [2]),
   ([0, 2, 1, 3, 3], [2]),
   ([0, 2, 1, 3, 4], [2]),
   ([0, 2, 1, 4, 3], [2]),
   ([0, 2, 2, 0, 1], [2]),
   ([0, 2, 2, 1, 0], [2]),
   ([0, 2, 2, 1, 1], [2]),
   ([0, 2, 2, 1, 2], [2]),
   ([0, 2, 2, 1, 3], [2]),
   ([0, 2, 2, 2, 1], [2]),
   ([0, 2, 2, 3, 1], [2]),
   ([0, 2, 3, 0, 1], [2]),
   ([0, 2, 3, 1, 0], [2]),
   ([0, 2, 3, 1, 1], [2]),
   ([0, 2, 3, 1, 2], [2]),
   ([0, 2, 3, 1, 3], [2]),
   ([0, 2, 3, 1, 4], [2]),
   ([0, 2, 3, 2, 1], [2]),
   ([0, 2, 3, 3, 1], [2]),
   ([0, 2, 3, 4, 1], [2]),
   ([0, 2, 4, 1, 3], [2]),
   ([0, 2, 4, 3, 1], [2]),
   ([0, 3, 0, 1, 2], [2]),
   ([0, 3, 0, 2, 1], [2]),
   ([0, 3, 1, 0, 2], [2]),
   ([0, 3, 1, 1, 2], [2]),
   ([0, 3, 1, 2, 0], [2]),
   ([0, 3, 1, 2, 1], [2]),
   ([0, 3, 1, 2, 2], [2]),
   ([0, 3, 1, 2, 3], [3]),
   ([0, 3, 1, 2, 4], [3]),
   ([0, 3, 1, 3, 2], [3]),
   ([0, 3, 1, 4, 2], [3]),
   ([0, 3, 2, 0, 1], [2]),
   ([0, 3, 2, 1, 0], [2]),
   ([0, 3, 2, 1, 1], [2]),
   ([0, 3, 2, 1, 2], [2]),
   ([0, 3, 2, 1, 3], [3]),
   ([0, 3, 2, 1, 4], [3]),
   ([0, 3, 2, 2, 1], [2]),
   ([0, 3, 2, 3, 1], [3]),
   ([0, 3, 2, 4, 1], [3]),
   ([0, 3, 3, 1, 2], [3]),
   ([0, 3, 3, 2, 1], [3]),
   ([0, 3, 4, 1, 2], [3]),
   ([0, 3, 4, 2, 1], [3]),
   ([0, 4, 1, 2, 3], [3]),
   ([0, 4, 1, 3, 2], [3]),
   ([0, 4, 2, 1, 3], [3]),
   ([0, 4, 2, 3, 1], [3]),
   ([0, 4, 3, 1, 2], [3]),
   ([0, 4, 3, 2, 1], [3])]

theorem backB_HCT_agrees : agrees (backB (S := Nat)) backB_HCT = true := by decide +kernel
theorem backB_HCT_keys : backB_HCT.map Prod.fst = botKeys [4, 5] :=
  (by decide +kernel : backB_HCT.map Prod.fst = backB_T_HOO.map Prod.fst).trans backB_T_HOO_keys

/-- for ALL values of any linear order (list lengths [4, 5]): the model rule `backB` returns what the real code
returned on the list's order type -/
theorem backB_HCT_tie {S : Type} [LinearOrder S] [Inhabited S] (vs : List S) (hk : vs.length ∈ [4, 5])
    (hbot : ∀ b, vs.head? = some b → ∀ x ∈ vs, b ≤ x) :
    lookup backB_HCT (denseRanks vs) = some (backB vs) :=
  backB_tie backB_HCT [4, 5] backB_HCT_agrees (complete_of_botKeys backB_HCT_keys) vs hk
    ((by decide : ∀ k ∈ [4, 5], 2 ≤ k) _ hk) hbot

/-- VHCT.updateBackwardTree -/
def backB_VHCT : Table :=
  [([0, 0, 0, 0], [0]),
   ([0, 0, 0, 1], [0]),
   ([0, 0, 1, 0], [0]),
   ([0, 0, 1, 1], [0]),
   ([0, 0, 1, 2], [0]),
   ([0, 0, 2, 1], [0]),
   ([0, 1, 0, 0], [0]),
   ([0, 1, 0, 1], [1]),
   ([0, 1, 0, 2], [1]),
   ([0, 1, 1, 0], [1]),
   ([0, 1, 1, 1], [1]),
   ([0, 1, 1, 2], [1]),
   ([0, 1, 2, 0], [1]),
   ([0, 1, 2, 1], [1]),
   ([0, 1, 2, 2], [1]),
   ([0, 1, 2, 3], [1]),
   ([0, 1, 3, 2], [1]),
   ([0, 2, 0, 1], [1]),
   ([0, 2, 1, 0], [1]),
   ([0, 2, 1, 1], [1]),
   ([0, 2, 1, 2], [2]),
   ([0, 2, 1, 3], [2]),
   ([0, 2, 2, 1], [2]),
   ([0, 2, 3, 1], [2]),
   ([0, 3, 1, 2], [2]),
   ([0, 3, 2, 1], [2]),
   ([0, 0, 0, 0, 0], [0]),
   ([0, 0, 0, 0, 1], [0]),
   ([0, 0, 0, 1, 0], [0]),
   ([0, 0, 0, 1, 1], [0]),
   ([0, 0, 0, 1, 2], [0]),
   ([0, 0, 0, 2, 1], [0]),
   ([0, 0, 1, 0, 0], [0]),
   ([0, 0, 1, 0, 1], [0]),
   ([0, 0, 1, 0, 2], [0]),
   ([0, 0, 1, 1, 0], [0]),
   ([0, 0, 1, 1, 1], [0]),
   ([0, 0, 1, 1, 2], [0]),
   ([0, 0, 1, 2, 0], [0]),
   ([0, 0, 1, 2, 1], [0]),
   ([0, 0, 1, 2, 2], [0]),
   ([0, 0, 1, 2, 3], [0]),
   ([0, 0, 1, 3, 2], [0]),
   ([0, 0, 2, 0, 1], [0]),
   ([0, 0, 2, 1, 0], [0]),
   ([0, 0, 2, 1, 1], [0]),
   ([0, 0, 2, 1, 2], [0]),
   ([0, 0, 2, 1, 3], [0]),
   ([0, 0, 2, 2, 1], [0]),
   ([0, 0, 2, 3, 1], [0]),
   ([0, 0, 3, 1, 2], [0]),
   ([0, 0, 3, 2, 1], [0]),
   ([0, 1, 0, 0, 0], [0]),
   ([0, 1, 0, 0, 1], [1]),
   ([0, 1, 0, 0, 2], [1]),
   ([0, 1, 0, 1, 0], [1]),
   ([0, 1, 0, 1, 1], [1]),
   ([0, 1, 0, 1, 2], [1]),
   ([0, 1, 0, 2, 0], [1]),
   ([0, 1, 0, 2, 1], [1]),
   ([0, 1, 0, 2, 2], [1]),
   ([0, 1, 0, 2, 3], [1]),
   ([0, 1, 0, 3, 2], [1]),
   ([0, 1, 1, 0, 0], [1]),
   ([0, 1, 1, 0, 1], [1]),
   ([0, 1, 1, 0, 2], [1]),
   ([0, 1, 1, 1, 0], [1]),
   ([0, 1, 1, 1, 1], [1]),
   ([0, 1, 1, 1, 2], [1]),
   ([0, 1, 1, 2, 0], [1]),
   ([0, 1, 1, 2, 1], [1]),
   ([0, 1, 1, 2, 2], [1]),
   ([0, 1, 1, 2, 3], [1]),
   ([0, 1, 1, 3, 2], [1]),
   ([0, 1, 2, 0, 0], [1]),
   ([0, 1, 2, 0, 1], [1]),
   ([0, 1, 2, 0, 2], [1]),
   ([0, 1, 2, 0, 3], [1]),
   ([0, 1, 2, 1, 0], [1]),
   ([0, 1, 2, 1, 1], [1]),
   ([0, 1, 2, 1, 2], [1]),
   ([0, 1, 2, 1, 3], [1]),
   ([0, 1, 2, 2, 0], [1]),
   ([0, 1, 2, 2, 1], [1]),
   ([0, 1, 2, 2, 2], [1]),
   ([0, 1, 2, 2, 3], [1]),
   ([0, 1, 2, 3, 0], [1]),
   ([0, 1, 2, 3, 1], [1]),
   ([0, 1, 2, 3, 2], [1]),
   ([0, 1, 2, 3, 3], [1]),
   ([0, 1, 2, 3, 4], [1]),
   ([0, 1, 2, 4, 3], [1]),
   ([0, 1, 3, 0, 2], [1]),
   ([0, 1, 3, 1, 2], [1]),
   ([0, 1, 3, 2, 0], [1]),
   ([0, 1, 3, 2, 1], [1]),
   ([0, 1, 3, 2, 2], [1]),
   ([0, 1, 3, 2, 3], [1]),
   ([0, 1, 3, 2, 4], [1]),
   ([0, 1, 3, 3, 2], [1]),
   ([0, 1, 3, 4, 2], [1]),
   ([0, 1, 4, 2, 3], [1]),
   ([0, 1, 4, 3, 2], [1]),
   ([0, 2, 0, 0, 1], [1]),
   ([0, 2, 0, 1, 0], [1]),
   ([0, 2, 0, 1, 1], [1]),
   ([0, 2, 0, 1, 2], [2]),
   ([0, 2, 0, 1, 3], [2]),
   ([0, 2, 0, 2, 1], [2]),
   ([0, 2, 0, 3, 1], [2]),
   ([0, 2, 1, 0, 0], [1]),
   ([0, 2, 1, 0, 1], [1]),
   ([0, 2, 1, 0, 2], [2]),
   ([0, 2, 1, 0, 3], [2]),
   ([0, 2, 1, 1, 0], [1]),
   ([0, 2, 1, 1, 1], [1]),
   ([0, 2, 1, 1, 2], [2]),
   ([0, 2, 1, 1, 3], [2]),
   ([0, 2, 1, 2, 0], [2]),
   ([0, 2, 1, 2, 1], [2]),
   ([0, 2, 1, 2, 2], [2]),
   ([0, 2, 1, 2, 3], [2]),
   ([0, 2, 1, 3, 0], [2]),
   ([0, 2, 1, 3, 1], [2]),
   ([0, 2, 1, 3, 2], [2]),
   ([0, 2, 1, 3, 3], [2]),
   ([0, 2, 1, 3, 4], [2]),
   ([0, 2, 1, 4, 3], [2]),
   ([0, 2, 2, 0, 1], [2]),
   ([0, 2, 2, 1, 0], [2]),
   ([0, 2, 2, 1, 1], [2]),
   ([0, 2, 2, 1, 2], [2]),
   ([0, 2, 2, 1, 3], [2]),
   ([0, 2, 2, 2, 1], [2]),
   ([0, 2, 2, 3, 1], [2]),
   ([0, 2, 3, 0, 1], [2]),
   ([0, 2, 3, 1, 0], [2]),
   ([0, 2, 3, 1, 1], [2]),
   ([0, 2, 3, 1, 2], [2]),
   ([0, 2, 3, 1, 3], [2]),
   ([0, 2, 3, 1, 4], [2]),
   ([0, 2, 3, 2, 1], [2]),
   ([0, 2, 3, 3, 1], [2]),
   ([0, 2, 3, 4, 1], [2]),
   ([0, 2, 4, 1, 3], [2]),
   ([0, 2, 4, 3, 1], [2]),
   ([0, 3, 0, 1, 2], [2]),
   ([0, 3, 0, 2, 1], [2]),
   ([0, 3, 1, 0, 2], [2]),
   ([0, 3, 1, 1, 2], [2]),
   ([0, 3, 1, 2, 0], [2]),
   ([0, 3, 1, 2, 1], [2]),
   ([0, 3, 1, 2, 2], [2]),
   ([0, 3, 1, 2, 3], [3]),
   ([0, 3, 1, 2, 4], [3]),
   ([0, 3, 1, 3, 2], [3]),
   ([0, 3, 1, 4, 2], [3]),
   ([0, 3, 2, 0, 1], [2]),
   ([0, 3, 2, 1, 0], [2]),
   ([0, 3, 2, 1, 1], [2]),
   ([0, 3, 2, 1, 2], [2]),
   ([0, 3, 2, 1, 3], [3]),
   ([0, 3, 2, 1, 4], [3]),
   ([0, 3, 2, 2, 1], [2]),
   ([0, 3, 2, 3, 1], [3]),
   ([0, 3, 2, 4, 1], [3]),
   ([0, 3, 3, 1, 2], [3]),
   ([0, 3, 3, 2, 1], [3]),
   ([0, 3, 4, 1, 2], [3]),
   ([0, 3, 4, 2, 1], [3]),
   ([0, 4, 1, 2, 3], [3]),
   ([0, 4, 1, 3, 2], [3]),
   ([0, 4, 2, 1, 3], [3]),
   ([0, 4, 2, 3, 1], [3]),
   ([0, 4, 3, 1, 2], [3]),
   ([0, 4, 3, 2, 1], [3])]

theorem backB_VHCT_agrees : agrees (backB (S := Nat)) backB_VHCT = true := by decide +kernel
theorem backB_VHCT_keys : backB_VHCT.map Prod.fst = botKeys [4, 5] :=
  (by decide +kernel : backB_VHCT.map Prod.fst = backB_T_HOO.map Prod.fst).trans backB_T_HOO_keys

/-- for ALL values of any linear order (list lengths [4, 5]): the model rule `backB` returns what the real code
returned on the list's order type -/
theorem backB_VHCT_tie {S : Type} [LinearOrder S] [Inhabited S] (vs : List S) (hk : vs.length ∈ [4, 5])
    (hbot : ∀ b, vs.head? = some b → ∀ x ∈ vs, b ≤ x) :
    lookup backB_VHCT (denseRanks vs) = some (backB vs) :=
  backB_tie backB_VHCT [4, 5] backB_VHCT_agrees (complete_of_botKeys backB_VHCT_keys) vs hk
    ((by decide : ∀ k ∈ [4, 5], 2 ≤ k) _ hk) hbot

end PyXAB.GeneratedOT.OrderTieC05
