/-
  GENERATED by harness/translate_formulas.py from /repo's node classes. Do not edit: rewritten and re-proved on
  every check run.
-/
import PyXABProofs.Lemmas.FormulaTac
set_option linter.unusedVariables false
set_option linter.unusedSectionVars false
set_option linter.unusedSimpArgs false
set_option linter.unusedTactic false
set_option linter.unreachableTactic false
namespace PyXAB.GeneratedFC10
variable {α : Type} [Field α] (sqrt log ceil floor : α → α) (rpow : α → α → α) (max min2 : α → α → α)


/-- what the real method computes (traced) equals the published formula -/
theorem poo_score (V k r : α) :
    ((V * k) + r) / (k + (1 : α)) = Published.runningMean V k r := by
  simp only [Published.runningMean] <;> formula_eq


/-- what the real method computes (traced) equals the published formula -/
theorem poo_rho (rhomax N phase : α) :
    rpow rhomax (((2 : α) * N) / (((2 : α) * phase) + (1 : α))) = Published.gridRho rpow rhomax N phase := by
  simp only [Published.gridRho] <;> formula_eq


/-- what the real method computes (traced) equals the published formula -/
theorem poo_cond (Dmax n : α) :
    (((1 : α) / 2) * Dmax) * (log (n / (log n))) = Published.pooBound log Dmax n := by
  simp only [Published.pooBound] <;> formula_eq


end PyXAB.GeneratedFC10
