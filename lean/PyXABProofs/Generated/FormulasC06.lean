/-
  GENERATED by harness/translate_formulas.py from /repo's node classes. Do not edit: rewritten and re-proved on
  every check run.
-/
import PyXABProofs.Lemmas.FormulaTac
set_option linter.unusedVariables false
set_option linter.unusedSectionVars false
set_option linter.unusedSimpArgs false
set_option linter.unusedTactic false
set_option linter.unreachableTactic false
namespace PyXAB.GeneratedFC06
variable {α : Type} [Field α] (sqrt log ceil floor : α → α) (rpow : α → α → α) (max min2 : α → α → α)


/-- what the real method computes (traced) equals the published formula -/
theorem vhct_tau (nu rho c bound dt var h : α) :
    ceil (((var + ((((3 : α) * bound) * nu) * (rpow rho h))) + (var * (sqrt ((1 : α) + (((((6 : α) * bound) * nu) * (rpow rho h)) / var))))) * ((((c ^ 2) * (log ((1 : α) / dt))) * (rpow rho ((-(2 : α)) * h))) / (nu ^ 2))) = Published.vhctTau sqrt log ceil rpow nu rho c bound dt var h := by
  simp only [Published.vhctTau] <;> formula_eq


/-- what the real method computes (traced) equals the published formula -/
theorem hct_tau (nu rho c dt : α) :
    ceil ((((c ^ 2) * (log ((1 : α) / dt))) * (rpow rho (-(2 : α)))) / (nu ^ 2)) = Published.hctTau log ceil rpow nu rho c dt (1 : α) := by
  simp only [Published.hctTau] <;> formula_eq


/-- what the real method computes (traced) equals the published formula -/
theorem hoo_depth (nu rho rounds : α) :
    ceil ((((log rounds) / (2 : α)) - (log ((1 : α) / nu))) / (log ((1 : α) / rho))) = Published.hooDepth log ceil nu rho rounds := by
  simp only [Published.hooDepth] <;> formula_eq


/-- what the real method computes (traced) equals the published formula -/
theorem hct_dt_half (c1 delta tplus : α) :
    min2 ((1 : α) / 2) ((c1 * delta) / tplus) = Published.hctDt min2 ((1 : α) / 2) c1 delta tplus := by
  simp only [Published.hctDt] <;> formula_eq


/-- what the real method computes (traced) equals the published formula -/
theorem vhct_dt_half (c1 delta tplus : α) :
    min2 ((1 : α) / 2) ((c1 * delta) / tplus) = Published.hctDt min2 ((1 : α) / 2) c1 delta tplus := by
  simp only [Published.hctDt] <;> formula_eq


/-- what the real method computes (traced) equals the published formula -/
theorem hct_c1 (nu rho : α) :
    rpow (rho / ((3 : α) * nu)) ((1 : α) / 8) = Published.hctC1 rpow nu rho := by
  simp only [Published.hctC1] <;> formula_eq


/-- what the real method computes (traced) equals the published formula -/
theorem vhct_c1 (nu rho : α) :
    rpow (rho / ((3 : α) * nu)) ((1 : α) / 8) = Published.hctC1 rpow nu rho := by
  simp only [Published.hctC1] <;> formula_eq


end PyXAB.GeneratedFC06
