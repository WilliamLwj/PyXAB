/-
  GENERATED by harness/translate_rules.py from /repo's classes: what the real selection code chose on every
  order type of its inputs.  Do not edit: rewritten and re-checked on every check run.
-/
import PyXABProofs.Props.OrderTie
namespace PyXAB.GeneratedOT.OrderTieC13
open PyXAB PyXAB.OT

/-- VROOM.rank: cells in the order of their ranks 1..k -/
def sortD_VROOM : Table :=
  [([0, 0], [0, 1]),
   ([0, 1], [1, 0]),
   ([1, 0], [0, 1]),
   ([0, 0, 0], [0, 1, 2]),
   ([0, 0, 1], [2, 0, 1]),
   ([0, 1, 0], [1, 0, 2]),
   ([0, 1, 1], [1, 2, 0]),
   ([0, 1, 2], [2, 1, 0]),
   ([0, 2, 1], [1, 2, 0]),
   ([1, 0, 0], [0, 1, 2]),
   ([1, 0, 1], [0, 2, 1]),
   ([1, 0, 2], [2, 0, 1]),
   ([1, 1, 0], [0, 1, 2]),
   ([1, 2, 0], [1, 0, 2]),
   ([2, 0, 1], [0, 2, 1]),
   ([2, 1, 0], [0, 1, 2]),
   ([0, 0, 0, 0], [0, 1, 2, 3]),
   ([0, 0, 0, 1], [3, 0, 1, 2]),
   ([0, 0, 1, 0], [2, 0, 1, 3]),
   ([0, 0, 1, 1], [2, 3, 0, 1]),
   ([0, 0, 1, 2], [3, 2, 0, 1]),
   ([0, 0, 2, 1], [2, 3, 0, 1]),
   ([0, 1, 0, 0], [1, 0, 2, 3]),
   ([0, 1, 0, 1], [1, 3, 0, 2]),
   ([0, 1, 0, 2], [3, 1, 0, 2]),
   ([0, 1, 1, 0], [1, 2, 0, 3]),
   ([0, 1, 1, 1], [1, 2, 3, 0]),
   ([0, 1, 1, 2], [3, 1, 2, 0]),
   ([0, 1, 2, 0], [2, 1, 0, 3]),
   ([0, 1, 2, 1], [2, 1, 3, 0]),
   ([0, 1, 2, 2], [2, 3, 1, 0]),
   ([0, 1, 2, 3], [3, 2, 1, 0]),
   ([0, 1, 3, 2], [2, 3, 1, 0]),
   ([0, 2, 0, 1], [1, 3, 0, 2]),
   ([0, 2, 1, 0], [1, 2, 0, 3]),
   ([0, 2, 1, 1], [1, 2, 3, 0]),
   ([0, 2, 1, 2], [1, 3, 2, 0]),
   ([0, 2, 1, 3], [3, 1, 2, 0]),
   ([0, 2, 2, 1], [1, 2, 3, 0]),
   ([0, 2, 3, 1], [2, 1, 3, 0]),
   ([0, 3, 1, 2], [1, 3, 2, 0]),
   ([0, 3, 2, 1], [1, 2, 3, 0]),
   ([1, 0, 0, 0], [0, 1, 2, 3]),
   ([1, 0, 0, 1], [0, 3, 1, 2]),
   ([1, 0, 0, 2], [3, 0, 1, 2]),
   ([1, 0, 1, 0], [0, 2, 1, 3]),
   ([1, 0, 1, 1], [0, 2, 3, 1]),
   ([1, 0, 1, 2], [3, 0, 2, 1]),
   ([1, 0, 2, 0], [2, 0, 1, 3]),
   ([1, 0, 2, 1], [2, 0, 3, 1]),
   ([1, 0, 2, 2], [2, 3, 0, 1]),
   ([1, 0, 2, 3], [3, 2, 0, 1]),
   ([1, 0, 3, 2], [2, 3, 0, 1]),
   ([1, 1, 0, 0], [0, 1, 2, 3]),
   ([1, 1, 0, 1], [0, 1, 3, 2]),
   ([1, 1, 0, 2], [3, 0, 1, 2]),
   ([1, 1, 1, 0], [0, 1, 2, 3]),
   ([1, 1, 2, 0], [2, 0, 1, 3]),
   ([1, 2, 0, 0], [1, 0, 2, 3]),
   ([1, 2, 0, 1], [1, 0, 3, 2]),
   ([1, 2, 0, 2], [1, 3, 0, 2]),
   ([1, 2, 0, 3], [3, 1, 0, 2]),
   ([1, 2, 1, 0], [1, 0, 2, 3]),
   ([1, 2, 2, 0], [1, 2, 0, 3]),
   ([1, 2, 3, 0], [2, 1, 0, 3]),
   ([1, 3, 0, 2], [1, 3, 0, 2]),
   ([1, 3, 2, 0], [1, 2, 0, 3]),
   ([2, 0, 0, 1], [0, 3, 1, 2]),
   ([2, 0, 1, 0], [0, 2, 1, 3]),
   ([2, 0, 1, 1], [0, 2, 3, 1]),
   ([2, 0, 1, 2], [0, 3, 2, 1]),
   ([2, 0, 1, 3], [3, 0, 2, 1]),
   ([2, 0, 2, 1], [0, 2, 3, 1]),
   ([2, 0, 3, 1], [2, 0, 3, 1]),
   ([2, 1, 0, 0], [0, 1, 2, 3]),
   ([2, 1, 0, 1], [0, 1, 3, 2]),
   ([2, 1, 0, 2], [0, 3, 1, 2]),
   ([2, 1, 0, 3], [3, 0, 1, 2]),
   ([2, 1, 1, 0], [0, 1, 2, 3]),
   ([2, 1, 2, 0], [0, 2, 1, 3]),
   ([2, 1, 3, 0], [2, 0, 1, 3]),
   ([2, 2, 0, 1], [0, 1, 3, 2]),
   ([2, 2, 1, 0], [0, 1, 2, 3]),
   ([2, 3, 0, 1], [1, 0, 3, 2]),
   ([2, 3, 1, 0], [1, 0, 2, 3]),
   ([3, 0, 1, 2], [0, 3, 2, 1]),
   ([3, 0, 2, 1], [0, 2, 3, 1]),
   ([3, 1, 0, 2], [0, 3, 1, 2]),
   ([3, 1, 2, 0], [0, 2, 1, 3]),
   ([3, 2, 0, 1], [0, 1, 3, 2]),
   ([3, 2, 1, 0], [0, 1, 2, 3])]

theorem sortD_VROOM_agrees : agrees (sortD (S := Nat)) sortD_VROOM = true := by decide +kernel
theorem sortD_VROOM_keys : sortD_VROOM.map Prod.fst = keys [2, 3, 4] := by decide +kernel

/-- for ALL values of any linear order (list lengths [2, 3, 4]): the model rule `sortD` returns what the real code
returned on the list's order type -/
theorem sortD_VROOM_tie {S : Type} [LinearOrder S] [Inhabited S] (vs : List S) (hk : vs.length ∈ [2, 3, 4]) :
    lookup sortD_VROOM (denseRanks vs) = some (sortD vs) :=
  sortD_tie sortD_VROOM [2, 3, 4] sortD_VROOM_agrees (complete_of_keys sortD_VROOM_keys) vs hk
    ((by decide : ∀ k ∈ [2, 3, 4], 1 ≤ k) _ hk)

end PyXAB.GeneratedOT.OrderTieC13
