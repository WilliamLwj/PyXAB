/-
  GENERATED by harness/translate_formulas.py from /repo's node classes. Do not edit: rewritten and re-proved on
  every check run.
-/
import PyXABProofs.Lemmas.FormulaTac
set_option linter.unusedVariables false
set_option linter.unusedSectionVars false
set_option linter.unusedSimpArgs false
set_option linter.unusedTactic false
set_option linter.unreachableTactic false
namespace PyXAB.GeneratedFC13
variable {α : Type} [Field α] (sqrt log ceil floor : α → α) (rpow : α → α → α) (max min2 : α → α → α)


/-- what the real method computes (traced) equals the published formula -/
theorem vroom_lcb (n delta mean T : α) :
    mean - (sqrt ((log (((4 : α) * (n ^ 3)) / delta)) / ((2 : α) * T))) = Published.vroomLcb sqrt log n delta mean T := by
  simp only [Published.vroomLcb] <;> formula_eq


/-- what the real method computes (traced) equals the published formula -/
theorem vroom_prob (rank C : α) :
    (1 : α) / (((1 : α) * rank) * C) = Published.vroomProb (1 : α) rank C := by
  simp only [Published.vroomProb] <;> formula_eq


/-- what the real method computes (traced) equals the published formula -/
theorem vroom_tilde (r p0 p1 : α) :
    r / ((((0 : α) + p0) + p1) / (1 : α)) = Published.vroomTilde r ((0 : α) + p0 + p1) (1 : α) := by
  simp only [Published.vroomTilde] <;> formula_eq


/-- what the real method computes (traced) equals the published formula -/
theorem vroom_delta (b fmax : α) :
    ((4 : α) * b) / (fmax * (sqrt (4 : α))) = Published.vroomDelta sqrt b fmax (4 : α) := by
  simp only [Published.vroomDelta] <;> formula_eq


end PyXAB.GeneratedFC13
