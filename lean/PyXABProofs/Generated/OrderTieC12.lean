/-
  GENERATED by harness/translate_rules.py from /repo's classes: what the real selection code chose on every
  order type of its inputs.  Do not edit: rewritten and re-checked on every check run.
-/
import PyXABProofs.Props.OrderTie
namespace PyXAB.GeneratedOT.OrderTieC12
open PyXAB PyXAB.OT

/-- SequOOL.pull: unopened cell of the current depth that is opened -/
def lastMax_SequOOL_pull : Table :=
  [([0, 0, 0], [1]),
   ([0, 0, 1], [1]),
   ([0, 1, 0], [0]),
   ([0, 1, 1], [1]),
   ([0, 1, 2], [1]),
   ([0, 2, 1], [0]),
   ([0, 0, 0, 0], [2]),
   ([0, 0, 0, 1], [2]),
   ([0, 0, 1, 0], [1]),
   ([0, 0, 1, 1], [2]),
   ([0, 0, 1, 2], [2]),
   ([0, 0, 2, 1], [1]),
   ([0, 1, 0, 0], [0]),
   ([0, 1, 0, 1], [2]),
   ([0, 1, 0, 2], [2]),
   ([0, 1, 1, 0], [1]),
   ([0, 1, 1, 1], [2]),
   ([0, 1, 1, 2], [2]),
   ([0, 1, 2, 0], [1]),
   ([0, 1, 2, 1], [1]),
   ([0, 1, 2, 2], [2]),
   ([0, 1, 2, 3], [2]),
   ([0, 1, 3, 2], [1]),
   ([0, 2, 0, 1], [0]),
   ([0, 2, 1, 0], [0]),
   ([0, 2, 1, 1], [0]),
   ([0, 2, 1, 2], [2]),
   ([0, 2, 1, 3], [2]),
   ([0, 2, 2, 1], [1]),
   ([0, 2, 3, 1], [1]),
   ([0, 3, 1, 2], [0]),
   ([0, 3, 2, 1], [0]),
   ([0, 0, 0, 0, 0], [3]),
   ([0, 0, 0, 0, 1], [3]),
   ([0, 0, 0, 1, 0], [2]),
   ([0, 0, 0, 1, 1], [3]),
   ([0, 0, 0, 1, 2], [3]),
   ([0, 0, 0, 2, 1], [2]),
   ([0, 0, 1, 0, 0], [1]),
   ([0, 0, 1, 0, 1], [3]),
   ([0, 0, 1, 0, 2], [3]),
   ([0, 0, 1, 1, 0], [2]),
   ([0, 0, 1, 1, 1], [3]),
   ([0, 0, 1, 1, 2], [3]),
   ([0, 0, 1, 2, 0], [2]),
   ([0, 0, 1, 2, 1], [2]),
   ([0, 0, 1, 2, 2], [3]),
   ([0, 0, 1, 2, 3], [3]),
   ([0, 0, 1, 3, 2], [2]),
   ([0, 0, 2, 0, 1], [1]),
   ([0, 0, 2, 1, 0], [1]),
   ([0, 0, 2, 1, 1], [1]),
   ([0, 0, 2, 1, 2], [3]),
   ([0, 0, 2, 1, 3], [3]),
   ([0, 0, 2, 2, 1], [2]),
   ([0, 0, 2, 3, 1], [2]),
   ([0, 0, 3, 1, 2], [1]),
   ([0, 0, 3, 2, 1], [1]),
   ([0, 1, 0, 0, 0], [0]),
   ([0, 1, 0, 0, 1], [3]),
   ([0, 1, 0, 0, 2], [3]),
   ([0, 1, 0, 1, 0], [2]),
   ([0, 1, 0, 1, 1], [3]),
   ([0, 1, 0, 1, 2], [3]),
   ([0, 1, 0, 2, 0], [2]),
   ([0, 1, 0, 2, 1], [2]),
   ([0, 1, 0, 2, 2], [3]),
   ([0, 1, 0, 2, 3], [3]),
   ([0, 1, 0, 3, 2], [2]),
   ([0, 1, 1, 0, 0], [1]),
   ([0, 1, 1, 0, 1], [3]),
   ([0, 1, 1, 0, 2], [3]),
   ([0, 1, 1, 1, 0], [2]),
   ([0, 1, 1, 1, 1], [3]),
   ([0, 1, 1, 1, 2], [3]),
   ([0, 1, 1, 2, 0], [2]),
   ([0, 1, 1, 2, 1], [2]),
   ([0, 1, 1, 2, 2], [3]),
   ([0, 1, 1, 2, 3], [3]),
   ([0, 1, 1, 3, 2], [2]),
   ([0, 1, 2, 0, 0], [1]),
   ([0, 1, 2, 0, 1], [1]),
   ([0, 1, 2, 0, 2], [3]),
   ([0, 1, 2, 0, 3], [3]),
   ([0, 1, 2, 1, 0], [1]),
   ([0, 1, 2, 1, 1], [1]),
   ([0, 1, 2, 1, 2], [3]),
   ([0, 1, 2, 1, 3], [3]),
   ([0, 1, 2, 2, 0], [2]),
   ([0, 1, 2, 2, 1], [2]),
   ([0, 1, 2, 2, 2], [3]),
   ([0, 1, 2, 2, 3], [3]),
   ([0, 1, 2, 3, 0], [2]),
   ([0, 1, 2, 3, 1], [2]),
   ([0, 1, 2, 3, 2], [2]),
   ([0, 1, 2, 3, 3], [3]),
   ([0, 1, 2, 3, 4], [3]),
   ([0, 1, 2, 4, 3], [2]),
   ([0, 1, 3, 0, 2], [1]),
   ([0, 1, 3, 1, 2], [1]),
   ([0, 1, 3, 2, 0], [1]),
   ([0, 1, 3, 2, 1], [1]),
   ([0, 1, 3, 2, 2], [1]),
   ([0, 1, 3, 2, 3], [3]),
   ([0, 1, 3, 2, 4], [3]),
   ([0, 1, 3, 3, 2], [2]),
   ([0, 1, 3, 4, 2], [2]),
   ([0, 1, 4, 2, 3], [1]),
   ([0, 1, 4, 3, 2], [1]),
   ([0, 2, 0, 0, 1], [0]),
   ([0, 2, 0, 1, 0], [0]),
   ([0, 2, 0, 1, 1], [0]),
   ([0, 2, 0, 1, 2], [3]),
   ([0, 2, 0, 1, 3], [3]),
   ([0, 2, 0, 2, 1], [2]),
   ([0, 2, 0, 3, 1], [2]),
   ([0, 2, 1, 0, 0], [0]),
   ([0, 2, 1, 0, 1], [0]),
   ([0, 2, 1, 0, 2], [3]),
   ([0, 2, 1, 0, 3], [3]),
   ([0, 2, 1, 1, 0], [0]),
   ([0, 2, 1, 1, 1], [0]),
   ([0, 2, 1, 1, 2], [3]),
   ([0, 2, 1, 1, 3], [3]),
   ([0, 2, 1, 2, 0], [2]),
   ([0, 2, 1, 2, 1], [2]),
   ([0, 2, 1, 2, 2], [3]),
   ([0, 2, 1, 2, 3], [3]),
   ([0, 2, 1, 3, 0], [2]),
   ([0, 2, 1, 3, 1], [2]),
   ([0, 2, 1, 3, 2], [2]),
   ([0, 2, 1, 3, 3], [3]),
   ([0, 2, 1, 3, 4], [3]),
   ([0, 2, 1, 4, 3], [2]),
   ([0, 2, 2, 0, 1], [1]),
   ([0, 2, 2, 1, 0], [1]),
   ([0, 2, 2, 1, 1], [1]),
   ([0, 2, 2, 1, 2], [3]),
   ([0, 2, 2, 1, 3], [3]),
   ([0, 2, 2, 2, 1], [2]),
   ([0, 2, 2, 3, 1], [2]),
   ([0, 2, 3, 0, 1], [1]),
   ([0, 2, 3, 1, 0], [1]),
   ([0, 2, 3, 1, 1], [1]),
   ([0, 2, 3, 1, 2], [1]),
   ([0, 2, 3, 1, 3], [3]),
   ([0, 2, 3, 1, 4], [3]),
   ([0, 2, 3, 2, 1], [1]),
   ([0, 2, 3, 3, 1], [2]),
   ([0, 2, 3, 4, 1], [2]),
   ([0, 2, 4, 1, 3], [1]),
   ([0, 2, 4, 3, 1], [1]),
   ([0, 3, 0, 1, 2], [0]),
   ([0, 3, 0, 2, 1], [0]),
   ([0, 3, 1, 0, 2], [0]),
   ([0, 3, 1, 1, 2], [0]),
   ([0, 3, 1, 2, 0], [0]),
   ([0, 3, 1, 2, 1], [0]),
   ([0, 3, 1, 2, 2], [0]),
   ([0, 3, 1, 2, 3], [3]),
   ([0, 3, 1, 2, 4], [3]),
   ([0, 3, 1, 3, 2], [2]),
   ([0, 3, 1, 4, 2], [2]),
   ([0, 3, 2, 0, 1], [0]),
   ([0, 3, 2, 1, 0], [0]),
   ([0, 3, 2, 1, 1], [0]),
   ([0, 3, 2, 1, 2], [0]),
   ([0, 3, 2, 1, 3], [3]),
   ([0, 3, 2, 1, 4], [3]),
   ([0, 3, 2, 2, 1], [0]),
   ([0, 3, 2, 3, 1], [2]),
   ([0, 3, 2, 4, 1], [2]),
   ([0, 3, 3, 1, 2], [1]),
   ([0, 3, 3, 2, 1], [1]),
   ([0, 3, 4, 1, 2], [1]),
   ([0, 3, 4, 2, 1], [1]),
   ([0, 4, 1, 2, 3], [0]),
   ([0, 4, 1, 3, 2], [0]),
   ([0, 4, 2, 1, 3], [0]),
   ([0, 4, 2, 3, 1], [0]),
   ([0, 4, 3, 1, 2], [0]),
   ([0, 4, 3, 2, 1], [0])]

theorem lastMax_SequOOL_pull_agrees : agrees (amaxArm (S := Nat)) lastMax_SequOOL_pull = true := by decide +kernel
theorem lastMax_SequOOL_pull_keys : lastMax_SequOOL_pull.map Prod.fst = botKeys [3, 4, 5] := by decide +kernel

/-- for ALL values of any linear order (list lengths [3, 4, 5]): the model rule `amaxArm` returns what the real code
returned on the list's order type -/
theorem lastMax_SequOOL_pull_tie {S : Type} [LinearOrder S] [Inhabited S] (vs : List S) (hk : vs.length ∈ [3, 4, 5])
    (hbot : ∀ b, vs.head? = some b → ∀ x ∈ vs, b ≤ x) :
    lookup lastMax_SequOOL_pull (denseRanks vs) = some (amaxArm vs) :=
  amaxArm_tie lastMax_SequOOL_pull [3, 4, 5] lastMax_SequOOL_pull_agrees (complete_of_botKeys lastMax_SequOOL_pull_keys) vs hk
    ((by decide : ∀ k ∈ [3, 4, 5], 1 ≤ k) _ hk) hbot

/-- SequOOL.get_last_point: evaluated cell recommended -/
def lastMax_SequOOL_last : Table :=
  [([0, 0, 0], [1]),
   ([0, 0, 1], [1]),
   ([0, 1, 0], [0]),
   ([0, 1, 1], [1]),
   ([0, 1, 2], [1]),
   ([0, 2, 1], [0]),
   ([0, 0, 0, 0], [2]),
   ([0, 0, 0, 1], [2]),
   ([0, 0, 1, 0], [1]),
   ([0, 0, 1, 1], [2]),
   ([0, 0, 1, 2], [2]),
   ([0, 0, 2, 1], [1]),
   ([0, 1, 0, 0], [0]),
   ([0, 1, 0, 1], [2]),
   ([0, 1, 0, 2], [2]),
   ([0, 1, 1, 0], [1]),
   ([0, 1, 1, 1], [2]),
   ([0, 1, 1, 2], [2]),
   ([0, 1, 2, 0], [1]),
   ([0, 1, 2, 1], [1]),
   ([0, 1, 2, 2], [2]),
   ([0, 1, 2, 3], [2]),
   ([0, 1, 3, 2], [1]),
   ([0, 2, 0, 1], [0]),
   ([0, 2, 1, 0], [0]),
   ([0, 2, 1, 1], [0]),
   ([0, 2, 1, 2], [2]),
   ([0, 2, 1, 3], [2]),
   ([0, 2, 2, 1], [1]),
   ([0, 2, 3, 1], [1]),
   ([0, 3, 1, 2], [0]),
   ([0, 3, 2, 1], [0]),
   ([0, 0, 0, 0, 0], [3]),
   ([0, 0, 0, 0, 1], [3]),
   ([0, 0, 0, 1, 0], [2]),
   ([0, 0, 0, 1, 1], [3]),
   ([0, 0, 0, 1, 2], [3]),
   ([0, 0, 0, 2, 1], [2]),
   ([0, 0, 1, 0, 0], [1]),
   ([0, 0, 1, 0, 1], [3]),
   ([0, 0, 1, 0, 2], [3]),
   ([0, 0, 1, 1, 0], [2]),
   ([0, 0, 1, 1, 1], [3]),
   ([0, 0, 1, 1, 2], [3]),
   ([0, 0, 1, 2, 0], [2]),
   ([0, 0, 1, 2, 1], [2]),
   ([0, 0, 1, 2, 2], [3]),
   ([0, 0, 1, 2, 3], [3]),
   ([0, 0, 1, 3, 2], [2]),
   ([0, 0, 2, 0, 1], [1]),
   ([0, 0, 2, 1, 0], [1]),
   ([0, 0, 2, 1, 1], [1]),
   ([0, 0, 2, 1, 2], [3]),
   ([0, 0, 2, 1, 3], [3]),
   ([0, 0, 2, 2, 1], [2]),
   ([0, 0, 2, 3, 1], [2]),
   ([0, 0, 3, 1, 2], [1]),
   ([0, 0, 3, 2, 1], [1]),
   ([0, 1, 0, 0, 0], [0]),
   ([0, 1, 0, 0, 1], [3]),
   ([0, 1, 0, 0, 2], [3]),
   ([0, 1, 0, 1, 0], [2]),
   ([0, 1, 0, 1, 1], [3]),
   ([0, 1, 0, 1, 2], [3]),
   ([0, 1, 0, 2, 0], [2]),
   ([0, 1, 0, 2, 1], [2]),
   ([0, 1, 0, 2, 2], [3]),
   ([0, 1, 0, 2, 3], [3]),
   ([0, 1, 0, 3, 2], [2]),
   ([0, 1, 1, 0, 0], [1]),
   ([0, 1, 1, 0, 1], [3]),
   ([0, 1, 1, 0, 2], [3]),
   ([0, 1, 1, 1, 0], [2]),
   ([0, 1, 1, 1, 1], [3]),
   ([0, 1, 1, 1, 2], [3]),
   ([0, 1, 1, 2, 0], [2]),
   ([0, 1, 1, 2, 1], [2]),
   ([0, 1, 1, 2, 2], [3]),
   ([0, 1, 1, 2, 3], [3]),
   ([0, 1, 1, 3, 2], [2]),
   ([0, 1, 2, 0, 0], [1]),
   ([0, 1, 2, 0, 1], [1]),
   ([0, 1, 2, 0, 2], [3]),
   ([0, 1, 2, 0, 3], [3]),
   ([0, 1, 2, 1, 0], [1]),
   ([0, 1, 2, 1, 1], [1]),
   ([0, 1, 2, 1, 2], [3]),
   ([0, 1, 2, 1, 3], [3]),
   ([0, 1, 2, 2, 0], [2]),
   ([0, 1, 2, 2, 1], [2]),
   ([0, 1, 2, 2, 2], [3]),
   ([0, 1, 2, 2, 3], [3]),
   ([0, 1, 2, 3, 0], [2]),
   ([0, 1, 2, 3, 1], [2]),
   ([0, 1, 2, 3, 2], [2]),
   ([0, 1, 2, 3, 3], [3]),
   ([0, 1, 2, 3, 4], [3]),
   ([0, 1, 2, 4, 3], [2]),
   ([0, 1, 3, 0, 2], [1]),
   ([0, 1, 3, 1, 2], [1]),
   ([0, 1, 3, 2, 0], [1]),
   ([0, 1, 3, 2, 1], [1]),
   ([0, 1, 3, 2, 2], [1]),
   ([0, 1, 3, 2, 3], [3]),
   ([0, 1, 3, 2, 4], [3]),
   ([0, 1, 3, 3, 2], [2]),
   ([0, 1, 3, 4, 2], [2]),
   ([0, 1, 4, 2, 3], [1]),
   ([0, 1, 4, 3, 2], [1]),
   ([0, 2, 0, 0, 1], [0]),
   ([0, 2, 0, 1, 0], [0]),
   ([0, 2, 0, 1, 1], [0]),
   ([0, 2, 0, 1, 2], [3]),
   ([0, 2, 0, 1, 3], [3]),
   ([0, 2, 0, 2, 1], [2]),
   ([0, 2, 0, 3, 1], [2]),
   ([0, 2, 1, 0, 0], [0]),
   ([0, 2, 1, 0, 1], [0]),
   ([0, 2, 1, 0, 2], [3]),
   ([0, 2, 1, 0, 3], [3]),
   ([0, 2, 1, 1, 0], [0]),
   ([0, 2, 1, 1, 1], [0]),
   ([0, 2, 1, 1, 2], [3]),
   ([0, 2, 1, 1, 3], [3]),
   ([0, 2, 1, 2, 0], [2]),
   ([0, 2, 1, 2, 1], [2]),
   ([0, 2, 1, 2, 2], [3]),
   ([0, 2, 1, 2, 3], [3]),
   ([0, 2, 1, 3, 0], [2]),
   ([0, 2, 1, 3, 1], [2]),
   ([0, 2, 1, 3, 2], [2]),
   ([0, 2, 1, 3, 3], [3]),
   ([0, 2, 1, 3, 4], [3]),
   ([0, 2, 1, 4, 3], [2]),
   ([0, 2, 2, 0, 1], [1]),
   ([0, 2, 2, 1, 0], [1]),
   ([0, 2, 2, 1, 1], [1]),
   ([0, 2, 2, 1, 2], [3]),
   ([0, 2, 2, 1, 3], [3]),
   ([0, 2, 2, 2, 1], [2]),
   ([0, 2, 2, 3, 1], [2]),
   ([0, 2, 3, 0, 1], [1]),
   ([0, 2, 3, 1, 0], [1]),
   ([0, 2, 3, 1, 1], [1]),
   ([0, 2, 3, 1, 2], [1]),
   ([0, 2, 3, 1, 3], [3]),
   ([0, 2, 3, 1, 4], [3]),
   ([0, 2, 3, 2, 1], [1]),
   ([0, 2, 3, 3, 1], [2]),
   ([0, 2, 3, 4, 1], [2]),
   ([0, 2, 4, 1, 3], [1]),
   ([0, 2, 4, 3, 1], [1]),
   ([0, 3, 0, 1, 2], [0]),
   ([0, 3, 0, 2, 1], [0]),
   ([0, 3, 1, 0, 2], [0]),
   ([0, 3, 1, 1, 2], [0]),
   ([0, 3, 1, 2, 0], [0]),
   ([0, 3, 1, 2, 1], [0]),
   ([0, 3, 1, 2, 2], [0]),
   ([0, 3, 1, 2, 3], [3]),
   ([0, 3, 1, 2, 4], [3]),
   ([0, 3, 1, 3, 2], [2]),
   ([0, 3, 1, 4, 2], [2]),
   ([0, 3, 2, 0, 1], [0]),
   ([0, 3, 2, 1, 0], [0]),
   ([0, 3, 2, 1, 1], [0]),
   ([0, 3, 2, 1, 2], [0]),
   ([0, 3, 2, 1, 3], [3]),
   ([0, 3, 2, 1, 4], [3]),
   ([0, 3, 2, 2, 1], [0]),
   ([0, 3, 2, 3, 1], [2]),
   ([0, 3, 2, 4, 1], [2]),
   ([0, 3, 3, 1, 2], [1]),
   ([0, 3, 3, 2, 1], [1]),
   ([0, 3, 4, 1, 2], [1]),
   ([0, 3, 4, 2, 1], [1]),
   ([0, 4, 1, 2, 3], [0]),
   ([0, 4, 1, 3, 2], [0]),
   ([0, 4, 2, 1, 3], [0]),
   ([0, 4, 2, 3, 1], [0]),
   ([0, 4, 3, 1, 2], [0]),
   ([0, 4, 3, 2, 1], [0])]

theorem lastMax_SequOOL_last_agrees : agrees (amaxArm (S := Nat)) lastMax_SequOOL_last = true := by decide +kernel
theorem lastMax_SequOOL_last_keys : lastMax_SequOOL_last.map Prod.fst = botKeys [3, 4, 5] :=
  (by decide +kernel : lastMax_SequOOL_last.map Prod.fst = lastMax_SequOOL_pull.map Prod.fst).trans lastMax_SequOOL_pull_keys

/-- for ALL values of any linear order (list lengths [3, 4, 5]): the model rule `amaxArm` returns what the real code
returned on the list's order type -/
theorem lastMax_SequOOL_last_tie {S : Type} [LinearOrder S] [Inhabited S] (vs : List S) (hk : vs.length ∈ [3, 4, 5])
    (hbot : ∀ b, vs.head? = some b → ∀ x ∈ vs, b ≤ x) :
    lookup lastMax_SequOOL_last (denseRanks vs) = some (amaxArm vs) :=
  amaxArm_tie lastMax_SequOOL_last [3, 4, 5] lastMax_SequOOL_last_agrees (complete_of_botKeys lastMax_SequOOL_last_keys) vs hk
    ((by decide : ∀ k ∈ [3, 4, 5], 1 ≤ k) _ hk) hbot

end PyXAB.GeneratedOT.OrderTieC12
