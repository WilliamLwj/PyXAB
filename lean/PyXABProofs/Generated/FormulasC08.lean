/-
  GENERATED by harness/translate_formulas.py from /repo's node classes. Do not edit: rewritten and re-proved on
  every check run.
-/
import PyXABProofs.Lemmas.FormulaTac
set_option linter.unusedVariables false
set_option linter.unusedSectionVars false
set_option linter.unusedSimpArgs false
set_option linter.unusedTactic false
set_option linter.unreachableTactic false
namespace PyXAB.GeneratedFC08
variable {α : Type} [Field α] (sqrt log ceil floor : α → α) (rpow : α → α → α) (max min2 : α → α → α)


/-- what the real method computes (traced) equals the published formula -/
theorem sto_b (n k delta sumR T : α) :
    (sumR / T) + (sqrt ((log ((n * k) / delta)) / ((2 : α) * T))) = Published.stoB sqrt log n k delta (sumR / T) T := by
  simp only [Published.stoB] <;> formula_eq


/-- what the real method computes (traced) equals the published formula -/
theorem doo_b (reward delta : α) :
    reward + delta = Published.dooB reward delta := by
  simp only [Published.dooB] <;> formula_eq


end PyXAB.GeneratedFC08
