/-
  GENERATED by harness/translate_formulas.py from /repo's node classes. Do not edit: rewritten and re-proved on
  every check run.
-/
import PyXABProofs.Lemmas.FormulaTac
set_option linter.unusedVariables false
set_option linter.unusedSectionVars false
set_option linter.unusedSimpArgs false
set_option linter.unusedTactic false
set_option linter.unreachableTactic false
namespace PyXAB.GeneratedFC11
variable {α : Type} [Field α] (sqrt log ceil floor : α → α) (rpow : α → α → α) (max min2 : α → α → α)


/-- what the real method computes (traced) equals the published formula -/
theorem zoom_index (avg phase pulls : α) :
    avg + ((2 : α) * (sqrt (((8 : α) * phase) / ((2 : α) + pulls)))) = Published.zoomIndex sqrt avg phase pulls := by
  simp only [Published.zoomIndex] <;> formula_eq


/-- what the real method computes (traced) equals the published formula -/
theorem zoom_radius (phase pulls : α) :
    sqrt (((8 : α) * phase) / ((2 : α) + (pulls + (1 : α)))) = Published.zoomRadius sqrt phase (pulls + 1) := by
  simp only [Published.zoomRadius] <;> formula_eq


/-- what the real method computes (traced) equals the published formula -/
theorem zoom_threshold (nu rho h : α) :
    nu * (rpow rho h) = Published.zoomThreshold rpow nu rho h := by
  simp only [Published.zoomThreshold] <;> formula_eq


/-- what the real method computes (traced) equals the published formula -/
theorem zoom_mean (V k r : α) :
    ((V * k) + r) / (k + (1 : α)) = Published.runningMean V k r := by
  simp only [Published.runningMean] <;> formula_eq


end PyXAB.GeneratedFC11
