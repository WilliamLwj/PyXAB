/-
  GENERATED by harness/translate_rules.py from /repo's classes: what the real selection code chose on every
  order type of its inputs.  Do not edit: rewritten and re-checked on every check run.
-/
import PyXABProofs.Props.OrderTie
namespace PyXAB.GeneratedOT.OrderTieC08
open PyXAB PyXAB.OT

/-- SOO.pull: evaluated leaf of a layer that is split (-inf, then the rewards of the layer's 2..4 leaves) -/
def lastMax_SOO_pull : Table :=
  [([0, 0, 0], [1]),
   ([0, 0, 1], [1]),
   ([0, 1, 0], [0]),
   ([0, 1, 1], [1]),
   ([0, 1, 2], [1]),
   ([0, 2, 1], [0]),
   ([0, 0, 0, 0], [2]),
   ([0, 0, 0, 1], [2]),
   ([0, 0, 1, 0], [1]),
   ([0, 0, 1, 1], [2]),
   ([0, 0, 1, 2], [2]),
   ([0, 0, 2, 1], [1]),
   ([0, 1, 0, 0], [0]),
   ([0, 1, 0, 1], [2]),
   ([0, 1, 0, 2], [2]),
   ([0, 1, 1, 0], [1]),
   ([0, 1, 1, 1], [2]),
   ([0, 1, 1, 2], [2]),
   ([0, 1, 2, 0], [1]),
   ([0, 1, 2, 1], [1]),
   ([0, 1, 2, 2], [2]),
   ([0, 1, 2, 3], [2]),
   ([0, 1, 3, 2], [1]),
   ([0, 2, 0, 1], [0]),
   ([0, 2, 1, 0], [0]),
   ([0, 2, 1, 1], [0]),
   ([0, 2, 1, 2], [2]),
   ([0, 2, 1, 3], [2]),
   ([0, 2, 2, 1], [1]),
   ([0, 2, 3, 1], [1]),
   ([0, 3, 1, 2], [0]),
   ([0, 3, 2, 1], [0]),
   ([0, 0, 0, 0, 0], [3]),
   ([0, 0, 0, 0, 1], [3]),
   ([0, 0, 0, 1, 0], [2]),
   ([0, 0, 0, 1, 1], [3]),
   ([0, 0, 0, 1, 2], [3]),
   ([0, 0, 0, 2, 1], [2]),
   ([0, 0, 1, 0, 0], [1]),
   ([0, 0, 1, 0, 1], [3]),
   ([0, 0, 1, 0, 2], [3]),
   ([0, 0, 1, 1, 0], [2]),
   ([0, 0, 1, 1, 1], [3]),
   ([0, 0, 1, 1, 2], [3]),
   ([0, 0, 1, 2, 0], [2]),
   ([0, 0, 1, 2, 1], [2]),
   ([0, 0, 1, 2, 2], [3]),
   ([0, 0, 1, 2, 3], [3]),
   ([0, 0, 1, 3, 2], [2]),
   ([0, 0, 2, 0, 1], [1]),
   ([0, 0, 2, 1, 0], [1]),
   ([0, 0, 2, 1, 1], [1]),
   ([0, 0, 2, 1, 2], [3]),
   ([0, 0, 2, 1, 3], [3]),
   ([0, 0, 2, 2, 1], [2]),
   ([0, 0, 2, 3, 1], [2]),
   ([0, 0, 3, 1, 2], [1]),
   ([0, 0, 3, 2, 1], [1]),
   ([0, 1, 0, 0, 0], [0]),
   ([0, 1, 0, 0, 1], [3]),
   ([0, 1, 0, 0, 2], [3]),
   ([0, 1, 0, 1, 0], [2]),
   ([0, 1, 0, 1, 1], [3]),
   ([0, 1, 0, 1, 2], [3]),
   ([0, 1, 0, 2, 0], [2]),
   ([0, 1, 0, 2, 1], [2]),
   ([0, 1, 0, 2, 2], [3]),
   ([0, 1, 0, 2, 3], [3]),
   ([0, 1, 0, 3, 2], [2]),
   ([0, 1, 1, 0, 0], [1]),
   ([0, 1, 1, 0, 1], [3]),
   ([0, 1, 1, 0, 2], [3]),
   ([0, 1, 1, 1, 0], [2]),
   ([0, 1, 1, 1, 1], [3]),
   ([0, 1, 1, 1, 2], [3]),
   ([0, 1, 1, 2, 0], [2]),
   ([0, 1, 1, 2, 1], [2]),
   ([0, 1, 1, 2, 2], [3]),
   ([0, 1, 1, 2, 3], [3]),
   ([0, 1, 1, 3, 2], [2]),
   ([0, 1, 2, 0, 0], [1]),
   ([0, 1, 2, 0, 1], [1]),
   ([0, 1, 2, 0, 2], [3]),
   ([0, 1, 2, 0, 3], [3]),
   ([0, 1, 2, 1, 0], [1]),
   ([0, 1, 2, 1, 1], [1]),
   ([0, 1, 2, 1, 2], [3]),
   ([0, 1, 2, 1, 3], [3]),
   ([0, 1, 2, 2, 0], [2]),
   ([0, 1, 2, 2, 1], [2]),
   ([0, 1, 2, 2, 2], [3]),
   ([0, 1, 2, 2, 3], [3]),
   ([0, 1, 2, 3, 0], [2]),
   ([0, 1, 2, 3, 1], [2]),
   ([0, 1, 2, 3, 2], [2]),
   ([0, 1, 2, 3, 3], [3]),
   ([0, 1, 2, 3, 4], [3]),
   ([0, 1, 2, 4, 3], [2]),
   ([0, 1, 3, 0, 2], [1]),
   ([0, 1, 3, 1, 2], [1]),
   ([0, 1, 3, 2, 0], [1]),
   ([0, 1, 3, 2, 1], [1]),
   ([0, 1, 3, 2, 2], [1]),
   ([0, 1, 3, 2, 3], [3]),
   ([0, 1, 3, 2, 4], [3]),
   ([0, 1, 3, 3, 2], [2]),
   ([0, 1, 3, 4, 2], [2]),
   ([0, 1, 4, 2, 3], [1]),
   ([0, 1, 4, 3, 2], [1]),
   ([0, 2, 0, 0, 1], [0]),
   ([0, 2, 0, 1, 0], [0]),
   ([0, 2, 0, 1, 1], [0]),
   ([0, 2, 0, 1, 2], [3]),
   ([0, 2, 0, 1, 3], [3]),
   ([0, 2, 0, 2, 1], [2]),
   ([0, 2, 0, 3, 1], [2]),
   ([0, 2, 1, 0, 0], [0]),
   ([0, 2, 1, 0, 1], [0]),
   ([0, 2, 1, 0, 2], [3]),
   ([0, 2, 1, 0, 3], [3]),
   ([0, 2, 1, 1, 0], [0]),
   ([0, 2, 1, 1, 1], [0]),
   ([0, 2, 1, 1, 2], [3]),
   ([0, 2, 1, 1, 3], [3]),
   ([0, 2, 1, 2, 0], [2]),
   ([0, 2, 1, 2, 1], [2]),
   ([0, 2, 1, 2, 2], [3]),
   ([0, 2, 1, 2, 3], [3]),
   ([0, 2, 1, 3, 0], [2]),
   ([0, 2, 1, 3, 1], [2]),
   ([0, 2, 1, 3, 2], [2]),
   ([0, 2, 1, 3, 3], [3]),
   ([0, 2, 1, 3, 4], [3]),
   ([0, 2, 1, 4, 3], [2]),
   ([0, 2, 2, 0, 1], [1]),
   ([0, 2, 2, 1, 0], [1]),
   ([0, 2, 2, 1, 1], [1]),
   ([0, 2, 2, 1, 2], [3]),
   ([0, 2, 2, 1, 3], [3]),
   ([0, 2, 2, 2, 1], [2]),
   ([0, 2, 2, 3, 1], [2]),
   ([0, 2, 3, 0, 1], [1]),
   ([0, 2, 3, 1, 0], [1]),
   ([0, 2, 3, 1, 1], [1]),
   ([0, 2, 3, 1, 2], [1]),
   ([0, 2, 3, 1, 3], [3]),
   ([0, 2, 3, 1, 4], [3]),
   ([0, 2, 3, 2, 1], [1]),
   ([0, 2, 3, 3, 1], [2]),
   ([0, 2, 3, 4, 1], [2]),
   ([0, 2, 4, 1, 3], [1]),
   ([0, 2, 4, 3, 1], [1]),
   ([0, 3, 0, 1, 2], [0]),
   ([0, 3, 0, 2, 1], [0]),
   ([0, 3, 1, 0, 2], [0]),
   ([0, 3, 1, 1, 2], [0]),
   ([0, 3, 1, 2, 0], [0]),
   ([0, 3, 1, 2, 1], [0]),
   ([0, 3, 1, 2, 2], [0]),
   ([0, 3, 1, 2, 3], [3]),
   ([0, 3, 1, 2, 4], [3]),
   ([0, 3, 1, 3, 2], [2]),
   ([0, 3, 1, 4, 2], [2]),
   ([0, 3, 2, 0, 1], [0]),
   ([0, 3, 2, 1, 0], [0]),
   ([0, 3, 2, 1, 1], [0]),
   ([0, 3, 2, 1, 2], [0]),
   ([0, 3, 2, 1, 3], [3]),
   ([0, 3, 2, 1, 4], [3]),
   ([0, 3, 2, 2, 1], [0]),
   ([0, 3, 2, 3, 1], [2]),
   ([0, 3, 2, 4, 1], [2]),
   ([0, 3, 3, 1, 2], [1]),
   ([0, 3, 3, 2, 1], [1]),
   ([0, 3, 4, 1, 2], [1]),
   ([0, 3, 4, 2, 1], [1]),
   ([0, 4, 1, 2, 3], [0]),
   ([0, 4, 1, 3, 2], [0]),
   ([0, 4, 2, 1, 3], [0]),
   ([0, 4, 2, 3, 1], [0]),
   ([0, 4, 3, 1, 2], [0]),
   ([0, 4, 3, 2, 1], [0])]

theorem lastMax_SOO_pull_agrees : agrees (amaxArm (S := Nat)) lastMax_SOO_pull = true := by decide +kernel
theorem lastMax_SOO_pull_keys : lastMax_SOO_pull.map Prod.fst = botKeys [3, 4, 5] := by decide +kernel

/-- for ALL values of any linear order (list lengths [3, 4, 5]): the model rule `amaxArm` returns what the real code
returned on the list's order type -/
theorem lastMax_SOO_pull_tie {S : Type} [LinearOrder S] [Inhabited S] (vs : List S) (hk : vs.length ∈ [3, 4, 5])
    (hbot : ∀ b, vs.head? = some b → ∀ x ∈ vs, b ≤ x) :
    lookup lastMax_SOO_pull (denseRanks vs) = some (amaxArm vs) :=
  amaxArm_tie lastMax_SOO_pull [3, 4, 5] lastMax_SOO_pull_agrees (complete_of_botKeys lastMax_SOO_pull_keys) vs hk
    ((by decide : ∀ k ∈ [3, 4, 5], 1 ≤ k) _ hk) hbot

/-- DOO.pull: leaf that is split (equal depth: one common bound delta(h)) -/
def lastMax_DOO_pull : Table :=
  [([0, 0, 0], [1]),
   ([0, 0, 1], [1]),
   ([0, 1, 0], [0]),
   ([0, 1, 1], [1]),
   ([0, 1, 2], [1]),
   ([0, 2, 1], [0]),
   ([0, 0, 0, 0], [2]),
   ([0, 0, 0, 1], [2]),
   ([0, 0, 1, 0], [1]),
   ([0, 0, 1, 1], [2]),
   ([0, 0, 1, 2], [2]),
   ([0, 0, 2, 1], [1]),
   ([0, 1, 0, 0], [0]),
   ([0, 1, 0, 1], [2]),
   ([0, 1, 0, 2], [2]),
   ([0, 1, 1, 0], [1]),
   ([0, 1, 1, 1], [2]),
   ([0, 1, 1, 2], [2]),
   ([0, 1, 2, 0], [1]),
   ([0, 1, 2, 1], [1]),
   ([0, 1, 2, 2], [2]),
   ([0, 1, 2, 3], [2]),
   ([0, 1, 3, 2], [1]),
   ([0, 2, 0, 1], [0]),
   ([0, 2, 1, 0], [0]),
   ([0, 2, 1, 1], [0]),
   ([0, 2, 1, 2], [2]),
   ([0, 2, 1, 3], [2]),
   ([0, 2, 2, 1], [1]),
   ([0, 2, 3, 1], [1]),
   ([0, 3, 1, 2], [0]),
   ([0, 3, 2, 1], [0]),
   ([0, 0, 0, 0, 0], [3]),
   ([0, 0, 0, 0, 1], [3]),
   ([0, 0, 0, 1, 0], [2]),
   ([0, 0, 0, 1, 1], [3]),
   ([0, 0, 0, 1, 2], [3]),
   ([0, 0, 0, 2, 1], [2]),
   ([0, 0, 1, 0, 0], [1]),
   ([0, 0, 1, 0, 1], [3]),
   ([0, 0, 1, 0, 2], [3]),
   ([0, 0, 1, 1, 0], [2]),
   ([0, 0, 1, 1, 1], [3]),
   ([0, 0, 1, 1, 2], [3]),
   ([0, 0, 1, 2, 0], [2]),
   ([0, 0, 1, 2, 1], [2]),
   ([0, 0, 1, 2, 2], [3]),
   ([0, 0, 1, 2, 3], [3]),
   ([0, 0, 1, 3, 2], [2]),
   ([0, 0, 2, 0, 1], [1]),
   ([0, 0, 2, 1, 0], [1]),
   ([0, 0, 2, 1, 1], [1]),
   ([0, 0, 2, 1, 2], [3]),
   ([0, 0, 2, 1, 3], [3]),
   ([0, 0, 2, 2, 1], [2]),
   ([0, 0, 2, 3, 1], [2]),
   ([0, 0, 3, 1, 2], [1]),
   ([0, 0, 3, 2, 1], [1]),
   ([0, 1, 0, 0, 0], [0]),
   ([0, 1, 0, 0, 1], [3]),
   ([0, 1, 0, 0, 2], [3]),
   ([0, 1, 0, 1, 0], [2]),
   ([0, 1, 0, 1, 1], [3]),
   ([0, 1, 0, 1, 2], [3]),
   ([0, 1, 0, 2, 0], [2]),
   ([0, 1, 0, 2, 1], [2]),
   ([0, 1, 0, 2, 2], [3]),
   ([0, 1, 0, 2, 3], [3]),
   ([0, 1, 0, 3, 2], [2]),
   ([0, 1, 1, 0, 0], [1]),
   ([0, 1, 1, 0, 1], [3]),
   ([0, 1, 1, 0, 2], [3]),
   ([0, 1, 1, 1, 0], [2]),
   ([0, 1, 1, 1, 1], [3]),
   ([0, 1, 1, 1, 2], [3]),
   ([0, 1, 1, 2, 0], [2]),
   ([0, 1, 1, 2, 1], [2]),
   ([0, 1, 1, 2, 2], [3]),
   ([0, 1, 1, 2, 3], [3]),
   ([0, 1, 1, 3, 2], [2]),
   ([0, 1, 2, 0, 0], [1]),
   ([0, 1, 2, 0, 1], [1]),
   ([0, 1, 2, 0, 2], [3]),
   ([0, 1, 2, 0, 3], [3]),
   ([0, 1, 2, 1, 0], [1]),
   ([0, 1, 2, 1, 1], [1]),
   ([0, 1, 2, 1, 2], [3]),
   ([0, 1, 2, 1, 3], [3]),
   ([0, 1, 2, 2, 0], [2]),
   ([0, 1, 2, 2, 1], [2]),
   ([0, 1, 2, 2, 2], [3]),
   ([0, 1, 2, 2, 3], [3]),
   ([0, 1, 2, 3, 0], [2]),
   ([0, 1, 2, 3, 1], [2]),
   ([0, 1, 2, 3, 2], [2]),
   ([0, 1, 2, 3, 3], [3]),
   ([0, 1, 2, 3, 4], [3]),
   ([0, 1, 2, 4, 3], [2]),
   ([0, 1, 3, 0, 2], [1]),
   ([0, 1, 3, 1, 2], [1]),
   ([0, 1, 3, 2, 0], [1]),
   ([0, 1, 3, 2, 1], [1]),
   ([0, 1, 3, 2, 2], [1]),
   ([0, 1, 3, 2, 3], [3]),
   ([0, 1, 3, 2, 4], [3]),
   ([0, 1, 3, 3, 2], [2]),
   ([0, 1, 3, 4, 2], [2]),
   ([0, 1, 4, 2, 3], [1]),
   ([0, 1, 4, 3, 2], [1]),
   ([0, 2, 0, 0, 1], [0]),
   ([0, 2, 0, 1, 0], [0]),
   ([0, 2, 0, 1, 1], [0]),
   ([0, 2, 0, 1, 2], [3]),
   ([0, 2, 0, 1, 3], [3]),
   ([0, 2, 0, 2, 1], [2]),
   ([0, 2, 0, 3, 1], [2]),
   ([0, 2, 1, 0, 0], [0]),
   ([0, 2, 1, 0, 1], [0]),
   ([0, 2, 1, 0, 2], [3]),
   ([0, 2, 1, 0, 3], [3]),
   ([0, 2, 1, 1, 0], [0]),
   ([0, 2, 1, 1, 1], [0]),
   ([0, 2, 1, 1, 2], [3]),
   ([0, 2, 1, 1, 3], [3]),
   ([0, 2, 1, 2, 0], [2]),
   ([0, 2, 1, 2, 1], [2]),
   ([0, 2, 1, 2, 2], [3]),
   ([0, 2, 1, 2, 3], [3]),
   ([0, 2, 1, 3, 0], [2]),
   ([0, 2, 1, 3, 1], [2]),
   ([0, 2, 1, 3, 2], [2]),
   ([0, 2, 1, 3, 3], [3]),
   ([0, 2, 1, 3, 4], [3]),
   ([0, 2, 1, 4, 3], [2]),
   ([0, 2, 2, 0, 1], [1]),
   ([0, 2, 2, 1, 0], [1]),
   ([0, 2, 2, 1, 1], [1]),
   ([0, 2, 2, 1, 2], [3]),
   ([0, 2, 2, 1, 3], [3]),
   ([0, 2, 2, 2, 1], [2]),
   ([0, 2, 2, 3, 1], [2]),
   ([0, 2, 3, 0, 1], [1]),
   ([0, 2, 3, 1, 0], [1]),
   ([0, 2, 3, 1, 1], [1]),
   ([0, 2, 3, 1, 2], [1]),
   ([0, 2, 3, 1, 3], [3]),
   ([0, 2, 3, 1, 4], [3]),
   ([0, 2, 3, 2, 1], [1]),
   ([0, 2, 3, 3, 1], [2]),
   ([0, 2, 3, 4, 1], [2]),
   ([0, 2, 4, 1, 3], [1]),
   ([0, 2, 4, 3, 1], [1]),
   ([0, 3, 0, 1, 2], [0]),
   ([0, 3, 0, 2, 1], [0]),
   ([0, 3, 1, 0, 2], [0]),
   ([0, 3, 1, 1, 2], [0]),
   ([0, 3, 1, 2, 0], [0]),
   ([0, 3, 1, 2, 1], [0]),
   ([0, 3, 1, 2, 2], [0]),
   ([0, 3, 1, 2, 3], [3]),
   ([0, 3, 1, 2, 4], [3]),
   ([0, 3, 1, 3, 2], [2]),
   ([0, 3, 1, 4, 2], [2]),
   ([0, 3, 2, 0, 1], [0]),
   ([0, 3, 2, 1, 0], [0]),
   ([0, 3, 2, 1, 1], [0]),
   ([0, 3, 2, 1, 2], [0]),
   ([0, 3, 2, 1, 3], [3]),
   ([0, 3, 2, 1, 4], [3]),
   ([0, 3, 2, 2, 1], [0]),
   ([0, 3, 2, 3, 1], [2]),
   ([0, 3, 2, 4, 1], [2]),
   ([0, 3, 3, 1, 2], [1]),
   ([0, 3, 3, 2, 1], [1]),
   ([0, 3, 4, 1, 2], [1]),
   ([0, 3, 4, 2, 1], [1]),
   ([0, 4, 1, 2, 3], [0]),
   ([0, 4, 1, 3, 2], [0]),
   ([0, 4, 2, 1, 3], [0]),
   ([0, 4, 2, 3, 1], [0]),
   ([0, 4, 3, 1, 2], [0]),
   ([0, 4, 3, 2, 1], [0])]

theorem lastMax_DOO_pull_agrees : agrees (amaxArm (S := Nat)) lastMax_DOO_pull = true := by decide +kernel
theorem lastMax_DOO_pull_keys : lastMax_DOO_pull.map Prod.fst = botKeys [3, 4, 5] :=
  (by decide +kernel : lastMax_DOO_pull.map Prod.fst = lastMax_SOO_pull.map Prod.fst).trans lastMax_SOO_pull_keys

/-- for ALL values of any linear order (list lengths [3, 4, 5]): the model rule `amaxArm` returns what the real code
returned on the list's order type -/
theorem lastMax_DOO_pull_tie {S : Type} [LinearOrder S] [Inhabited S] (vs : List S) (hk : vs.length ∈ [3, 4, 5])
    (hbot : ∀ b, vs.head? = some b → ∀ x ∈ vs, b ≤ x) :
    lookup lastMax_DOO_pull (denseRanks vs) = some (amaxArm vs) :=
  amaxArm_tie lastMax_DOO_pull [3, 4, 5] lastMax_DOO_pull_agrees (complete_of_botKeys lastMax_DOO_pull_keys) vs hk
    ((by decide : ∀ k ∈ [3, 4, 5], 1 ≤ k) _ hk) hbot

/-- StoSOO.pull: leaf of a layer handed out (equal evaluation counts: one common confidence width) -/
def lastMax_StoSOO_pull : Table :=
  [([0, 0, 0], [1]),
   ([0, 0, 1], [1]),
   ([0, 1, 0], [0]),
   ([0, 1, 1], [1]),
   ([0, 1, 2], [1]),
   ([0, 2, 1], [0]),
   ([0, 0, 0, 0], [2]),
   ([0, 0, 0, 1], [2]),
   ([0, 0, 1, 0], [1]),
   ([0, 0, 1, 1], [2]),
   ([0, 0, 1, 2], [2]),
   ([0, 0, 2, 1], [1]),
   ([0, 1, 0, 0], [0]),
   ([0, 1, 0, 1], [2]),
   ([0, 1, 0, 2], [2]),
   ([0, 1, 1, 0], [1]),
   ([0, 1, 1, 1], [2]),
   ([0, 1, 1, 2], [2]),
   ([0, 1, 2, 0], [1]),
   ([0, 1, 2, 1], [1]),
   ([0, 1, 2, 2], [2]),
   ([0, 1, 2, 3], [2]),
   ([0, 1, 3, 2], [1]),
   ([0, 2, 0, 1], [0]),
   ([0, 2, 1, 0], [0]),
   ([0, 2, 1, 1], [0]),
   ([0, 2, 1, 2], [2]),
   ([0, 2, 1, 3], [2]),
   ([0, 2, 2, 1], [1]),
   ([0, 2, 3, 1], [1]),
   ([0, 3, 1, 2], [0]),
   ([0, 3, 2, 1], [0]),
   ([0, 0, 0, 0, 0], [3]),
   ([0, 0, 0, 0, 1], [3]),
   ([0, 0, 0, 1, 0], [2]),
   ([0, 0, 0, 1, 1], [3]),
   ([0, 0, 0, 1, 2], [3]),
   ([0, 0, 0, 2, 1], [2]),
   ([0, 0, 1, 0, 0], [1]),
   ([0, 0, 1, 0, 1], [3]),
   ([0, 0, 1, 0, 2], [3]),
   ([0, 0, 1, 1, 0], [2]),
   ([0, 0, 1, 1, 1], [3]),
   ([0, 0, 1, 1, 2], [3]),
   ([0, 0, 1, 2, 0], [2]),
   ([0, 0, 1, 2, 1], [2]),
   ([0, 0, 1, 2, 2], [3]),
   ([0, 0, 1, 2, 3], [3]),
   ([0, 0, 1, 3, 2], [2]),
   ([0, 0, 2, 0, 1], [1]),
   ([0, 0, 2, 1, 0], [1]),
   ([0, 0, 2, 1, 1], [1]),
   ([0, 0, 2, 1, 2], [3]),
   ([0, 0, 2, 1, 3], [3]),
   ([0, 0, 2, 2, 1], [2]),
   ([0, 0, 2, 3, 1], [2]),
   ([0, 0, 3, 1, 2], [1]),
   ([0, 0, 3, 2, 1], [1]),
   ([0, 1, 0, 0, 0], [0]),
   ([0, 1, 0, 0, 1], [3]),
   ([0, 1, 0, 0, 2], [3]),
   ([0, 1, 0, 1, 0], [2]),
   ([0, 1, 0, 1, 1], [3]),
   ([0, 1, 0, 1, 2], [3]),
   ([0, 1, 0, 2, 0], [2]),
   ([0, 1, 0, 2, 1], [2]),
   ([0, 1, 0, 2, 2], [3]),
   ([0, 1, 0, 2, 3], [3]),
   ([0, 1, 0, 3, 2], [2]),
   ([0, 1, 1, 0, 0], [1]),
   ([0, 1, 1, 0, 1], [3]),
   ([0, 1, 1, 0, 2], [3]),
   ([0, 1, 1, 1, 0], [2]),
   ([0, 1, 1, 1, 1], [3]),
   ([0, 1, 1, 1, 2], [3]),
   ([0, 1, 1, 2, 0], [2]),
   ([0, 1, 1, 2, 1], [2]),
   ([0, 1, 1, 2, 2], [3]),
   ([0, 1, 1, 2, 3], [3]),
   ([0, 1, 1, 3, 2], [2]),
   ([0, 1, 2, 0, 0], [1]),
   ([0, 1, 2, 0, 1], [1]),
   ([0, 1, 2, 0, 2], [3]),
   ([0, 1, 2, 0, 3], [3]),
   ([0, 1, 2, 1, 0], [1]),
   ([0, 1, 2, 1, 1], [1]),
   ([0, 1, 2, 1, 2], [3]),
   ([0, 1, 2, 1, 3], [3]),
   ([0, 1, 2, 2, 0], [2]),
   ([0, 1, 2, 2, 1], [2]),
   ([0, 1, 2, 2, 2], [3]),
   ([0, 1, 2, 2, 3], [3]),
   ([0, 1, 2, 3, 0], [2]),
   ([0, 1, 2, 3, 1], [2]),
   ([0, 1, 2, 3, 2], [2]),
   ([0, 1, 2, 3, 3], [3]),
   ([0, 1, 2, 3, 4], [3]),
   ([0, 1, 2, 4, 3], [2]),
   ([0, 1, 3, 0, 2], [1]),
   ([0, 1, 3, 1, 2], [1]),
   ([0, 1, 3, 2, 0], [1]),
   ([0, 1, 3, 2, 1], [1]),
   ([0, 1, 3, 2, 2], [1]),
   ([0, 1, 3, 2, 3], [3]),
   ([0, 1, 3, 2, 4], [3]),
   ([0, 1, 3, 3, 2], [2]),
   ([0, 1, 3, 4, 2], [2]),
   ([0, 1, 4, 2, 3], [1]),
   ([0, 1, 4, 3, 2], [1]),
   ([0, 2, 0, 0, 1], [0]),
   ([0, 2, 0, 1, 0], [0]),
   ([0, 2, 0, 1, 1], [0]),
   ([0, 2, 0, 1, 2], [3]),
   ([0, 2, 0, 1, 3], [3]),
   ([0, 2, 0, 2, 1], [2]),
   ([0, 2, 0, 3, 1], [2]),
   ([0, 2, 1, 0, 0], [0]),
   ([0, 2, 1, 0, 1], [0]),
   ([0, 2, 1, 0, 2], [3]),
   ([0, 2, 1, 0, 3], [3]),
   ([0, 2, 1, 1, 0], [0]),
   ([0, 2, 1, 1, 1], [0]),
   ([0, 2, 1, 1, 2], [3]),
   ([0, 2, 1, 1, 3], [3]),
   ([0, 2, 1, 2, 0], [2]),
   ([0, 2, 1, 2, 1], [2]),
   ([0, 2, 1, 2, 2], [3]),
   ([0, 2, 1, 2, 3], [3]),
   ([0, 2, 1, 3, 0], [2]),
   ([0, 2, 1, 3, 1], [2]),
   ([0, 2, 1, 3, 2], [2]),
   ([0, 2, 1, 3, 3], [3]),
   ([0, 2, 1, 3, 4], [3]),
   ([0, 2, 1, 4, 3], [2]),
   ([0, 2, 2, 0, 1], [1]),
   ([0, 2, 2, 1, 0], [1]),
   ([0, 2, 2, 1, 1], [1]),
   ([0, 2, 2, 1, 2], [3]),
   ([0, 2, 2, 1, 3], [3]),
   ([0, 2, 2, 2, 1], [2]),
   ([0, 2, 2, 3, 1], [2]),
   ([0, 2, 3, 0, 1], [1]),
   ([0, 2, 3, 1, 0], [1]),
   ([0, 2, 3, 1, 1], [1]),
   ([0, 2, 3, 1, 2], [1]),
   ([0, 2, 3, 1, 3], [3]),
   ([0, 2, 3, 1, 4], [3]),
   ([0, 2, 3, 2, 1], [1]),
   ([0, 2, 3, 3, 1], [2]),
   ([0, 2, 3, 4, 1], [2]),
   ([0, 2, 4, 1, 3], [1]),
   ([0, 2, 4, 3, 1], [1]),
   ([0, 3, 0, 1, 2], [0]),
   ([0, 3, 0, 2, 1], [0]),
   ([0, 3, 1, 0, 2], [0]),
   ([0, 3, 1, 1, 2], [0]),
   ([0, 3, 1, 2, 0], [0]),
   ([0, 3, 1, 2, 1], [0]),
   ([0, 3, 1, 2, 2], [0]),
   ([0, 3, 1, 2, 3], [3]),
   ([0, 3, 1, 2, 4], [3]),
   ([0, 3, 1, 3, 2], [2]),
   ([0, 3, 1, 4, 2], [2]),
   ([0, 3, 2, 0, 1], [0]),
   ([0, 3, 2, 1, 0], [0]),
   ([0, 3, 2, 1, 1], [0]),
   ([0, 3, 2, 1, 2], [0]),
   ([0, 3, 2, 1, 3], [3]),
   ([0, 3, 2, 1, 4], [3]),
   ([0, 3, 2, 2, 1], [0]),
   ([0, 3, 2, 3, 1], [2]),
   ([0, 3, 2, 4, 1], [2]),
   ([0, 3, 3, 1, 2], [1]),
   ([0, 3, 3, 2, 1], [1]),
   ([0, 3, 4, 1, 2], [1]),
   ([0, 3, 4, 2, 1], [1]),
   ([0, 4, 1, 2, 3], [0]),
   ([0, 4, 1, 3, 2], [0]),
   ([0, 4, 2, 1, 3], [0]),
   ([0, 4, 2, 3, 1], [0]),
   ([0, 4, 3, 1, 2], [0]),
   ([0, 4, 3, 2, 1], [0])]

theorem lastMax_StoSOO_pull_agrees : agrees (amaxArm (S := Nat)) lastMax_StoSOO_pull = true := by decide +kernel
theorem lastMax_StoSOO_pull_keys : lastMax_StoSOO_pull.map Prod.fst = botKeys [3, 4, 5] :=
  (by decide +kernel : lastMax_StoSOO_pull.map Prod.fst = lastMax_SOO_pull.map Prod.fst).trans lastMax_SOO_pull_keys

/-- for ALL values of any linear order (list lengths [3, 4, 5]): the model rule `amaxArm` returns what the real code
returned on the list's order type -/
theorem lastMax_StoSOO_pull_tie {S : Type} [LinearOrder S] [Inhabited S] (vs : List S) (hk : vs.length ∈ [3, 4, 5])
    (hbot : ∀ b, vs.head? = some b → ∀ x ∈ vs, b ≤ x) :
    lookup lastMax_StoSOO_pull (denseRanks vs) = some (amaxArm vs) :=
  amaxArm_tie lastMax_StoSOO_pull [3, 4, 5] lastMax_StoSOO_pull_agrees (complete_of_botKeys lastMax_StoSOO_pull_keys) vs hk
    ((by decide : ∀ k ∈ [3, 4, 5], 1 ≤ k) _ hk) hbot

end PyXAB.GeneratedOT.OrderTieC08
