/-
  GENERATED by harness/translate_formulas.py from /repo's node classes. Do not edit: rewritten and re-proved on
  every check run.
-/
import PyXABProofs.Lemmas.FormulaTac
set_option linter.unusedVariables false
set_option linter.unusedSectionVars false
set_option linter.unusedSimpArgs false
set_option linter.unusedTactic false
set_option linter.unreachableTactic false
namespace PyXAB.GeneratedFC09
variable {α : Type} [Field α] (sqrt log ceil floor : α → α) (rpow : α → α → α) (max min2 : α → α → α)


/-- what the real method computes (traced) equals the published formula -/
theorem gpo_N (rhomax n : α) :
    ceil ((((1 : α) / 2) * ((log (2 : α)) / (log ((1 : α) / rhomax)))) * (log ((n / (2 : α)) / (log (n / (2 : α)))))) = Published.gpoN log ceil rhomax n := by
  simp only [Published.gpoN] <;> formula_eq


/-- what the real method computes (traced) equals the published formula -/
theorem gpo_half (n N : α) :
    floor (n / ((2 : α) * N)) = Published.gpoHalf floor n N := by
  simp only [Published.gpoHalf] <;> formula_eq


end PyXAB.GeneratedFC09
