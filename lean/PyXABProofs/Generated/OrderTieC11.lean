/-
  GENERATED by harness/translate_rules.py from /repo's classes: what the real selection code chose on every
  order type of its inputs.  Do not edit: rewritten and re-checked on every check run.
-/
import PyXABProofs.Props.OrderTie
namespace PyXAB.GeneratedOT.OrderTieC11
open PyXAB PyXAB.OT

/-- Zooming.pull: arm chosen (-inf, then the indices of 1..4 active arms) -/
def amaxArm_Zooming : Table :=
  [([0, 0], [0]),
   ([0, 1], [0]),
   ([0, 0, 0], [1]),
   ([0, 0, 1], [1]),
   ([0, 1, 0], [0]),
   ([0, 1, 1], [1]),
   ([0, 1, 2], [1]),
   ([0, 2, 1], [0]),
   ([0, 0, 0, 0], [2]),
   ([0, 0, 0, 1], [2]),
   ([0, 0, 1, 0], [1]),
   ([0, 0, 1, 1], [2]),
   ([0, 0, 1, 2], [2]),
   ([0, 0, 2, 1], [1]),
   ([0, 1, 0, 0], [0]),
   ([0, 1, 0, 1], [2]),
   ([0, 1, 0, 2], [2]),
   ([0, 1, 1, 0], [1]),
   ([0, 1, 1, 1], [2]),
   ([0, 1, 1, 2], [2]),
   ([0, 1, 2, 0], [1]),
   ([0, 1, 2, 1], [1]),
   ([0, 1, 2, 2], [2]),
   ([0, 1, 2, 3], [2]),
   ([0, 1, 3, 2], [1]),
   ([0, 2, 0, 1], [0]),
   ([0, 2, 1, 0], [0]),
   ([0, 2, 1, 1], [0]),
   ([0, 2, 1, 2], [2]),
   ([0, 2, 1, 3], [2]),
   ([0, 2, 2, 1], [1]),
   ([0, 2, 3, 1], [1]),
   ([0, 3, 1, 2], [0]),
   ([0, 3, 2, 1], [0]),
   ([0, 0, 0, 0, 0], [3]),
   ([0, 0, 0, 0, 1], [3]),
   ([0, 0, 0, 1, 0], [2]),
   ([0, 0, 0, 1, 1], [3]),
   ([0, 0, 0, 1, 2], [3]),
   ([0, 0, 0, 2, 1], [2]),
   ([0, 0, 1, 0, 0], [1]),
   ([0, 0, 1, 0, 1], [3]),
   ([0, 0, 1, 0, 2], [3]),
   ([0, 0, 1, 1, 0], [2]),
   ([0, 0, 1, 1, 1], [3]),
   ([0, 0, 1, 1, 2], [3]),
   ([0, 0, 1, 2, 0], [2]),
   ([0, 0, 1, 2, 1], [2]),
   ([0, 0, 1, 2, 2], [3]),
   ([0, 0, 1, 2, 3], [3]),
   ([0, 0, 1, 3, 2], [2]),
   ([0, 0, 2, 0, 1], [1]),
   ([0, 0, 2, 1, 0], [1]),
   ([0, 0, 2, 1, 1], [1]),
   ([0, 0, 2, 1, 2], [3]),
   ([0, 0, 2, 1, 3], [3]),
   ([0, 0, 2, 2, 1], [2]),
   ([0, 0, 2, 3, 1], [2]),
   ([0, 0, 3, 1, 2], [1]),
   ([0, 0, 3, 2, 1], [1]),
   ([0, 1, 0, 0, 0], [0]),
   ([0, 1, 0, 0, 1], [3]),
   ([0, 1, 0, 0, 2], [3]),
   ([0, 1, 0, 1, 0], [2]),
   ([0, 1, 0, 1, 1], [3]),
   ([0, 1, 0, 1, 2], [3]),
   ([0, 1, 0, 2, 0], [2]),
   ([0, 1, 0, 2, 1], [2]),
   ([0, 1, 0, 2, 2], [3]),
   ([0, 1, 0, 2, 3], [3]),
   ([0, 1, 0, 3, 2], [2]),
   ([0, 1, 1, 0, 0], [1]),
   ([0, 1, 1, 0, 1], [3]),
   ([0, 1, 1, 0, 2], [3]),
   ([0, 1, 1, 1, 0], [2]),
   ([0, 1, 1, 1, 1], [3]),
   ([0, 1, 1, 1, 2], [3]),
   ([0, 1, 1, 2, 0], [2]),
   ([0, 1, 1, 2, 1], [2]),
   ([0, 1, 1, 2, 2], [3]),
   ([0, 1, 1, 2, 3], [3]),
   ([0, 1, 1, 3, 2], [2]),
   ([0, 1, 2, 0, 0], [1]),
   ([0, 1, 2, 0, 1], [1]),
   ([0, 1, 2, 0, 2], [3]),
   ([0, 1, 2, 0, 3], [3]),
   ([0, 1, 2, 1, 0], [1]),
   ([0, 1, 2, 1, 1], [1]),
   ([0, 1, 2, 1, 2], [3]),
   ([0, 1, 2, 1, 3], [3]),
   ([0, 1, 2, 2, 0], [2]),
   ([0, 1, 2, 2, 1], [2]),
   ([0, 1, 2, 2, 2], [3]),
   ([0, 1, 2, 2, 3], [3]),
   ([0, 1, 2, 3, 0], [2]),
   ([0, 1, 2, 3, 1], [2]),
   ([0, 1, 2, 3, 2], [2]),
   ([0, 1, 2, 3, 3], [3]),
   ([0, 1, 2, 3, 4], [3]),
   ([0, 1, 2, 4, 3], [2]),
   ([0, 1, 3, 0, 2], [1]),
   ([0, 1, 3, 1, 2], [1]),
   ([0, 1, 3, 2, 0], [1]),
   ([0, 1, 3, 2, 1], [1]),
   ([0, 1, 3, 2, 2], [1]),
   ([0, 1, 3, 2, 3], [3]),
   ([0, 1, 3, 2, 4], [3]),
   ([0, 1, 3, 3, 2], [2]),
   ([0, 1, 3, 4, 2], [2]),
   ([0, 1, 4, 2, 3], [1]),
   ([0, 1, 4, 3, 2], [1]),
   ([0, 2, 0, 0, 1], [0]),
   ([0, 2, 0, 1, 0], [0]),
   ([0, 2, 0, 1, 1], [0]),
   ([0, 2, 0, 1, 2], [3]),
   ([0, 2, 0, 1, 3], [3]),
   ([0, 2, 0, 2, 1], [2]),
   ([0, 2, 0, 3, 1], [2]),
   ([0, 2, 1, 0, 0], [0]),
   ([0, 2, 1, 0, 1], [0]),
   ([0, 2, 1, 0, 2], [3]),
   ([0, 2, 1, 0, 3], [3]),
   ([0, 2, 1, 1, 0], [0]),
   ([0, 2, 1, 1, 1], [0]),
   ([0, 2, 1, 1, 2], [3]),
   ([0, 2, 1, 1, 3], [3]),
   ([0, 2, 1, 2, 0], [2]),
   ([0, 2, 1, 2, 1], [2]),
   ([0, 2, 1, 2, 2], [3]),
   ([0, 2, 1, 2, 3], [3]),
   ([0, 2, 1, 3, 0], [2]),
   ([0, 2, 1, 3, 1], [2]),
   ([0, 2, 1, 3, 2], [2]),
   ([0, 2, 1, 3, 3], [3]),
   ([0, 2, 1, 3, 4], [3]),
   ([0, 2, 1, 4, 3], [2]),
   ([0, 2, 2, 0, 1], [1]),
   ([0, 2, 2, 1, 0], [1]),
   ([0, 2, 2, 1, 1], [1]),
   ([0, 2, 2, 1, 2], [3]),
   ([0, 2, 2, 1, 3], [3]),
   ([0, 2, 2, 2, 1], [2]),
   ([0, 2, 2, 3, 1], [2]),
   ([0, 2, 3, 0, 1], [1]),
   ([0, 2, 3, 1, 0], [1]),
   ([0, 2, 3, 1, 1], [1]),
   ([0, 2, 3, 1, 2], [1]),
   ([0, 2, 3, 1, 3], [3]),
   ([0, 2, 3, 1, 4], [3]),
   ([0, 2, 3, 2, 1], [1]),
   ([0, 2, 3, 3, 1], [2]),
   ([0, 2, 3, 4, 1], [2]),
   ([0, 2, 4, 1, 3], [1]),
   ([0, 2, 4, 3, 1], [1]),
   ([0, 3, 0, 1, 2], [0]),
   ([0, 3, 0, 2, 1], [0]),
   ([0, 3, 1, 0, 2], [0]),
   ([0, 3, 1, 1, 2], [0]),
   ([0, 3, 1, 2, 0], [0]),
   ([0, 3, 1, 2, 1], [0]),
   ([0, 3, 1, 2, 2], [0]),
   ([0, 3, 1, 2, 3], [3]),
   ([0, 3, 1, 2, 4], [3]),
   ([0, 3, 1, 3, 2], [2]),
   ([0, 3, 1, 4, 2], [2]),
   ([0, 3, 2, 0, 1], [0]),
   ([0, 3, 2, 1, 0], [0]),
   ([0, 3, 2, 1, 1], [0]),
   ([0, 3, 2, 1, 2], [0]),
   ([0, 3, 2, 1, 3], [3]),
   ([0, 3, 2, 1, 4], [3]),
   ([0, 3, 2, 2, 1], [0]),
   ([0, 3, 2, 3, 1], [2]),
   ([0, 3, 2, 4, 1], [2]),
   ([0, 3, 3, 1, 2], [1]),
   ([0, 3, 3, 2, 1], [1]),
   ([0, 3, 4, 1, 2], [1]),
   ([0, 3, 4, 2, 1], [1]),
   ([0, 4, 1, 2, 3], [0]),
   ([0, 4, 1, 3, 2], [0]),
   ([0, 4, 2, 1, 3], [0]),
   ([0, 4, 2, 3, 1], [0]),
   ([0, 4, 3, 1, 2], [0]),
   ([0, 4, 3, 2, 1], [0])]

theorem amaxArm_Zooming_agrees : agrees (amaxArm (S := Nat)) amaxArm_Zooming = true := by decide +kernel
theorem amaxArm_Zooming_keys : amaxArm_Zooming.map Prod.fst = botKeys [2, 3, 4, 5] := by decide +kernel

/-- for ALL values of any linear order (list lengths [2, 3, 4, 5]): the model rule `amaxArm` returns what the real code
returned on the list's order type -/
theorem amaxArm_Zooming_tie {S : Type} [LinearOrder S] [Inhabited S] (vs : List S) (hk : vs.length ∈ [2, 3, 4, 5])
    (hbot : ∀ b, vs.head? = some b → ∀ x ∈ vs, b ≤ x) :
    lookup amaxArm_Zooming (denseRanks vs) = some (amaxArm vs) :=
  amaxArm_tie amaxArm_Zooming [2, 3, 4, 5] amaxArm_Zooming_agrees (complete_of_botKeys amaxArm_Zooming_keys) vs hk
    ((by decide : ∀ k ∈ [2, 3, 4, 5], 1 ≤ k) _ hk) hbot

end PyXAB.GeneratedOT.OrderTieC11
