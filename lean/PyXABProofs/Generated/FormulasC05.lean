/-
  GENERATED by harness/translate_formulas.py from /repo's node classes. Do not edit: rewritten and re-proved on
  every check run.
-/
import PyXABProofs.Lemmas.FormulaTac
set_option linter.unusedVariables false
set_option linter.unusedSectionVars false
set_option linter.unusedSimpArgs false
set_option linter.unusedTactic false
set_option linter.unreachableTactic false
namespace PyXAB.GeneratedFC05
variable {α : Type} [Field α] (sqrt log ceil floor : α → α) (rpow : α → α → α) (max min2 : α → α → α)


/-- what the real method computes (traced) equals the published formula -/
theorem hoo_u (nu rho rounds sumR T h : α) :
    ((sumR / T) + (sqrt (((2 : α) * (log rounds)) / T))) + (nu * (rpow rho h)) = Published.hooU sqrt log rpow nu rho rounds (sumR / T) T h := by
  simp only [Published.hooU] <;> formula_eq


/-- what the real method computes (traced) equals the published formula -/
theorem hct_u (nu rho c dt sumR T h : α) :
    ((sumR / T) + (nu * (rpow rho h))) + (sqrt (((c ^ 2) * (log ((1 : α) / dt))) / T)) = Published.hctU sqrt log rpow nu rho c dt (sumR / T) T h := by
  simp only [Published.hctU] <;> formula_eq


/-- what the real method computes (traced) equals the published formula -/
theorem vhct_u (nu rho c bound dt avgR var T h : α) :
    (avgR + ((sqrt (((((c ^ 2) * (2 : α)) * var) * (log ((1 : α) / dt))) / T)) + (((((3 : α) * bound) * (c ^ 2)) * (log ((1 : α) / dt))) / T))) + (nu * (rpow rho h)) = Published.vhctU sqrt log rpow nu rho c bound dt avgR var T h := by
  simp only [Published.vhctU] <;> formula_eq


/-- what the real method computes (traced) equals the published formula -/
theorem hct_dt_one (c1 delta tplus : α) :
    min2 (1 : α) ((c1 * delta) / tplus) = Published.hctDt min2 (1 : α) c1 delta tplus := by
  simp only [Published.hctDt] <;> formula_eq


/-- what the real method computes (traced) equals the published formula -/
theorem vhct_dt_one (c1 delta tplus : α) :
    min2 (1 : α) ((c1 * delta) / tplus) = Published.hctDt min2 (1 : α) c1 delta tplus := by
  simp only [Published.hctDt] <;> formula_eq


/-- what the real method computes (traced) equals the published formula -/
theorem hct_c1 (nu rho : α) :
    rpow (rho / ((3 : α) * nu)) ((1 : α) / 8) = Published.hctC1 rpow nu rho := by
  simp only [Published.hctC1] <;> formula_eq


/-- what the real method computes (traced) equals the published formula -/
theorem vhct_c1 (nu rho : α) :
    rpow (rho / ((3 : α) * nu)) ((1 : α) / 8) = Published.hctC1 rpow nu rho := by
  simp only [Published.hctC1] <;> formula_eq


end PyXAB.GeneratedFC05
