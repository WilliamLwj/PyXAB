/-
  GENERATED by harness/translate_formulas.py from /repo's node classes. Do not edit: rewritten and re-proved on
  every check run.
-/
import PyXABProofs.Lemmas.FormulaTac
set_option linter.unusedVariables false
set_option linter.unusedSectionVars false
set_option linter.unusedSimpArgs false
set_option linter.unusedTactic false
set_option linter.unreachableTactic false
namespace PyXAB.GeneratedFC04
variable {α : Type} [Field α] (sqrt log ceil floor : α → α) (rpow : α → α → α) (max min2 : α → α → α)


/-- what the real method computes (traced) equals the published formula -/
theorem vhct_varfloor (varR minvar : α) :
    max varR minvar = Published.varFloor max varR minvar := by
  simp only [Published.varFloor] <;> formula_eq


end PyXAB.GeneratedFC04
