/-
  GENERATED by harness/translate_rules.py from /repo's classes: what the real selection code chose on every
  order type of its inputs.  Do not edit: rewritten and re-checked on every check run.
-/
import PyXABProofs.Props.OrderTie
namespace PyXAB.GeneratedOT.OrderTieC10
open PyXAB PyXAB.OT

/-- POO.get_last_point: learner whose recommendation is returned -/
def amaxFirst_POO : Table :=
  [([0], [0]),
   ([0, 0], [0]),
   ([0, 1], [1]),
   ([1, 0], [0]),
   ([0, 0, 0], [0]),
   ([0, 0, 1], [2]),
   ([0, 1, 0], [1]),
   ([0, 1, 1], [1]),
   ([0, 1, 2], [2]),
   ([0, 2, 1], [1]),
   ([1, 0, 0], [0]),
   ([1, 0, 1], [0]),
   ([1, 0, 2], [2]),
   ([1, 1, 0], [0]),
   ([1, 2, 0], [1]),
   ([2, 0, 1], [0]),
   ([2, 1, 0], [0]),
   ([0, 0, 0, 0], [0]),
   ([0, 0, 0, 1], [3]),
   ([0, 0, 1, 0], [2]),
   ([0, 0, 1, 1], [2]),
   ([0, 0, 1, 2], [3]),
   ([0, 0, 2, 1], [2]),
   ([0, 1, 0, 0], [1]),
   ([0, 1, 0, 1], [1]),
   ([0, 1, 0, 2], [3]),
   ([0, 1, 1, 0], [1]),
   ([0, 1, 1, 1], [1]),
   ([0, 1, 1, 2], [3]),
   ([0, 1, 2, 0], [2]),
   ([0, 1, 2, 1], [2]),
   ([0, 1, 2, 2], [2]),
   ([0, 1, 2, 3], [3]),
   ([0, 1, 3, 2], [2]),
   ([0, 2, 0, 1], [1]),
   ([0, 2, 1, 0], [1]),
   ([0, 2, 1, 1], [1]),
   ([0, 2, 1, 2], [1]),
   ([0, 2, 1, 3], [3]),
   ([0, 2, 2, 1], [1]),
   ([0, 2, 3, 1], [2]),
   ([0, 3, 1, 2], [1]),
   ([0, 3, 2, 1], [1]),
   ([1, 0, 0, 0], [0]),
   ([1, 0, 0, 1], [0]),
   ([1, 0, 0, 2], [3]),
   ([1, 0, 1, 0], [0]),
   ([1, 0, 1, 1], [0]),
   ([1, 0, 1, 2], [3]),
   ([1, 0, 2, 0], [2]),
   ([1, 0, 2, 1], [2]),
   ([1, 0, 2, 2], [2]),
   ([1, 0, 2, 3], [3]),
   ([1, 0, 3, 2], [2]),
   ([1, 1, 0, 0], [0]),
   ([1, 1, 0, 1], [0]),
   ([1, 1, 0, 2], [3]),
   ([1, 1, 1, 0], [0]),
   ([1, 1, 2, 0], [2]),
   ([1, 2, 0, 0], [1]),
   ([1, 2, 0, 1], [1]),
   ([1, 2, 0, 2], [1]),
   ([1, 2, 0, 3], [3]),
   ([1, 2, 1, 0], [1]),
   ([1, 2, 2, 0], [1]),
   ([1, 2, 3, 0], [2]),
   ([1, 3, 0, 2], [1]),
   ([1, 3, 2, 0], [1]),
   ([2, 0, 0, 1], [0]),
   ([2, 0, 1, 0], [0]),
   ([2, 0, 1, 1], [0]),
   ([2, 0, 1, 2], [0]),
   ([2, 0, 1, 3], [3]),
   ([2, 0, 2, 1], [0]),
   ([2, 0, 3, 1], [2]),
   ([2, 1, 0, 0], [0]),
   ([2, 1, 0, 1], [0]),
   ([2, 1, 0, 2], [0]),
   ([2, 1, 0, 3], [3]),
   ([2, 1, 1, 0], [0]),
   ([2, 1, 2, 0], [0]),
   ([2, 1, 3, 0], [2]),
   ([2, 2, 0, 1], [0]),
   ([2, 2, 1, 0], [0]),
   ([2, 3, 0, 1], [1]),
   ([2, 3, 1, 0], [1]),
   ([3, 0, 1, 2], [0]),
   ([3, 0, 2, 1], [0]),
   ([3, 1, 0, 2], [0]),
   ([3, 1, 2, 0], [0]),
   ([3, 2, 0, 1], [0]),
   ([3, 2, 1, 0], [0])]

theorem amaxFirst_POO_agrees : agrees (amaxFirst (S := Nat)) amaxFirst_POO = true := by decide +kernel
theorem amaxFirst_POO_keys : amaxFirst_POO.map Prod.fst = keys [1, 2, 3, 4] := by decide +kernel

/-- for ALL values of any linear order (list lengths [1, 2, 3, 4]): the model rule `amaxFirst` returns what the real code
returned on the list's order type -/
theorem amaxFirst_POO_tie {S : Type} [LinearOrder S] [Inhabited S] (vs : List S) (hk : vs.length ∈ [1, 2, 3, 4]) :
    lookup amaxFirst_POO (denseRanks vs) = some (amaxFirst vs) :=
  amaxFirst_tie amaxFirst_POO [1, 2, 3, 4] amaxFirst_POO_agrees (complete_of_keys amaxFirst_POO_keys) vs hk
    ((by decide : ∀ k ∈ [1, 2, 3, 4], 1 ≤ k) _ hk)

end PyXAB.GeneratedOT.OrderTieC10
