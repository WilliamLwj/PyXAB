/-
  GENERATED by harness/translate_rules.py from /repo's classes: what the real selection code chose on every
  order type of its inputs.  Do not edit: rewritten and re-checked on every check run.
-/
import PyXABProofs.Props.OrderTie
namespace PyXAB.GeneratedOT.OrderTieC07
open PyXAB PyXAB.OT

/-- POO.get_last_point: learner whose recommendation is returned -/
def amaxFirst_POO : Table :=
  [([0], [0]),
   ([0, 0], [0]),
   ([0, 1], [1]),
   ([1, 0], [0]),
   ([0, 0, 0], [0]),
   ([0, 0, 1], [2]),
   ([0, 1, 0], [1]),
   ([0, 1, 1], [1]),
   ([0, 1, 2], [2]),
   ([0, 2, 1], [1]),
   ([1, 0, 0], [0]),
   ([1, 0, 1], [0]),
   ([1, 0, 2], [2]),
   ([1, 1, 0], [0]),
   ([1, 2, 0], [1]),
   ([2, 0, 1], [0]),
   ([2, 1, 0], [0]),
   ([0, 0, 0, 0], [0]),
   ([0, 0, 0, 1], [3]),
   ([0, 0, 1, 0], [2]),
   ([0, 0, 1, 1], [2]),
   ([0, 0, 1, 2], [3]),
   ([0, 0, 2, 1], [2]),
   ([0, 1, 0, 0], [1]),
   ([0, 1, 0, 1], [1]),
   ([0, 1, 0, 2], [3]),
   ([0, 1, 1, 0], [1]),
   ([0, 1, 1, 1], [1]),
   ([0, 1, 1, 2], [3]),
   ([0, 1, 2, 0], [2]),
   ([0, 1, 2, 1], [2]),
   ([0, 1, 2, 2], [2]),
   ([0, 1, 2, 3], [3]),
   ([0, 1, 3, 2], [2]),
   ([0, 2, 0, 1], [1]),
   ([0, 2, 1, 0], [1]),
   ([0, 2, 1, 1], [1]),
   ([0, 2, 1, 2], [1]),
   ([0, 2, 1, 3], [3]),
   ([0, 2, 2, 1], [1]),
   ([0, 2, 3, 1], [2]),
   ([0, 3, 1, 2], [1]),
   ([0, 3, 2, 1], [1]),
   ([1, 0, 0, 0], [0]),
   ([1, 0, 0, 1], [0]),
   ([1, 0, 0, 2], [3]),
   ([1, 0, 1, 0], [0]),
   ([1, 0, 1, 1], [0]),
   ([1, 0, 1, 2], [3]),
   ([1, 0, 2, 0], [2]),
   ([1, 0, 2, 1], [2]),
   ([1, 0, 2, 2], [2]),
   ([1, 0, 2, 3], [3]),
   ([1, 0, 3, 2], [2]),
   ([1, 1, 0, 0], [0]),
   ([1, 1, 0, 1], [0]),
   ([1, 1, 0, 2], [3]),
   ([1, 1, 1, 0], [0]),
   ([1, 1, 2, 0], [2]),
   ([1, 2, 0, 0], [1]),
   ([1, 2, 0, 1], [1]),
   ([1, 2, 0, 2], [1]),
   ([1, 2, 0, 3], [3]),
   ([1, 2, 1, 0], [1]),
   ([1, 2, 2, 0], [1]),
   ([1, 2, 3, 0], [2]),
   ([1, 3, 0, 2], [1]),
   ([1, 3, 2, 0], [1]),
   ([2, 0, 0, 1], [0]),
   ([2, 0, 1, 0], [0]),
   ([2, 0, 1, 1], [0]),
   ([2, 0, 1, 2], [0]),
   ([2, 0, 1, 3], [3]),
   ([2, 0, 2, 1], [0]),
   ([2, 0, 3, 1], [2]),
   ([2, 1, 0, 0], [0]),
   ([2, 1, 0, 1], [0]),
   ([2, 1, 0, 2], [0]),
   ([2, 1, 0, 3], [3]),
   ([2, 1, 1, 0], [0]),
   ([2, 1, 2, 0], [0]),
   ([2, 1, 3, 0], [2]),
   ([2, 2, 0, 1], [0]),
   ([2, 2, 1, 0], [0]),
   ([2, 3, 0, 1], [1]),
   ([2, 3, 1, 0], [1]),
   ([3, 0, 1, 2], [0]),
   ([3, 0, 2, 1], [0]),
   ([3, 1, 0, 2], [0]),
   ([3, 1, 2, 0], [0]),
   ([3, 2, 0, 1], [0]),
   ([3, 2, 1, 0], [0])]

theorem amaxFirst_POO_agrees : agrees (amaxFirst (S := Nat)) amaxFirst_POO = true := by decide +kernel
theorem amaxFirst_POO_keys : amaxFirst_POO.map Prod.fst = keys [1, 2, 3, 4] := by decide +kernel

/-- for ALL values of any linear order (list lengths [1, 2, 3, 4]): the model rule `amaxFirst` returns what the real code
returned on the list's order type -/
theorem amaxFirst_POO_tie {S : Type} [LinearOrder S] [Inhabited S] (vs : List S) (hk : vs.length ∈ [1, 2, 3, 4]) :
    lookup amaxFirst_POO (denseRanks vs) = some (amaxFirst vs) :=
  amaxFirst_tie amaxFirst_POO [1, 2, 3, 4] amaxFirst_POO_agrees (complete_of_keys amaxFirst_POO_keys) vs hk
    ((by decide : ∀ k ∈ [1, 2, 3, 4], 1 ≤ k) _ hk)

/-- GPO.get_last_point: validated point returned -/
def amaxFirst_GPO : Table :=
  [([0], [0]),
   ([0, 0], [0]),
   ([0, 1], [1]),
   ([1, 0], [0]),
   ([0, 0, 0], [0]),
   ([0, 0, 1], [2]),
   ([0, 1, 0], [1]),
   ([0, 1, 1], [1]),
   ([0, 1, 2], [2]),
   ([0, 2, 1], [1]),
   ([1, 0, 0], [0]),
   ([1, 0, 1], [0]),
   ([1, 0, 2], [2]),
   ([1, 1, 0], [0]),
   ([1, 2, 0], [1]),
   ([2, 0, 1], [0]),
   ([2, 1, 0], [0]),
   ([0, 0, 0, 0], [0]),
   ([0, 0, 0, 1], [3]),
   ([0, 0, 1, 0], [2]),
   ([0, 0, 1, 1], [2]),
   ([0, 0, 1, 2], [3]),
   ([0, 0, 2, 1], [2]),
   ([0, 1, 0, 0], [1]),
   ([0, 1, 0, 1], [1]),
   ([0, 1, 0, 2], [3]),
   ([0, 1, 1, 0], [1]),
   ([0, 1, 1, 1], [1]),
   ([0, 1, 1, 2], [3]),
   ([0, 1, 2, 0], [2]),
   ([0, 1, 2, 1], [2]),
   ([0, 1, 2, 2], [2]),
   ([0, 1, 2, 3], [3]),
   ([0, 1, 3, 2], [2]),
   ([0, 2, 0, 1], [1]),
   ([0, 2, 1, 0], [1]),
   ([0, 2, 1, 1], [1]),
   ([0, 2, 1, 2], [1]),
   ([0, 2, 1, 3], [3]),
   ([0, 2, 2, 1], [1]),
   ([0, 2, 3, 1], [2]),
   ([0, 3, 1, 2], [1]),
   ([0, 3, 2, 1], [1]),
   ([1, 0, 0, 0], [0]),
   ([1, 0, 0, 1], [0]),
   ([1, 0, 0, 2], [3]),
   ([1, 0, 1, 0], [0]),
   ([1, 0, 1, 1], [0]),
   ([1, 0, 1, 2], [3]),
   ([1, 0, 2, 0], [2]),
   ([1, 0, 2, 1], [2]),
   ([1, 0, 2, 2], [2]),
   ([1, 0, 2, 3], [3]),
   ([1, 0, 3, 2], [2]),
   ([1, 1, 0, 0], [0]),
   ([1, 1, 0, 1], [0]),
   ([1, 1, 0, 2], [3]),
   ([1, 1, 1, 0], [0]),
   ([1, 1, 2, 0], [2]),
   ([1, 2, 0, 0], [1]),
   ([1, 2, 0, 1], [1]),
   ([1, 2, 0, 2], [1]),
   ([1, 2, 0, 3], [3]),
   ([1, 2, 1, 0], [1]),
   ([1, 2, 2, 0], [1]),
   ([1, 2, 3, 0], [2]),
   ([1, 3, 0, 2], [1]),
   ([1, 3, 2, 0], [1]),
   ([2, 0, 0, 1], [0]),
   ([2, 0, 1, 0], [0]),
   ([2, 0, 1, 1], [0]),
   ([2, 0, 1, 2], [0]),
   ([2, 0, 1, 3], [3]),
   ([2, 0, 2, 1], [0]),
   ([2, 0, 3, 1], [2]),
   ([2, 1, 0, 0], [0]),
   ([2, 1, 0, 1], [0]),
   ([2, 1, 0, 2], [0]),
   ([2, 1, 0, 3], [3]),
   ([2, 1, 1, 0], [0]),
   ([2, 1, 2, 0], [0]),
   ([2, 1, 3, 0], [2]),
   ([2, 2, 0, 1], [0]),
   ([2, 2, 1, 0], [0]),
   ([2, 3, 0, 1], [1]),
   ([2, 3, 1, 0], [1]),
   ([3, 0, 1, 2], [0]),
   ([3, 0, 2, 1], [0]),
   ([3, 1, 0, 2], [0]),
   ([3, 1, 2, 0], [0]),
   ([3, 2, 0, 1], [0]),
   ([3, 2, 1, 0], [0])]

theorem amaxFirst_GPO_agrees : agrees (amaxFirst (S := Nat)) amaxFirst_GPO = true := by decide +kernel
theorem amaxFirst_GPO_keys : amaxFirst_GPO.map Prod.fst = keys [1, 2, 3, 4] :=
  (by decide +kernel : amaxFirst_GPO.map Prod.fst = amaxFirst_POO.map Prod.fst).trans amaxFirst_POO_keys

/-- for ALL values of any linear order (list lengths [1, 2, 3, 4]): the model rule `amaxFirst` returns what the real code
returned on the list's order type -/
theorem amaxFirst_GPO_tie {S : Type} [LinearOrder S] [Inhabited S] (vs : List S) (hk : vs.length ∈ [1, 2, 3, 4]) :
    lookup amaxFirst_GPO (denseRanks vs) = some (amaxFirst vs) :=
  amaxFirst_tie amaxFirst_GPO [1, 2, 3, 4] amaxFirst_GPO_agrees (complete_of_keys amaxFirst_GPO_keys) vs hk
    ((by decide : ∀ k ∈ [1, 2, 3, 4], 1 ≤ k) _ hk)

/-- SOO.get_last_point: cell recommended among root + 2..3 children -/
def lastMax_SOO_last : Table :=
  [([0, 0, 0, 0], [2]),
   ([0, 0, 0, 1], [2]),
   ([0, 0, 1, 0], [1]),
   ([0, 0, 1, 1], [2]),
   ([0, 0, 1, 2], [2]),
   ([0, 0, 2, 1], [1]),
   ([0, 1, 0, 0], [0]),
   ([0, 1, 0, 1], [2]),
   ([0, 1, 0, 2], [2]),
   ([0, 1, 1, 0], [1]),
   ([0, 1, 1, 1], [2]),
   ([0, 1, 1, 2], [2]),
   ([0, 1, 2, 0], [1]),
   ([0, 1, 2, 1], [1]),
   ([0, 1, 2, 2], [2]),
   ([0, 1, 2, 3], [2]),
   ([0, 1, 3, 2], [1]),
   ([0, 2, 0, 1], [0]),
   ([0, 2, 1, 0], [0]),
   ([0, 2, 1, 1], [0]),
   ([0, 2, 1, 2], [2]),
   ([0, 2, 1, 3], [2]),
   ([0, 2, 2, 1], [1]),
   ([0, 2, 3, 1], [1]),
   ([0, 3, 1, 2], [0]),
   ([0, 3, 2, 1], [0]),
   ([0, 0, 0, 0, 0], [3]),
   ([0, 0, 0, 0, 1], [3]),
   ([0, 0, 0, 1, 0], [2]),
   ([0, 0, 0, 1, 1], [3]),
   ([0, 0, 0, 1, 2], [3]),
   ([0, 0, 0, 2, 1], [2]),
   ([0, 0, 1, 0, 0], [1]),
   ([0, 0, 1, 0, 1], [3]),
   ([0, 0, 1, 0, 2], [3]),
   ([0, 0, 1, 1, 0], [2]),
   ([0, 0, 1, 1, 1], [3]),
   ([0, 0, 1, 1, 2], [3]),
   ([0, 0, 1, 2, 0], [2]),
   ([0, 0, 1, 2, 1], [2]),
   ([0, 0, 1, 2, 2], [3]),
   ([0, 0, 1, 2, 3], [3]),
   ([0, 0, 1, 3, 2], [2]),
   ([0, 0, 2, 0, 1], [1]),
   ([0, 0, 2, 1, 0], [1]),
   ([0, 0, 2, 1, 1], [1]),
   ([0, 0, 2, 1, 2], [3]),
   ([0, 0, 2, 1, 3], [3]),
   ([0, 0, 2, 2, 1], [2]),
   ([0, 0, 2, 3, 1], [2]),
   ([0, 0, 3, 1, 2], [1]),
   ([0, 0, 3, 2, 1], [1]),
   ([0, 1, 0, 0, 0], [0]),
   ([0, 1, 0, 0, 1], [3]),
   ([0, 1, 0, 0, 2], [3]),
   ([0, 1, 0, 1, 0], [2]),
   ([0, 1, 0, 1, 1], [3]),
   ([0, 1, 0, 1, 2], [3]),
   ([0, 1, 0, 2, 0], [2]),
   ([0, 1, 0, 2, 1], [2]),
   ([0, 1, 0, 2, 2], [3]),
   ([0, 1, 0, 2, 3], [3]),
   ([0, 1, 0, 3, 2], [2]),
   ([0, 1, 1, 0, 0], [1]),
   ([0, 1, 1, 0, 1], [3]),
   ([0, 1, 1, 0, 2], [3]),
   ([0, 1, 1, 1, 0], [2]),
   ([0, 1, 1, 1, 1], [3]),
   ([0, 1, 1, 1, 2], [3]),
   ([0, 1, 1, 2, 0], [2]),
   ([0, 1, 1, 2, 1], [2]),
   ([0, 1, 1, 2, 2], [3]),
   ([0, 1, 1, 2, 3], [3]),
   ([0, 1, 1, 3, 2], [2]),
   ([0, 1, 2, 0, 0], [1]),
   ([0, 1, 2, 0, 1], [1]),
   ([0, 1, 2, 0, 2], [3]),
   ([0, 1, 2, 0, 3], [3]),
   ([0, 1, 2, 1, 0], [1]),
   ([0, 1, 2, 1, 1], [1]),
   ([0, 1, 2, 1, 2], [3]),
   ([0, 1, 2, 1, 3], [3]),
   ([0, 1, 2, 2, 0], [2]),
   ([0, 1, 2, 2, 1], [2]),
   ([0, 1, 2, 2, 2], [3]),
   ([0, 1, 2, 2, 3], [3]),
   ([0, 1, 2, 3, 0], [2]),
   ([0, 1, 2, 3, 1], [2]),
   ([0, 1, 2, 3, 2], [2]),
   ([0, 1, 2, 3, 3], [3]),
   ([0, 1, 2, 3, 4], [3]),
   ([0, 1, 2, 4, 3], [2]),
   ([0, 1, 3, 0, 2], [1]),
   ([0, 1, 3, 1, 2], [1]),
   ([0, 1, 3, 2, 0], [1]),
   ([0, 1, 3, 2, 1], [1]),
   ([0, 1, 3, 2, 2], [1]),
   ([0, 1, 3, 2, 3], [3]),
   ([0, 1, 3, 2, 4], [3]),
   ([0, 1, 3, 3, 2], [2]),
   ([0, 1, 3, 4, 2], [2]),
   ([0, 1, 4, 2, 3], [1]),
   ([0, 1, 4, 3, 2], [1]),
   ([0, 2, 0, 0, 1], [0]),
   ([0, 2, 0, 1, 0], [0]),
   ([0, 2, 0, 1, 1], [0]),
   ([0, 2, 0, 1, 2], [3]),
   ([0, 2, 0, 1, 3], [3]),
   ([0, 2, 0, 2, 1], [2]),
   ([0, 2, 0, 3, 1], [2]),
   ([0, 2, 1, 0, 0], [0]),
   ([0, 2, 1, 0, 1], [0]),
   ([0, 2, 1, 0, 2], [3]),
   ([0, 2, 1, 0, 3], [3]),
   ([0, 2, 1, 1, 0], [0]),
   ([0, 2, 1, 1, 1], [0]),
   ([0, 2, 1, 1, 2], [3]),
   ([0, 2, 1, 1, 3], [3]),
   ([0, 2, 1, 2, 0], [2]),
   ([0, 2, 1, 2, 1], [2]),
   ([0, 2, 1, 2, 2], [3]),
   ([0, 2, 1, 2, 3], [3]),
   ([0, 2, 1, 3, 0], [2]),
   ([0, 2, 1, 3, 1], [2]),
   ([0, 2, 1, 3, 2], [2]),
   ([0, 2, 1, 3, 3], [3]),
   ([0, 2, 1, 3, 4], [3]),
   ([0, 2, 1, 4, 3], [2]),
   ([0, 2, 2, 0, 1], [1]),
   ([0, 2, 2, 1, 0], [1]),
   ([0, 2, 2, 1, 1], [1]),
   ([0, 2, 2, 1, 2], [3]),
   ([0, 2, 2, 1, 3], [3]),
   ([0, 2, 2, 2, 1], [2]),
   ([0, 2, 2, 3, 1], [2]),
   ([0, 2, 3, 0, 1], [1]),
   ([0, 2, 3, 1, 0], [1]),
   ([0, 2, 3, 1, 1], [1]),
   ([0, 2, 3, 1, 2], [1]),
   ([0, 2, 3, 1, 3], [3]),
   ([0, 2, 3, 1, 4], [3]),
   ([0, 2, 3, 2, 1], [1]),
   ([0, 2, 3, 3, 1], [2]),
   ([0, 2, 3, 4, 1], [2]),
   ([0, 2, 4, 1, 3], [1]),
   ([0, 2, 4, 3, 1], [1]),
   ([0, 3, 0, 1, 2], [0]),
   ([0, 3, 0, 2, 1], [0]),
   ([0, 3, 1, 0, 2], [0]),
   ([0, 3, 1, 1, 2], [0]),
   ([0, 3, 1, 2, 0], [0]),
   ([0, 3, 1, 2, 1], [0]),
   ([0, 3, 1, 2, 2], [0]),
   ([0, 3, 1, 2, 3], [3]),
   ([0, 3, 1, 2, 4], [3]),
   ([0, 3, 1, 3, 2], [2]),
   ([0, 3, 1, 4, 2], [2]),
   ([0, 3, 2, 0, 1], [0]),
   ([0, 3, 2, 1, 0], [0]),
   ([0, 3, 2, 1, 1], [0]),
   ([0, 3, 2, 1, 2], [0]),
   ([0, 3, 2, 1, 3], [3]),
   ([0, 3, 2, 1, 4], [3]),
   ([0, 3, 2, 2, 1], [0]),
   ([0, 3, 2, 3, 1], [2]),
   ([0, 3, 2, 4, 1], [2]),
   ([0, 3, 3, 1, 2], [1]),
   ([0, 3, 3, 2, 1], [1]),
   ([0, 3, 4, 1, 2], [1]),
   ([0, 3, 4, 2, 1], [1]),
   ([0, 4, 1, 2, 3], [0]),
   ([0, 4, 1, 3, 2], [0]),
   ([0, 4, 2, 1, 3], [0]),
   ([0, 4, 2, 3, 1], [0]),
   ([0, 4, 3, 1, 2], [0]),
   ([0, 4, 3, 2, 1], [0])]

theorem lastMax_SOO_last_agrees : agrees (amaxArm (S := Nat)) lastMax_SOO_last = true := by decide +kernel
theorem lastMax_SOO_last_keys : lastMax_SOO_last.map Prod.fst = botKeys [4, 5] := by decide +kernel

/-- for ALL values of any linear order (list lengths [4, 5]): the model rule `amaxArm` returns what the real code
returned on the list's order type -/
theorem lastMax_SOO_last_tie {S : Type} [LinearOrder S] [Inhabited S] (vs : List S) (hk : vs.length ∈ [4, 5])
    (hbot : ∀ b, vs.head? = some b → ∀ x ∈ vs, b ≤ x) :
    lookup lastMax_SOO_last (denseRanks vs) = some (amaxArm vs) :=
  amaxArm_tie lastMax_SOO_last [4, 5] lastMax_SOO_last_agrees (complete_of_botKeys lastMax_SOO_last_keys) vs hk
    ((by decide : ∀ k ∈ [4, 5], 1 ≤ k) _ hk) hbot

/-- DOO.get_last_point: cell recommended among root + 2..3 children -/
def lastMax_DOO_last : Table :=
  [([0, 0, 0, 0], [2]),
   ([0, 0, 0, 1], [2]),
   ([0, 0, 1, 0], [1]),
   ([0, 0, 1, 1], [2]),
   ([0, 0, 1, 2], [2]),
   ([0, 0, 2, 1], [1]),
   ([0, 1, 0, 0], [0]),
   ([0, 1, 0, 1], [2]),
   ([0, 1, 0, 2], [2]),
   ([0, 1, 1, 0], [1]),
   ([0, 1, 1, 1], [2]),
   ([0, 1, 1, 2], [2]),
   ([0, 1, 2, 0], [1]),
   ([0, 1, 2, 1], [1]),
   ([0, 1, 2, 2], [2]),
   ([0, 1, 2, 3], [2]),
   ([0, 1, 3, 2], [1]),
   ([0, 2, 0, 1], [0]),
   ([0, 2, 1, 0], [0]),
   ([0, 2, 1, 1], [0]),
   ([0, 2, 1, 2], [2]),
   ([0, 2, 1, 3], [2]),
   ([0, 2, 2, 1], [1]),
   ([0, 2, 3, 1], [1]),
   ([0, 3, 1, 2], [0]),
   ([0, 3, 2, 1], [0]),
   ([0, 0, 0, 0, 0], [3]),
   ([0, 0, 0, 0, 1], [3]),
   ([0, 0, 0, 1, 0], [2]),
   ([0, 0, 0, 1, 1], [3]),
   ([0, 0, 0, 1, 2], [3]),
   ([0, 0, 0, 2, 1], [2]),
   ([0, 0, 1, 0, 0], [1]),
   ([0, 0, 1, 0, 1], [3]),
   ([0, 0, 1, 0, 2], [3]),
   ([0, 0, 1, 1, 0], [2]),
   ([0, 0, 1, 1, 1], [3]),
   ([0, 0, 1, 1, 2], [3]),
   ([0, 0, 1, 2, 0], [2]),
   ([0, 0, 1, 2, 1], [2]),
   ([0, 0, 1, 2, 2], [3]),
   ([0, 0, 1, 2, 3], [3]),
   ([0, 0, 1, 3, 2], [2]),
   ([0, 0, 2, 0, 1], [1]),
   ([0, 0, 2, 1, 0], [1]),
   ([0, 0, 2, 1, 1], [1]),
   ([0, 0, 2, 1, 2], [3]),
   ([0, 0, 2, 1, 3], [3]),
   ([0, 0, 2, 2, 1], [2]),
   ([0, 0, 2, 3, 1], [2]),
   ([0, 0, 3, 1, 2], [1]),
   ([0, 0, 3, 2, 1], [1]),
   ([0, 1, 0, 0, 0], [0]),
   ([0, 1, 0, 0, 1], [3]),
   ([0, 1, 0, 0, 2], [3]),
   ([0, 1, 0, 1, 0], [2]),
   ([0, 1, 0, 1, 1], [3]),
   ([0, 1, 0, 1, 2], [3]),
   ([0, 1, 0, 2, 0], [2]),
   ([0, 1, 0, 2, 1], [2]),
   ([0, 1, 0, 2, 2], [3]),
   ([0, 1, 0, 2, 3], [3]),
   ([0, 1, 0, 3, 2], [2]),
   ([0, 1, 1, 0, 0], [1]),
   ([0, 1, 1, 0, 1], [3]),
   ([0, 1, 1, 0, 2], [3]),
   ([0, 1, 1, 1, 0], [2]),
   ([0, 1, 1, 1, 1], [3]),
   ([0, 1, 1, 1, 2], [3]),
   ([0, 1, 1, 2, 0], [2]),
   ([0, 1, 1, 2, 1], [2]),
   ([0, 1, 1, 2, 2], [3]),
   ([0, 1, 1, 2, 3], [3]),
   ([0, 1, 1, 3, 2], [2]),
   ([0, 1, 2, 0, 0], [1]),
   ([0, 1, 2, 0, 1], [1]),
   ([0, 1, 2, 0, 2], [3]),
   ([0, 1, 2, 0, 3], [3]),
   ([0, 1, 2, 1, 0], [1]),
   ([0, 1, 2, 1, 1], [1]),
   ([0, 1, 2, 1, 2], [3]),
   ([0, 1, 2, 1, 3], [3]),
   ([0, 1, 2, 2, 0], [2]),
   ([0, 1, 2, 2, 1], [2]),
   ([0, 1, 2, 2, 2], [3]),
   ([0, 1, 2, 2, 3], [3]),
   ([0, 1, 2, 3, 0], [2]),
   ([0, 1, 2, 3, 1], [2]),
   ([0, 1, 2, 3, 2], [2]),
   ([0, 1, 2, 3, 3], [3]),
   ([0, 1, 2, 3, 4], [3]),
   ([0, 1, 2, 4, 3], [2]),
   ([0, 1, 3, 0, 2], [1]),
   ([0, 1, 3, 1, 2], [1]),
   ([0, 1, 3, 2, 0], [1]),
   ([0, 1, 3, 2, 1], [1]),
   ([0, 1, 3, 2, 2], [1]),
   ([0, 1, 3, 2, 3], [3]),
   ([0, 1, 3, 2, 4], [3]),
   ([0, 1, 3, 3, 2], [2]),
   ([0, 1, 3, 4, 2], [2]),
   ([0, 1, 4, 2, 3], [1]),
   ([0, 1, 4, 3, 2], [1]),
   ([0, 2, 0, 0, 1], [0]),
   ([0, 2, 0, 1, 0], [0]),
   ([0, 2, 0, 1, 1], [0]),
   ([0, 2, 0, 1, 2], [3]),
   ([0, 2, 0, 1, 3], [3]),
   ([0, 2, 0, 2, 1], [2]),
   ([0, 2, 0, 3, 1], [2]),
   ([0, 2, 1, 0, 0], [0]),
   ([0, 2, 1, 0, 1], [0]),
   ([0, 2, 1, 0, 2], [3]),
   ([0, 2, 1, 0, 3], [3]),
   ([0, 2, 1, 1, 0], [0]),
   ([0, 2, 1, 1, 1], [0]),
   ([0, 2, 1, 1, 2], [3]),
   ([0, 2, 1, 1, 3], [3]),
   ([0, 2, 1, 2, 0], [2]),
   ([0, 2, 1, 2, 1], [2]),
   ([0, 2, 1, 2, 2], [3]),
   ([0, 2, 1, 2, 3], [3]),
   ([0, 2, 1, 3, 0], [2]),
   ([0, 2, 1, 3, 1], [2]),
   ([0, 2, 1, 3, 2], [2]),
   ([0, 2, 1, 3, 3], [3]),
   ([0, 2, 1, 3, 4], [3]),
   ([0, 2, 1, 4, 3], [2]),
   ([0, 2, 2, 0, 1], [1]),
   ([0, 2, 2, 1, 0], [1]),
   ([0, 2, 2, 1, 1], [1]),
   ([0, 2, 2, 1, 2], [3]),
   ([0, 2, 2, 1, 3], [3]),
   ([0, 2, 2, 2, 1], [2]),
   ([0, 2, 2, 3, 1], [2]),
   ([0, 2, 3, 0, 1], [1]),
   ([0, 2, 3, 1, 0], [1]),
   ([0, 2, 3, 1, 1], [1]),
   ([0, 2, 3, 1, 2], [1]),
   ([0, 2, 3, 1, 3], [3]),
   ([0, 2, 3, 1, 4], [3]),
   ([0, 2, 3, 2, 1], [1]),
   ([0, 2, 3, 3, 1], [2]),
   ([0, 2, 3, 4, 1], [2]),
   ([0, 2, 4, 1, 3], [1]),
   ([0, 2, 4, 3, 1], [1]),
   ([0, 3, 0, 1, 2], [0]),
   ([0, 3, 0, 2, 1], [0]),
   ([0, 3, 1, 0, 2], [0]),
   ([0, 3, 1, 1, 2], [0]),
   ([0, 3, 1, 2, 0], [0]),
   ([0, 3, 1, 2, 1], [0]),
   ([0, 3, 1, 2, 2], [0]),
   ([0, 3, 1, 2, 3], [3]),
   ([0, 3, 1, 2, 4], [3]),
   ([0, 3, 1, 3, 2], [2]),
   ([0, 3, 1, 4, 2], [2]),
   ([0, 3, 2, 0, 1], [0]),
   ([0, 3, 2, 1, 0], [0]),
   ([0, 3, 2, 1, 1], [0]),
   ([0, 3, 2, 1, 2], [0]),
   ([0, 3, 2, 1, 3], [3]),
   ([0, 3, 2, 1, 4], [3]),
   ([0, 3, 2, 2, 1], [0]),
   ([0, 3, 2, 3, 1], [2]),
   ([0, 3, 2, 4, 1], [2]),
   ([0, 3, 3, 1, 2], [1]),
   ([0, 3, 3, 2, 1], [1]),
   ([0, 3, 4, 1, 2], [1]),
   ([0, 3, 4, 2, 1], [1]),
   ([0, 4, 1, 2, 3], [0]),
   ([0, 4, 1, 3, 2], [0]),
   ([0, 4, 2, 1, 3], [0]),
   ([0, 4, 2, 3, 1], [0]),
   ([0, 4, 3, 1, 2], [0]),
   ([0, 4, 3, 2, 1], [0])]

theorem lastMax_DOO_last_agrees : agrees (amaxArm (S := Nat)) lastMax_DOO_last = true := by decide +kernel
theorem lastMax_DOO_last_keys : lastMax_DOO_last.map Prod.fst = botKeys [4, 5] :=
  (by decide +kernel : lastMax_DOO_last.map Prod.fst = lastMax_SOO_last.map Prod.fst).trans lastMax_SOO_last_keys

/-- for ALL values of any linear order (list lengths [4, 5]): the model rule `amaxArm` returns what the real code
returned on the list's order type -/
theorem lastMax_DOO_last_tie {S : Type} [LinearOrder S] [Inhabited S] (vs : List S) (hk : vs.length ∈ [4, 5])
    (hbot : ∀ b, vs.head? = some b → ∀ x ∈ vs, b ≤ x) :
    lookup lastMax_DOO_last (denseRanks vs) = some (amaxArm vs) :=
  amaxArm_tie lastMax_DOO_last [4, 5] lastMax_DOO_last_agrees (complete_of_botKeys lastMax_DOO_last_keys) vs hk
    ((by decide : ∀ k ∈ [4, 5], 1 ≤ k) _ hk) hbot

/-- StoSOO.get_last_point: deepest-layer cell recommended -/
def lastMax_StoSOO_last : Table :=
  [([0, 0, 0], [1]),
   ([0, 0, 1], [1]),
   ([0, 1, 0], [0]),
   ([0, 1, 1], [1]),
   ([0, 1, 2], [1]),
   ([0, 2, 1], [0]),
   ([0, 0, 0, 0], [2]),
   ([0, 0, 0, 1], [2]),
   ([0, 0, 1, 0], [1]),
   ([0, 0, 1, 1], [2]),
   ([0, 0, 1, 2], [2]),
   ([0, 0, 2, 1], [1]),
   ([0, 1, 0, 0], [0]),
   ([0, 1, 0, 1], [2]),
   ([0, 1, 0, 2], [2]),
   ([0, 1, 1, 0], [1]),
   ([0, 1, 1, 1], [2]),
   ([0, 1, 1, 2], [2]),
   ([0, 1, 2, 0], [1]),
   ([0, 1, 2, 1], [1]),
   ([0, 1, 2, 2], [2]),
   ([0, 1, 2, 3], [2]),
   ([0, 1, 3, 2], [1]),
   ([0, 2, 0, 1], [0]),
   ([0, 2, 1, 0], [0]),
   ([0, 2, 1, 1], [0]),
   ([0, 2, 1, 2], [2]),
   ([0, 2, 1, 3], [2]),
   ([0, 2, 2, 1], [1]),
   ([0, 2, 3, 1], [1]),
   ([0, 3, 1, 2], [0]),
   ([0, 3, 2, 1], [0]),
   ([0, 0, 0, 0, 0], [3]),
   ([0, 0, 0, 0, 1], [3]),
   ([0, 0, 0, 1, 0], [2]),
   ([0, 0, 0, 1, 1], [3]),
   ([0, 0, 0, 1, 2], [3]),
   ([0, 0, 0, 2, 1], [2]),
   ([0, 0, 1, 0, 0], [1]),
   ([0, 0, 1, 0, 1], [3]),
   ([0, 0, 1, 0, 2], [3]),
   ([0, 0, 1, 1, 0], [2]),
   ([0, 0, 1, 1, 1], [3]),
   ([0, 0, 1, 1, 2], [3]),
   ([0, 0, 1, 2, 0], [2]),
   ([0, 0, 1, 2, 1], [2]),
   ([0, 0, 1, 2, 2], [3]),
   ([0, 0, 1, 2, 3], [3]),
   ([0, 0, 1, 3, 2], [2]),
   ([0, 0, 2, 0, 1], [1]),
   ([0, 0, 2, 1, 0], [1]),
   ([0, 0, 2, 1, 1], [1]),
   ([0, 0, 2, 1, 2], [3]),
   ([0, 0, 2, 1, 3], [3]),
   ([0, 0, 2, 2, 1], [2]),
   ([0, 0, 2, 3, 1], [2]),
   ([0, 0, 3, 1, 2], [1]),
   ([0, 0, 3, 2, 1], [1]),
   ([0, 1, 0, 0, 0], [0]),
   ([0, 1, 0, 0, 1], [3]),
   ([0, 1, 0, 0, 2], [3]),
   ([0, 1, 0, 1, 0], [2]),
   ([0, 1, 0, 1, 1], [3]),
   ([0, 1, 0, 1, 2], [3]),
   ([0, 1, 0, 2, 0], [2]),
   ([0, 1, 0, 2, 1], [2]),
   ([0, 1, 0, 2, 2], [3]),
   ([0, 1, 0, 2, 3], [3]),
   ([0, 1, 0, 3, 2], [2]),
   ([0, 1, 1, 0, 0], [1]),
   ([0, 1, 1, 0, 1], [3]),
   ([0, 1, 1, 0, 2], [3]),
   ([0, 1, 1, 1, 0], [2]),
   ([0, 1, 1, 1, 1], [3]),
   ([0, 1, 1, 1, 2], [3]),
   ([0, 1, 1, 2, 0], [2]),
   ([0, 1, 1, 2, 1], [2]),
   ([0, 1, 1, 2, 2], [3]),
   ([0, 1, 1, 2, 3], [3]),
   ([0, 1, 1, 3, 2], [2]),
   ([0, 1, 2, 0, 0], [1]),
   ([0, 1, 2, 0, 1], [1]),
   ([0, 1, 2, 0, 2], [3]),
   ([0, 1, 2, 0, 3], [3]),
   ([0, 1, 2, 1, 0], [1]),
   ([0, 1, 2, 1, 1], [1]),
   ([0, 1, 2, 1, 2], [3]),
   ([0, 1, 2, 1, 3], [3]),
   ([0, 1, 2, 2, 0], [2]),
   ([0, 1, 2, 2, 1], [2]),
   ([0, 1, 2, 2, 2], [3]),
   ([0, 1, 2, 2, 3], [3]),
   ([0, 1, 2, 3, 0], [2]),
   ([0, 1, 2, 3, 1], [2]),
   ([0, 1, 2, 3, 2], [2]),
   ([0, 1, 2, 3, 3], [3]),
   ([0, 1, 2, 3, 4], [3]),
   ([0, 1, 2, 4, 3], [2]),
   ([0, 1, 3, 0, 2], [1]),
   ([0, 1, 3, 1, 2], [1]),
   ([0, 1, 3, 2, 0], [1]),
   ([0, 1, 3, 2, 1], [1]),
   ([0, 1, 3, 2, 2], [1]),
   ([0, 1, 3, 2, 3], [3]),
   ([0, 1, 3, 2, 4], [3]),
   ([0, 1, 3, 3, 2], [2]),
   ([0, 1, 3, 4, 2], [2]),
   ([0, 1, 4, 2, 3], [1]),
   ([0, 1, 4, 3, 2], [1]),
   ([0, 2, 0, 0, 1], [0]),
   ([0, 2, 0, 1, 0], [0]),
   ([0, 2, 0, 1, 1], [0]),
   ([0, 2, 0, 1, 2], [3]),
   ([0, 2, 0, 1, 3], [3]),
   ([0, 2, 0, 2, 1], [2]),
   ([0, 2, 0, 3, 1], [2]),
   ([0, 2, 1, 0, 0], [0]),
   ([0, 2, 1, 0, 1], [0]),
   ([0, 2, 1, 0, 2], [3]),
   ([0, 2, 1, 0, 3], [3]),
   ([0, 2, 1, 1, 0], [0]),
   ([0, 2, 1, 1, 1], [0]),
   ([0, 2, 1, 1, 2], [3]),
   ([0, 2, 1, 1, 3], [3]),
   ([0, 2, 1, 2, 0], [2]),
   ([0, 2, 1, 2, 1], [2]),
   ([0, 2, 1, 2, 2], [3]),
   ([0, 2, 1, 2, 3], [3]),
   ([0, 2, 1, 3, 0], [2]),
   ([0, 2, 1, 3, 1], [2]),
   ([0, 2, 1, 3, 2], [2]),
   ([0, 2, 1, 3, 3], [3]),
   ([0, 2, 1, 3, 4], [3]),
   ([0, 2, 1, 4, 3], [2]),
   ([0, 2, 2, 0, 1], [1]),
   ([0, 2, 2, 1, 0], [1]),
   ([0, 2, 2, 1, 1], [1]),
   ([0, 2, 2, 1, 2], [3]),
   ([0, 2, 2, 1, 3], [3]),
   ([0, 2, 2, 2, 1], [2]),
   ([0, 2, 2, 3, 1], [2]),
   ([0, 2, 3, 0, 1], [1]),
   ([0, 2, 3, 1, 0], [1]),
   ([0, 2, 3, 1, 1], [1]),
   ([0, 2, 3, 1, 2], [1]),
   ([0, 2, 3, 1, 3], [3]),
   ([0, 2, 3, 1, 4], [3]),
   ([0, 2, 3, 2, 1], [1]),
   ([0, 2, 3, 3, 1], [2]),
   ([0, 2, 3, 4, 1], [2]),
   ([0, 2, 4, 1, 3], [1]),
   ([0, 2, 4, 3, 1], [1]),
   ([0, 3, 0, 1, 2], [0]),
   ([0, 3, 0, 2, 1], [0]),
   ([0, 3, 1, 0, 2], [0]),
   ([0, 3, 1, 1, 2], [0]),
   ([0, 3, 1, 2, 0], [0]),
   ([0, 3, 1, 2, 1], [0]),
   ([0, 3, 1, 2, 2], [0]),
   ([0, 3, 1, 2, 3], [3]),
   ([0, 3, 1, 2, 4], [3]),
   ([0, 3, 1, 3, 2], [2]),
   ([0, 3, 1, 4, 2], [2]),
   ([0, 3, 2, 0, 1], [0]),
   ([0, 3, 2, 1, 0], [0]),
   ([0, 3, 2, 1, 1], [0]),
   ([0, 3, 2, 1, 2], [0]),
   ([0, 3, 2, 1, 3], [3]),
   ([0, 3, 2, 1, 4], [3]),
   ([0, 3, 2, 2, 1], [0]),
   ([0, 3, 2, 3, 1], [2]),
   ([0, 3, 2, 4, 1], [2]),
   ([0, 3, 3, 1, 2], [1]),
   ([0, 3, 3, 2, 1], [1]),
   ([0, 3, 4, 1, 2], [1]),
   ([0, 3, 4, 2, 1], [1]),
   ([0, 4, 1, 2, 3], [0]),
   ([0, 4, 1, 3, 2], [0]),
   ([0, 4, 2, 1, 3], [0]),
   ([0, 4, 2, 3, 1], [0]),
   ([0, 4, 3, 1, 2], [0]),
   ([0, 4, 3, 2, 1], [0])]

theorem lastMax_StoSOO_last_agrees : agrees (amaxArm (S := Nat)) lastMax_StoSOO_last = true := by decide +kernel
theorem lastMax_StoSOO_last_keys : lastMax_StoSOO_last.map Prod.fst = botKeys [3, 4, 5] := by decide +kernel

/-- for ALL values of any linear order (list lengths [3, 4, 5]): the model rule `amaxArm` returns what the real code
returned on the list's order type -/
theorem lastMax_StoSOO_last_tie {S : Type} [LinearOrder S] [Inhabited S] (vs : List S) (hk : vs.length ∈ [3, 4, 5])
    (hbot : ∀ b, vs.head? = some b → ∀ x ∈ vs, b ≤ x) :
    lookup lastMax_StoSOO_last (denseRanks vs) = some (amaxArm vs) :=
  amaxArm_tie lastMax_StoSOO_last [3, 4, 5] lastMax_StoSOO_last_agrees (complete_of_botKeys lastMax_StoSOO_last_keys) vs hk
    ((by decide : ∀ k ∈ [3, 4, 5], 1 ≤ k) _ hk) hbot

/-- SequOOL.get_last_point: evaluated cell recommended -/
def lastMax_SequOOL_last : Table :=
  [([0, 0, 0], [1]),
   ([0, 0, 1], [1]),
   ([0, 1, 0], [0]),
   ([0, 1, 1], [1]),
   ([0, 1, 2], [1]),
   ([0, 2, 1], [0]),
   ([0, 0, 0, 0], [2]),
   ([0, 0, 0, 1], [2]),
   ([0, 0, 1, 0], [1]),
   ([0, 0, 1, 1], [2]),
   ([0, 0, 1, 2], [2]),
   ([0, 0, 2, 1], [1]),
   ([0, 1, 0, 0], [0]),
   ([0, 1, 0, 1], [2]),
   ([0, 1, 0, 2], [2]),
   ([0, 1, 1, 0], [1]),
   ([0, 1, 1, 1], [2]),
   ([0, 1, 1, 2], [2]),
   ([0, 1, 2, 0], [1]),
   ([0, 1, 2, 1], [1]),
   ([0, 1, 2, 2], [2]),
   ([0, 1, 2, 3], [2]),
   ([0, 1, 3, 2], [1]),
   ([0, 2, 0, 1], [0]),
   ([0, 2, 1, 0], [0]),
   ([0, 2, 1, 1], [0]),
   ([0, 2, 1, 2], [2]),
   ([0, 2, 1, 3], [2]),
   ([0, 2, 2, 1], [1]),
   ([0, 2, 3, 1], [1]),
   ([0, 3, 1, 2], [0]),
   ([0, 3, 2, 1], [0]),
   ([0, 0, 0, 0, 0], [3]),
   ([0, 0, 0, 0, 1], [3]),
   ([0, 0, 0, 1, 0], [2]),
   ([0, 0, 0, 1, 1], [3]),
   ([0, 0, 0, 1, 2], [3]),
   ([0, 0, 0, 2, 1], [2]),
   ([0, 0, 1, 0, 0], [1]),
   ([0, 0, 1, 0, 1], [3]),
   ([0, 0, 1, 0, 2], [3]),
   ([0, 0, 1, 1, 0], [2]),
   ([0, 0, 1, 1, 1], [3]),
   ([0, 0, 1, 1, 2], [3]),
   ([0, 0, 1, 2, 0], [2]),
   ([0, 0, 1, 2, 1], [2]),
   ([0, 0, 1, 2, 2], [3]),
   ([0, 0, 1, 2, 3], [3]),
   ([0, 0, 1, 3, 2], [2]),
   ([0, 0, 2, 0, 1], [1]),
   ([0, 0, 2, 1, 0], [1]),
   ([0, 0, 2, 1, 1], [1]),
   ([0, 0, 2, 1, 2], [3]),
   ([0, 0, 2, 1, 3], [3]),
   ([0, 0, 2, 2, 1], [2]),
   ([0, 0, 2, 3, 1], [2]),
   ([0, 0, 3, 1, 2], [1]),
   ([0, 0, 3, 2, 1], [1]),
   ([0, 1, 0, 0, 0], [0]),
   ([0, 1, 0, 0, 1], [3]),
   ([0, 1, 0, 0, 2], [3]),
   ([0, 1, 0, 1, 0], [2]),
   ([0, 1, 0, 1, 1], [3]),
   ([0, 1, 0, 1, 2], [3]),
   ([0, 1, 0, 2, 0], [2]),
   ([0, 1, 0, 2, 1], [2]),
   ([0, 1, 0, 2, 2], [3]),
   ([0, 1, 0, 2, 3], [3]),
   ([0, 1, 0, 3, 2], [2]),
   ([0, 1, 1, 0, 0], [1]),
   ([0, 1, 1, 0, 1], [3]),
   ([0, 1, 1, 0, 2], [3]),
   ([0, 1, 1, 1, 0], [2]),
   ([0, 1, 1, 1, 1], [3]),
   ([0, 1, 1, 1, 2], [3]),
   ([0, 1, 1, 2, 0], [2]),
   ([0, 1, 1, 2, 1], [2]),
   ([0, 1, 1, 2, 2], [3]),
   ([0, 1, 1, 2, 3], [3]),
   ([0, 1, 1, 3, 2], [2]),
   ([0, 1, 2, 0, 0], [1]),
   ([0, 1, 2, 0, 1], [1]),
   ([0, 1, 2, 0, 2], [3]),
   ([0, 1, 2, 0, 3], [3]),
   ([0, 1, 2, 1, 0], [1]),
   ([0, 1, 2, 1, 1], [1]),
   ([0, 1, 2, 1, 2], [3]),
   ([0, 1, 2, 1, 3], [3]),
   ([0, 1, 2, 2, 0], [2]),
   ([0, 1, 2, 2, 1], [2]),
   ([0, 1, 2, 2, 2], [3]),
   ([0, 1, 2, 2, 3], [3]),
   ([0, 1, 2, 3, 0], [2]),
   ([0, 1, 2, 3, 1], [2]),
   ([0, 1, 2, 3, 2], [2]),
   ([0, 1, 2, 3, 3], [3]),
   ([0, 1, 2, 3, 4], [3]),
   ([0, 1, 2, 4, 3], [2]),
   ([0, 1, 3, 0, 2], [1]),
   ([0, 1, 3, 1, 2], [1]),
   ([0, 1, 3, 2, 0], [1]),
   ([0, 1, 3, 2, 1], [1]),
   ([0, 1, 3, 2, 2], [1]),
   ([0, 1, 3, 2, 3], [3]),
   ([0, 1, 3, 2, 4], [3]),
   ([0, 1, 3, 3, 2], [2]),
   ([0, 1, 3, 4, 2], [2]),
   ([0, 1, 4, 2, 3], [1]),
   ([0, 1, 4, 3, 2], [1]),
   ([0, 2, 0, 0, 1], [0]),
   ([0, 2, 0, 1, 0], [0]),
   ([0, 2, 0, 1, 1], [0]),
   ([0, 2, 0, 1, 2], [3]),
   ([0, 2, 0, 1, 3], [3]),
   ([0, 2, 0, 2, 1], [2]),
   ([0, 2, 0, 3, 1], [2]),
   ([0, 2, 1, 0, 0], [0]),
   ([0, 2, 1, 0, 1], [0]),
   ([0, 2, 1, 0, 2], [3]),
   ([0, 2, 1, 0, 3], [3]),
   ([0, 2, 1, 1, 0], [0]),
   ([0, 2, 1, 1, 1], [0]),
   ([0, 2, 1, 1, 2], [3]),
   ([0, 2, 1, 1, 3], [3]),
   ([0, 2, 1, 2, 0], [2]),
   ([0, 2, 1, 2, 1], [2]),
   ([0, 2, 1, 2, 2], [3]),
   ([0, 2, 1, 2, 3], [3]),
   ([0, 2, 1, 3, 0], [2]),
   ([0, 2, 1, 3, 1], [2]),
   ([0, 2, 1, 3, 2], [2]),
   ([0, 2, 1, 3, 3], [3]),
   ([0, 2, 1, 3, 4], [3]),
   ([0, 2, 1, 4, 3], [2]),
   ([0, 2, 2, 0, 1], [1]),
   ([0, 2, 2, 1, 0], [1]),
   ([0, 2, 2, 1, 1], [1]),
   ([0, 2, 2, 1, 2], [3]),
   ([0, 2, 2, 1, 3], [3]),
   ([0, 2, 2, 2, 1], [2]),
   ([0, 2, 2, 3, 1], [2]),
   ([0, 2, 3, 0, 1], [1]),
   ([0, 2, 3, 1, 0], [1]),
   ([0, 2, 3, 1, 1], [1]),
   ([0, 2, 3, 1, 2], [1]),
   ([0, 2, 3, 1, 3], [3]),
   ([0, 2, 3, 1, 4], [3]),
   ([0, 2, 3, 2, 1], [1]),
   ([0, 2, 3, 3, 1], [2]),
   ([0, 2, 3, 4, 1], [2]),
   ([0, 2, 4, 1, 3], [1]),
   ([0, 2, 4, 3, 1], [1]),
   ([0, 3, 0, 1, 2], [0]),
   ([0, 3, 0, 2, 1], [0]),
   ([0, 3, 1, 0, 2], [0]),
   ([0, 3, 1, 1, 2], [0]),
   ([0, 3, 1, 2, 0], [0]),
   ([0, 3, 1, 2, 1], [0]),
   ([0, 3, 1, 2, 2], [0]),
   ([0, 3, 1, 2, 3], [3]),
   ([0, 3, 1, 2, 4], [3]),
   ([0, 3, 1, 3, 2], [2]),
   ([0, 3, 1, 4, 2], [2]),
   ([0, 3, 2, 0, 1], [0]),
   ([0, 3, 2, 1, 0], [0]),
   ([0, 3, 2, 1, 1], [0]),
   ([0, 3, 2, 1, 2], [0]),
   ([0, 3, 2, 1, 3], [3]),
   ([0, 3, 2, 1, 4], [3]),
   ([0, 3, 2, 2, 1], [0]),
   ([0, 3, 2, 3, 1], [2]),
   ([0, 3, 2, 4, 1], [2]),
   ([0, 3, 3, 1, 2], [1]),
   ([0, 3, 3, 2, 1], [1]),
   ([0, 3, 4, 1, 2], [1]),
   ([0, 3, 4, 2, 1], [1]),
   ([0, 4, 1, 2, 3], [0]),
   ([0, 4, 1, 3, 2], [0]),
   ([0, 4, 2, 1, 3], [0]),
   ([0, 4, 2, 3, 1], [0]),
   ([0, 4, 3, 1, 2], [0]),
   ([0, 4, 3, 2, 1], [0])]

theorem lastMax_SequOOL_last_agrees : agrees (amaxArm (S := Nat)) lastMax_SequOOL_last = true := by decide +kernel
theorem lastMax_SequOOL_last_keys : lastMax_SequOOL_last.map Prod.fst = botKeys [3, 4, 5] :=
  (by decide +kernel : lastMax_SequOOL_last.map Prod.fst = lastMax_StoSOO_last.map Prod.fst).trans lastMax_StoSOO_last_keys

/-- for ALL values of any linear order (list lengths [3, 4, 5]): the model rule `amaxArm` returns what the real code
returned on the list's order type -/
theorem lastMax_SequOOL_last_tie {S : Type} [LinearOrder S] [Inhabited S] (vs : List S) (hk : vs.length ∈ [3, 4, 5])
    (hbot : ∀ b, vs.head? = some b → ∀ x ∈ vs, b ≤ x) :
    lookup lastMax_SequOOL_last (denseRanks vs) = some (amaxArm vs) :=
  amaxArm_tie lastMax_SequOOL_last [3, 4, 5] lastMax_SequOOL_last_agrees (complete_of_botKeys lastMax_SequOOL_last_keys) vs hk
    ((by decide : ∀ k ∈ [3, 4, 5], 1 ≤ k) _ hk) hbot

end PyXAB.GeneratedOT.OrderTieC07
